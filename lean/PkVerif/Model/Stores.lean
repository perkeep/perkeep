import PkVerif.Spec.Faults
import PkVerif.Model.MergedEnum
/-!
# Models of the storage combinators (C01)

Each combinator is a function from the `Impl`s of its sub-stores to an `Impl`, mirroring the Go
method bodies (file:line in the docstrings).  A sub-store answer other than the expected success is
treated as that call's error and passed on the way the Go code does.
-/
namespace Pk.Stores
open Pk Pk.SMap Pk.RefMap

/-- `Find(after, "")` of a sorted KV followed by "skip the first row if its key equals `after`"
(namespace/ns.go:76-84, diskpacked.go:459): the inclusive range scan with the exclusive cursor rule -/
def findSkip {V : Type} (m : SMap V) (after : Bytes) : SMap V :=
  let l := m.filter (fun p => !ltB p.1 after)      -- keys ≥ after
  match l with
  | [] => []
  | p :: rest => if after ≠ [] ∧ p.1 = after then rest else p :: rest

/-! ## namespace (pkg/blobserver/namespace/ns.go) -/

/-- inventory KV (ref text ↦ size) over a shared master store -/
def nsImpl (master : Impl) : Impl where
  σ := SMap Nat × master.σ
  init := ([], master.init)
  step := fun (inv, ms) op =>
    match op with
    | .recv k v =>                                   -- ns.go:119
      if has inv k then ((inv, ms), .sized v.length)
      else
        match master.step ms (.recv k v) with
        | (ms', .sized n) => ((ins k v.length inv, ms'), .sized n)
        | (ms', _) => ((inv, ms'), .err)
    | .fetch k =>                                    -- ns.go:94
      match get inv k with
      | none => ((inv, ms), .notExist)
      | some sz =>
        match master.step ms (.fetch k) with
        | (ms', .bytes b) => if b.length ≠ sz then ((inv, ms'), .notExist) else ((inv, ms'), .bytes b)
        | (ms', o) => ((inv, ms'), o)
    | .stat k =>                                     -- ns.go:150
      match get inv k with
      | none => ((inv, ms), .notExist)
      | some sz => ((inv, ms), .sized sz)
    | .rm k => ((del k inv, ms), .ok)                -- ns.go:141: inventory row only
    | .enum after limit =>                           -- ns.go:71
      ((inv, ms), .refs ((findSkip inv after).take limit))

/-! ## memory in cache mode (pkg/blobserver/memory/mem.go NewCache): evicts in LRU order by bytes -/

structure MemCache where
  m : SMap Bytes
  lru : List Bytes        -- most recently used first; may hold keys already removed from `m`
  size : Nat

/-- the eviction loop of ReceiveBlob (mem.go:156-162); fuel = number of lru entries -/
def MemCache.evict (max : Nat) : Nat → MemCache → MemCache
  | 0, c => c
  | fuel + 1, c =>
    if max ≠ 0 ∧ c.size > max then
      match c.lru.getLast? with
      | none => c
      | some key =>
        let lru' := c.lru.dropLast
        match get c.m key with
        | none => MemCache.evict max fuel { c with lru := lru' }
        | some v => MemCache.evict max fuel { m := del key c.m, lru := lru', size := c.size - v.length }
    else c

def memCacheImpl (max : Nat) : Impl where
  σ := MemCache
  init := ⟨[], [], 0⟩
  step := fun c op =>
    match op with
    | .recv k v =>
      if has c.m k then (c, .sized v.length)
      else
        let c1 : MemCache := { m := ins k v c.m, lru := k :: c.lru.filter (· ≠ k), size := c.size + v.length }
        (MemCache.evict max (c1.lru.length + 1) c1, .sized v.length)
    | .fetch k =>
      let c' := if k ∈ c.lru then { c with lru := k :: c.lru.filter (· ≠ k) } else c
      (c', out c.m (.fetch k))
    | .rm k =>
      (match get c.m k with
       | none => c
       | some v => { c with m := del k c.m, size := c.size - v.length }, .ok)
    | op => (c, out c.m op)

/-! ## proxycache (pkg/blobserver/proxycache/proxycache.go) -/

structure ProxyBook where
  lru : List (Bytes × Nat)    -- most recently used first
  cacheBytes : Nat

/-- touch + removeOldest (proxycache.go:112-152).  Returns the new cache state and bookkeeping. -/
def proxyClean (cache : Impl) (max : Nat) : Nat → cache.σ → ProxyBook → cache.σ × ProxyBook
  | 0, cs, b => (cs, b)
  | fuel + 1, cs, b =>
    if b.cacheBytes > max then
      match b.lru.getLast? with
      | none => (cs, b)
      | some (k, sz) =>
        match cache.step cs (.rm k) with
        | (cs', .ok) => proxyClean cache max fuel cs' { lru := b.lru.dropLast, cacheBytes := b.cacheBytes - sz }
        | (cs', _) => (cs', { b with lru := (k, sz) :: b.lru.dropLast })    -- re-added, stop
    else (cs, b)

def proxyTouch (cache : Impl) (max : Nat) (cs : cache.σ) (b : ProxyBook) (k : Bytes) (sz : Nat) :
    cache.σ × ProxyBook :=
  if b.lru.any (·.1 = k) then
    -- lru.Get moves the entry to the front
    (cs, { b with lru := (b.lru.filter (·.1 = k)) ++ b.lru.filter (·.1 ≠ k) })
  else
    let b1 : ProxyBook := { lru := (k, sz) :: b.lru, cacheBytes := b.cacheBytes + sz }
    proxyClean cache max (b1.lru.length + 1) cs b1

def proxyImpl (origin cache : Impl) (max : Nat) : Impl where
  σ := origin.σ × cache.σ × ProxyBook
  init := (origin.init, cache.init, ⟨[], 0⟩)
  step := fun (os, cs, b) op =>
    match op with
    | .fetch k =>                                     -- proxycache.go:154
      match cache.step cs (.fetch k) with
      | (cs1, .bytes v) =>
        let (cs2, b2) := proxyTouch cache max cs1 b k v.length
        ((os, cs2, b2), .bytes v)
      | (cs1, _) =>
        match origin.step os (.fetch k) with
        | (os1, .bytes v) =>
          match cache.step cs1 (.recv k v) with
          | (cs2, .sized _) =>
            let (cs3, b3) := proxyTouch cache max cs2 b k v.length
            ((os1, cs3, b3), .bytes v)
          | (cs2, _) => ((os1, cs2, b), .bytes v)
        | (os1, o) => ((os1, cs1, b), o)
    | .stat k =>                                      -- proxycache.go:195
      match cache.step cs (.stat k) with
      | (cs1, .sized n) =>
        let (cs2, b2) := proxyTouch cache max cs1 b k n
        ((os, cs2, b2), .sized n)
      | (cs1, .notExist) =>
        match origin.step os (.stat k) with
        | (os1, .sized n) =>
          let (cs2, b2) := proxyTouch cache max cs1 b k n
          ((os1, cs2, b2), .sized n)
        | (os1, o) => ((os1, cs1, b), o)
      | (cs1, _) => ((os, cs1, b), .err)
    | .recv k v =>                                    -- proxycache.go:223
      match origin.step os (.recv k v) with
      | (os1, .sized n) =>
        match cache.step cs (.recv k v) with
        | (cs1, .sized _) =>
          let (cs2, b2) := proxyTouch cache max cs1 b k n
          ((os1, cs2, b2), .sized n)
        | (cs1, _) => ((os1, cs1, b), .sized n)
      | (os1, _) => ((os1, cs, b), .err)
    | .rm k =>                                        -- proxycache.go RemoveBlobs: cache first, then origin
      match cache.step cs (.rm k) with
      | (cs1, .ok) =>
        match origin.step os (.rm k) with
        | (os1, .ok) => ((os1, cs1, b), .ok)
        | (os1, _) => ((os1, cs1, b), .err)
      | (cs1, _) => ((os, cs1, b), .err)
    | .enum after limit =>                            -- proxycache.go:255
      match origin.step os (.enum after limit) with
      | (os1, o) => ((os1, cs, b), o)

/-! ## overlay (pkg/blobserver/overlay/overlay.go) -/

/-- the refill loop of EnumerateBlobs (overlay.go:211-256): repeatedly merge-enumerate lower and
upper after the cursor with the remaining limit, forward what is not tombstoned, and resume after
the last ref seen.  `fuel` bounds the number of rounds: a round either sends something, or skips at
least one tombstoned entry, or is the last one, so `del.length + 2` rounds always suffice (the Go
loop has no bound; it terminates because the cursor advances).  The answer is `none` when a
sub-store's enumeration fails (overlay.go:241 returns that error) or the fuel runs out. -/
def overlayEnum (lower upper : Impl) (del : SMap Unit) :
    Nat → lower.σ → upper.σ → Bytes → Nat → List (Bytes × Nat) → lower.σ × upper.σ × Option (List (Bytes × Nat))
  | 0, ls, us, _, _, _ => (ls, us, none)
  | fuel + 1, ls, us, after, remaining, acc =>
    if remaining = 0 then (ls, us, some acc) else
    match lower.step ls (.enum after remaining), upper.step us (.enum after remaining) with
    | (ls1, .refs a), (us1, .refs b) =>
      let merged := MergedEnum.mergedEnumerate remaining [a, b]
      match merged.getLast? with
      | none => (ls1, us1, some acc)
      | some last =>
        let live := merged.filter (fun p => !has del p.1)
        overlayEnum lower upper del fuel ls1 us1 last.1 (remaining - live.length) (acc ++ live)
    | (ls1, _), (us1, _) => (ls1, us1, none)

def overlayImpl (lower upper : Impl) : Impl where
  σ := lower.σ × upper.σ × SMap Unit
  init := (lower.init, upper.init, [])
  step := fun (ls, us, del) op =>
    match op with
    | .recv k v =>                                    -- overlay.go:122
      match upper.step us (.recv k v) with
      | (us1, .sized n) => ((ls, us1, SMap.del k del), .sized n)
      | (us1, _) => ((ls, us1, del), .err)
    | .rm k =>                                        -- overlay.go:131
      match upper.step us (.rm k) with
      | (us1, .ok) => ((ls, us1, ins k () del), .ok)
      | (us1, _) => ((ls, us1, del), .err)
    | .fetch k =>                                     -- overlay.go:167
      if has del k then ((ls, us, del), .notExist)
      else
        match upper.step us (.fetch k) with
        | (us1, .notExist) =>
          match lower.step ls (.fetch k) with
          | (ls1, o) => ((ls1, us1, del), o)
        | (us1, o) => ((ls, us1, del), o)
    | .stat k =>                                      -- overlay.go:181
      if has del k then ((ls, us, del), .notExist)
      else
        match upper.step us (.stat k) with
        | (us1, .notExist) =>
          match lower.step ls (.stat k) with
          | (ls1, o) => ((ls1, us1, del), o)
        | (us1, o) => ((ls, us1, del), o)
    | .enum after limit =>
      match overlayEnum lower upper del (del.length + 2) ls us after limit [] with
      | (ls1, us1, some l) => ((ls1, us1, del), .refs l)
      | (ls1, us1, none) => ((ls1, us1, del), .err)

/-! ## two-way shard, replica, cond (the n-way shard and replica: next section) -/

/-- merged enumeration of two sub-stores (MergedEnumerateStorage, mergedenum.go:38) -/
def enum2 (a b : Impl) (sa : a.σ) (sb : b.σ) (after : Bytes) (limit : Nat) : a.σ × b.σ × Out :=
  match a.step sa (.enum after limit), b.step sb (.enum after limit) with
  | (sa1, .refs x), (sb1, .refs y) => (sa1, sb1, .refs (MergedEnum.mergedEnumerate limit [x, y]))
  | (sa1, _), (sb1, _) => (sa1, sb1, .err)

/-- shard (pkg/blobserver/shard/shard.go) with two shards; `route k = true` sends `k` to `b`.
The real routing is `Sum32(ref) % 2`; theorems hold for any routing function. -/
def shard2Impl (route : Bytes → Bool) (a b : Impl) : Impl where
  σ := a.σ × b.σ
  init := (a.init, b.init)
  step := fun (sa, sb) op =>
    match op with
    | .enum after limit =>
      match enum2 a b sa sb after limit with
      | (sa1, sb1, o) => ((sa1, sb1), o)
    | .recv k _ | .fetch k | .stat k | .rm k =>
      if route k then
        match b.step sb op with
        | (sb1, o) => ((sa, sb1), o)
      else
        match a.step sa op with
        | (sa1, o) => ((sa1, sb), o)

/-- replica (pkg/blobserver/replica/replica.go) over two stores that are both read and written,
every receive needs both writes to succeed (minWritesForSuccess = 2). -/
def replica2Impl (a b : Impl) : Impl where
  σ := a.σ × b.σ
  init := (a.init, b.init)
  step := fun (sa, sb) op =>
    match op with
    | .recv k v =>                                    -- replica.go:192: all replicas, sizes must agree
      match a.step sa (.recv k v), b.step sb (.recv k v) with
      | (sa1, .sized n), (sb1, .sized n') => ((sa1, sb1), if n = n' then .sized n else .err)
      | (sa1, _), (sb1, _) => ((sa1, sb1), .err)
    | .fetch k =>                                     -- replica.go Fetch: first read replica that has it;
      match a.step sa (.fetch k) with                 -- a replica's failure outranks a later "not exist"
      | (sa1, .bytes v) => ((sa1, sb), .bytes v)
      | (sa1, .notExist) =>
        match b.step sb (.fetch k) with
        | (sb1, o) => ((sa1, sb1), o)
      | (sa1, _) =>
        match b.step sb (.fetch k) with
        | (sb1, .bytes v) => ((sa1, sb1), .bytes v)
        | (sb1, _) => ((sa1, sb1), .err)
    | .stat k =>                                      -- replica.go:149: first reporter wins
      match a.step sa (.stat k), b.step sb (.stat k) with
      | (sa1, .sized n), (sb1, .sized _) => ((sa1, sb1), .sized n)
      | (sa1, .sized n), (sb1, .notExist) => ((sa1, sb1), .sized n)
      | (sa1, .notExist), (sb1, .sized n) => ((sa1, sb1), .sized n)
      | (sa1, .notExist), (sb1, .notExist) => ((sa1, sb1), .notExist)
      | (sa1, _), (sb1, _) => ((sa1, sb1), .err)              -- errgroup: any replica error fails the call
    | .rm k =>                                        -- replica.go:245: all replicas; "best effort":
      match a.step sa (.rm k), b.step sb (.rm k) with  -- nil as soon as ANY replica reported success
      | (sa1, .ok), (sb1, _) => ((sa1, sb1), .ok)
      | (sa1, _), (sb1, .ok) => ((sa1, sb1), .ok)
      | (sa1, _), (sb1, _) => ((sa1, sb1), .err)
    | .enum after limit =>
      match enum2 a b sa sb after limit with
      | (sa1, sb1, o) => ((sa1, sb1), o)

/-- cond (pkg/blobserver/cond/cond.go) with `write = {if isSchema then t else e}` and
`read = remove = replica[t, e]` (the supported composition: the read and remove targets cover the
write targets).  `isSchema` is the blob sniffing predicate, a parameter. -/
def cond2Impl (isSchema : Bytes → Bool) (t e : Impl) : Impl where
  σ := t.σ × e.σ
  init := (t.init, e.init)
  step := fun (st, se) op =>
    match op with
    | .recv _ v =>                                    -- cond.go:162
      if isSchema v then
        match t.step st op with
        | (st1, o) => ((st1, se), o)
      else
        match e.step se op with
        | (se1, o) => ((st, se1), o)
    | op => (replica2Impl t e).step (st, se) op

/-! ## n-way shard and replica, directly over the list of sub-stores

shard.go and replica.go keep their sub-stores in a slice and loop over it; these are those loops.
`Lemmas/RefNary.lean` proves that they refine the reference map whenever every sub-store does, and
`Lemmas/MergedNest.lean` that their ONE n-way merged enumeration is the nested two-way one – which is
why a configuration tree only needs two-way nodes (`Cfg.shardNest`, `Cfg.replicaNest`). -/

/-- the states of a list of sub-stores -/
def KidsSt : List Impl → Type
  | [] => Unit
  | k :: r => k.σ × KidsSt r

def kidsInit : (kids : List Impl) → KidsSt kids
  | [] => ()
  | k :: r => (k.init, kidsInit r)

/-- one call on sub-store number `i` (`sto.shards[i]`, shard.go:70); no such sub-store: an error -/
def stepAt : (kids : List Impl) → KidsSt kids → Nat → Op → KidsSt kids × Out
  | [], s, _, _ => (s, .err)
  | k :: _, (sk, sr), 0, op =>
    match k.step sk op with
    | (sk1, o) => ((sk1, sr), o)
  | _ :: r, (sk, sr), i + 1, op =>
    match stepAt r sr i op with
    | (sr1, o) => ((sk, sr1), o)

/-- the same call on every sub-store (replica.go ReceiveBlob / StatBlobs / RemoveBlobs start one
goroutine per replica and collect every answer): the answers, in sub-store order -/
def stepAll : (kids : List Impl) → KidsSt kids → Op → KidsSt kids × List Out
  | [], s, _ => (s, [])
  | k :: r, (sk, sr), op =>
    match k.step sk op, stepAll r sr op with
    | (sk1, o), (sr1, os) => ((sk1, sr1), o :: os)

/-- what the sources of `MergedEnumerateStorage(ctx, dest, stores, after, limit)` send
(mergedenum.go:73: every source is started with the same cursor and limit); `none` when a source
fails ("If any part returns an error, we return an error") -/
def enumAll : (kids : List Impl) → KidsSt kids → Bytes → Nat → KidsSt kids × Option (List (List (Bytes × Nat)))
  | [], s, _, _ => (s, some [])
  | k :: r, (sk, sr), after, limit =>
    match k.step sk (.enum after limit), enumAll r sr after limit with
    | (sk1, .refs x), (sr1, some l) => ((sk1, sr1), some (x :: l))
    | (sk1, _), (sr1, _) => ((sk1, sr1), none)

/-- EnumerateBlobs of shard (shard.go:152) and replica (replica.go:276): ONE n-way merge -/
def enumN (kids : List Impl) (s : KidsSt kids) (after : Bytes) (limit : Nat) : KidsSt kids × Out :=
  match enumAll kids s after limit with
  | (s1, some srcs) => (s1, .refs (MergedEnum.mergedEnumerate limit srcs))
  | (s1, none) => (s1, .err)

/-- shard over any number of sub-stores: `route k % len(shards)` picks the sub-store (shard.go:74,
`route` = `Sum32` of the ref) -/
def shardNImpl (route : Bytes → Nat) (kids : List Impl) : Impl where
  σ := KidsSt kids
  init := kidsInit kids
  step := fun s op =>
    match op with
    | .enum after limit => enumN kids s after limit
    | .recv k _ | .fetch k | .stat k | .rm k => stepAt kids s (route k % kids.length) op

/-- the loop of replica.go Fetch (:146-165): the first replica that has the blob answers; `failed` =
`failErr != nil`, a failure seen so far outranks "not exist" -/
def fetchFirst : (kids : List Impl) → KidsSt kids → Bytes → Bool → KidsSt kids × Out
  | [], s, _, failed => (s, if failed then .err else .notExist)
  | k :: r, (sk, sr), key, failed =>
    match k.step sk (.fetch key) with
    | (sk1, .bytes v) => ((sk1, sr), .bytes v)
    | (sk1, .notExist) =>
      match fetchFirst r sr key failed with
      | (sr1, o) => ((sk1, sr1), o)
    | (sk1, _) =>
      match fetchFirst r sr key true with
      | (sr1, o) => ((sk1, sr1), o)

/-- StatBlobs of replica (replica.go:168-203): any replica's error fails the call (errgroup),
otherwise the first replica reporting the blob wins -/
def statAnsN : List Out → Out
  | [] => .notExist
  | .sized n :: os => match statAnsN os with | .err => .err | _ => .sized n
  | .notExist :: os => statAnsN os
  | _ :: _ => .err

/-- replica over any number of sub-stores, all read and written, `minWritesForSuccess` = their number
(the default): receive succeeds iff every replica stored the full blob (replica.go:233), remove is
"best effort": nil as soon as ANY replica reported success (replica.go:266) -/
def replicaNImpl (kids : List Impl) : Impl where
  σ := KidsSt kids
  init := kidsInit kids
  step := fun s op =>
    match op with
    | .recv _ v =>
      match stepAll kids s op with
      | (s1, os) => (s1, if os.all (· == .sized v.length) then .sized v.length else .err)
    | .fetch k => fetchFirst kids s k false
    | .stat _ =>
      match stepAll kids s op with
      | (s1, os) => (s1, statAnsN os)
    | .rm _ =>
      match stepAll kids s op with
      | (s1, os) => (s1, if os.any (· == .ok) then .ok else .err)
    | .enum after limit => enumN kids s after limit

/-- the right-nested tree of two-way shards that an n-way shard is: level `i` keeps the keys of
sub-store `i` and passes the others on -/
def shardNestImpl (route : Bytes → Nat) (n : Nat) : Nat → Impl → List Impl → Impl
  | _, k, [] => k
  | i, k, k' :: r => shard2Impl (fun key => route key % n != i) k (shardNestImpl route n (i + 1) k' r)

def replicaNestImpl : Impl → List Impl → Impl
  | k, [] => k
  | k, k' :: r => replica2Impl k (replicaNestImpl k' r)

/-! ## configuration trees -/

/-- a storage configuration: which combinators wrap which leaves -/
inductive Cfg where
  | mem                                   -- memory (also stands for any leaf backend proved/validated separately)
  | memCache (max : Nat)                  -- evicting memory cache: only meaningful as a proxycache cache
  | ns (master : Cfg)
  | proxy (origin cache : Cfg) (max : Nat)
  | overlay (lower upper : Cfg)
  | shard2 (a b : Cfg)
  | shardBy (r : Bytes → Bool) (a b : Cfg) -- two-way shard with its OWN routing predicate: one level of an n-way shard
  | replica2 (a b : Cfg)
  | cond2 (t e : Cfg)
  | faulty (sched : List Fault) (c : Cfg) -- `c` behind a schedule of transient failures (C13)
  | leaf (I : Impl)                       -- any other leaf model (files, diskpacked, …) given directly

/-- the model of a configuration; `route` = routing of the `shard2` nodes (a `shardBy` node carries
its own), `isSchema` = cond's sniffing predicate -/
def interp (route : Bytes → Bool) (isSchema : Bytes → Bool) : Cfg → Impl
  | .mem => memImpl
  | .memCache max => memCacheImpl max
  | .ns m => nsImpl (interp route isSchema m)
  | .proxy o c max => proxyImpl (interp route isSchema o) (interp route isSchema c) max
  | .overlay l u => overlayImpl (interp route isSchema l) (interp route isSchema u)
  | .shard2 a b => shard2Impl route (interp route isSchema a) (interp route isSchema b)
  | .shardBy r a b => shard2Impl r (interp route isSchema a) (interp route isSchema b)
  | .replica2 a b => replica2Impl (interp route isSchema a) (interp route isSchema b)
  | .cond2 t e => cond2Impl isSchema (interp route isSchema t) (interp route isSchema e)
  | .faulty sched c => faultLeaf (interp route isSchema c) sched
  | .leaf I => I

/-- supported compositions: an evicting cache appears only as the cache of a proxycache -/
def Cfg.WF : Cfg → Bool
  | .mem => true
  | .memCache _ => false
  | .ns m => m.WF
  | .proxy o (.memCache _) _ => o.WF
  | .proxy o c _ => o.WF && c.WF
  | .overlay l u => l.WF && u.WF
  | .shard2 a b => a.WF && b.WF
  | .shardBy _ a b => a.WF && b.WF
  | .replica2 a b => a.WF && b.WF
  | .cond2 t e => t.WF && e.WF
  | .faulty _ _ => false
  | .leaf _ => false

/-- an n-way shard over `k :: r` (n = their number, routing `sum key % n`) as a tree: sub-store `i`
against the rest, for i = 0, 1, … -/
def Cfg.shardNest (sum : Bytes → Nat) (n : Nat) : Nat → Cfg → List Cfg → Cfg
  | _, k, [] => k
  | i, k, k' :: r => .shardBy (fun key => sum key % n != i) k (Cfg.shardNest sum n (i + 1) k' r)

/-- an n-way replica over `k :: r` as a tree -/
def Cfg.replicaNest : Cfg → List Cfg → Cfg
  | k, [] => k
  | k, k' :: r => .replica2 k (Cfg.replicaNest k' r)

end Pk.Stores
