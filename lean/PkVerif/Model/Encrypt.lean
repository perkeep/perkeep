import PkVerif.Base.SMap
import PkVerif.Base.Eff
/-!
# Model of pkg/blobserver/encrypt (encrypt.go, meta.go)

Core Lean only (linked into `pkmodel-c11`).  One definition per Go function, same name.

* The cipher is an abstract `AEAD` (a structure whose laws are hypothesis FIELDS, never axioms);
  `toyAEAD` shows the structure is inhabited.  Randomness is explicit: every encryption consumes the
  state's `nonce` counter.
* The two wrapped stores are raw maps `name ↦ bytes` (`SMap`): they verify nothing, so a tampered
  store is just another map.  Every call made to them is also appended to `St.trace`.
* The meta index is a map `plain ref text ↦ "size/encref"`.
* `recordMeta`'s heap is Go's `container/heap` on a slice, modelled exactly (`up`/`down`).
* Concurrency: `ReceiveBlob` and `makePackedMetaBlob` are lists of micro-steps taken from the
  REGENERATED effect lists (`recvSteps`, `packSteps`); packers are `Job`s in `St.jobs`.  The driver runs
  one particular schedule (`receiveBlob`, `drain`); `Props/C11.lean` quantifies over all of them and
  over crashes between any two steps.  A packer's reads of the index and its encryption are folded
  into its upload step (index rows are never modified once set, so this loses no behaviour).
* Not modelled: `blobserver.MaxBlobSize` (a plaintext whose ciphertext exceeds it is refused by
  `ReceiveNoHash`), non-sha224 plaintext refs.  Of the errors of the wrapped stores only a transient
  failure of a `ReceiveBlob` of either store is modelled (`St.failBlobs`, `St.failMeta`); the rest is C13's.
-/
namespace Pk.Encrypt
open Pk Pk.SMap

/-! ## decimal (`%d`, `strconv.ParseUint(s, 10, 32)`) -/

def decEncAux : Nat → Nat → Bytes → Bytes
  | 0, _, acc => acc
  | fuel + 1, n, acc =>
    if n < 10 then (48 + n) :: acc else decEncAux fuel (n / 10) ((48 + n % 10) :: acc)

/-- `fmt.Sprintf("%d", n)` -/
def decEnc (n : Nat) : Bytes := decEncAux (n + 1) n []

def isDigit (c : Nat) : Bool := 48 ≤ c && c ≤ 57

def parseDigits (acc : Nat) : Bytes → Option Nat
  | [] => some acc
  | c :: cs => if isDigit c then parseDigits (acc * 10 + (c - 48)) cs else none

/-- `strconv.ParseUint(s, 10, 32)`: digits only, non-empty, value < 2^32 -/
def parseUint32 (s : Bytes) : Option Nat :=
  if s.isEmpty then none
  else match parseDigits 0 s with
    | some v => if v < 4294967296 then some v else none
    | none => none

/-! ## the cipher -/

/-- an authenticated cipher with explicit randomness.  `dec_enc` is correctness; `integrity` is the
idealised statement that only honest encryptions decrypt (every string that decrypts under `k` IS
`enc k r p` for its plaintext `p` and some randomness `r`). -/
structure AEAD where
  enc : Bytes → Nat → Bytes → Bytes
  dec : Bytes → Bytes → Option Bytes
  dec_enc : ∀ k r p, dec k (enc k r p) = some p
  integrity : ∀ k c p, dec k c = some p → ∃ r, c = enc k r p

/-- toy cipher: `len k ‖ k ‖ r (four base-256 limbs) ‖ p` in the clear (no secrecy whatsoever; it
only shows that the laws are jointly satisfiable and gives the driver something to run) -/
def toyEnc (k : Bytes) (r : Nat) (p : Bytes) : Bytes :=
  k.length :: (k ++ (r % 256) :: (r / 256 % 256) :: (r / 65536 % 256) :: (r / 16777216) :: p)

def toyDec (k c : Bytes) : Option Bytes :=
  match c with
  | [] => none
  | n :: rest =>
    if n = k.length ∧ rest.take n = k then
      match rest.drop n with
      | a :: b :: c :: _ :: p => if a < 256 ∧ b < 256 ∧ c < 256 then some p else none
      | _ => none
    else none

theorem toy_dec_enc (k : Bytes) (r : Nat) (p : Bytes) : toyDec k (toyEnc k r p) = some p := by
  have h1 : r % 256 < 256 := Nat.mod_lt _ (by decide)
  have h2 : r / 256 % 256 < 256 := Nat.mod_lt _ (by decide)
  have h3 : r / 65536 % 256 < 256 := Nat.mod_lt _ (by decide)
  simp [toyDec, toyEnc, h1, h2, h3]

/-- a base-256 digit and the rest -/
theorem split256 (a x : Nat) (ha : a < 256) : (a + 256 * x) % 256 = a ∧ (a + 256 * x) / 256 = x := by
  rw [Nat.add_mul_mod_self_left, Nat.add_mul_div_left _ _ (by decide), Nat.mod_eq_of_lt ha, Nat.div_eq_of_lt ha,
    Nat.zero_add]
  exact ⟨rfl, rfl⟩

theorem toy_integrity (k c p : Bytes) (h : toyDec k c = some p) : ∃ r, c = toyEnc k r p := by
  cases c with
  | nil => cases h
  | cons n rest =>
    simp only [toyDec] at h
    split at h <;> try cases h
    rename_i hc
    split at h <;> try cases h
    rename_i a b c d p' hd
    split at h <;> cases h
    rename_i hlt
    -- the randomness is read back from its four limbs
    refine ⟨a + 256 * (b + 256 * (c + 256 * d)), ?_⟩
    have h1 := split256 a (b + 256 * (c + 256 * d)) hlt.1
    have h2 := split256 b (c + 256 * d) hlt.2.1
    have h3 := split256 c d hlt.2.2
    have hrest := List.take_append_drop n rest
    rw [hc.2, hd] at hrest
    have e2 (r : Nat) : r / 65536 = r / 256 / 256 := (Nat.div_div_eq_div_mul r 256 256).symm
    have e3 (r : Nat) : r / 16777216 = r / 256 / 256 / 256 := by rw [Nat.div_div_eq_div_mul, Nat.div_div_eq_div_mul]
    unfold toyEnc
    rw [e3, e2, h1.1, h1.2, h2.1, h2.2, h3.1, h3.2, hrest, hc.1]

def toyAEAD : AEAD := ⟨toyEnc, toyDec, toy_dec_enc, toy_integrity⟩

/-! ## parameters -/

structure Params where
  A : AEAD
  /-- the identity (encrypt.go:73) -/
  key : Bytes
  /-- `blob.RefFromBytes(b).String()` -/
  digest : Bytes → Bytes
  /-- `blob.ParseKnown(s)` succeeds (meta.go:245) -/
  parseKnown : Bytes → Bool
  /-- `blob.ParseOrZero(s).Valid()` (meta.go:187) -/
  parseValid : Bytes → Bool
  /-- the version byte (encrypt.go:96) -/
  version : Nat
  /-- `FullMetaBlobSize` (meta.go:46) -/
  full : Nat
  /-- `SmallMetaCountLimit` (meta.go:48) -/
  small : Nat

variable (P : Params)

/-- encryptBlob encrypt.go:99: `version ‖ age(plaintext)` -/
def encryptBlob (r : Nat) (plain : Bytes) : Bytes := P.version :: P.A.enc P.key r plain

/-- decryptBlob encrypt.go:117 (`none` = any of its errors) -/
def decryptBlob (c : Bytes) : Option Bytes :=
  match c with
  | [] => none
  | v :: rest => if v = P.version then P.A.dec P.key rest else none

/-! ## text formats -/

/-- `#camlistore/encmeta=2` (without its newline) meta.go:43 -/
def headerLine : Bytes := [35, 99, 97, 109, 108, 105, 115, 116, 111, 114, 101, 47, 101, 110, 99, 109, 101, 116, 97, 61, 50]

/-- `strings.Split(s, sep)` for a one-byte separator -/
def splitOn (sep : Nat) : Bytes → List Bytes
  | [] => [[]]
  | c :: cs =>
    if c = sep then [] :: splitOn sep cs
    else match splitOn sep cs with
      | [] => [[c]]
      | p :: ps => (c :: p) :: ps

/-- packIndexEntry meta.go:171 -/
def packIndexEntry (plainSize : Nat) (encBR : Bytes) : Bytes := decEnc plainSize ++ 47 :: encBR

/-- unpackIndexEntry meta.go:175 (`none` = error) -/
def unpackIndexEntry (s : Bytes) : Option (Nat × Bytes) :=
  match splitOn 47 s with
  | [a, b] =>
    match parseUint32 a with
    | some size => if P.parseValid b then some (size, b) else none
    | none => none
  | _ => none

/-- one line of a meta blob -/
def metaLine (pv : Bytes × Bytes) : Bytes := pv.1 ++ 47 :: (pv.2 ++ [10])

/-- the plaintext of a meta blob: header and lines `plain/size/enc` -/
def fmtMeta (ls : List (Bytes × Bytes)) : Bytes :=
  headerLine ++ 10 :: (ls.map metaLine).flatten

/-- one line of processEncryptedMetaBlob's loop (meta.go:233-249): `plain ↦ size/enc` -/
def parseLine (l : Bytes) : Option (Bytes × Bytes) :=
  match splitOn 47 l with
  | [a, b, c] => if P.parseKnown a then some (a, b ++ 47 :: c) else none
  | _ => none

/-- the newline-terminated lines after the header, and what follows the last newline -/
def bodyLines (text : Bytes) : Option (List Bytes × Bytes) :=
  match splitOn 10 text with
  | [] => none
  | [_] => none                                   -- "No first line"
  | h :: rest => if h = headerLine then some (rest.dropLast, rest.getLast?.getD []) else none

def parseAll : List Bytes → Option (List (Bytes × Bytes))
  | [] => some []
  | l :: ls =>
    match parseLine P l, parseAll ls with
    | some pv, some r => some (pv :: r)
    | _, _ => none

/-- every line of a well-formed meta plaintext -/
def parseMeta (text : Bytes) : Option (List (Bytes × Bytes)) :=
  match bodyLines text with
  | some (ls, []) => parseAll P ls
  | _ => none

/-- the rows an encrypted meta blob contributes, when the start-up scan accepts it -/
def linesOf (c : Bytes) : Option (List (Bytes × Bytes)) :=
  (decryptBlob P c).bind (parseMeta P)

def setAll (ls : List (Bytes × Bytes)) (idx : SMap Bytes) : SMap Bytes :=
  ls.foldl (fun m pv => ins pv.1 pv.2 m) idx

/-! ## the heap of small meta blobs (meta.go:50-81, container/heap) -/

structure MetaBlob where
  br : Bytes
  plains : List Bytes
deriving Repr, DecidableEq

def swap {α : Type} (l : List α) (i j : Nat) : List α :=
  match l[i]?, l[j]? with
  | some a, some b => (l.set i b).set j a
  | _, _ => l

/-- metaBlobHeap.Less meta.go:72 -/
def less (h : List MetaBlob) (i j : Nat) : Bool :=
  match h[i]?, h[j]? with
  | some a, some b => a.plains.length < b.plains.length
  | _, _ => false

/-- container/heap.up -/
def up : Nat → List MetaBlob → Nat → List MetaBlob
  | 0, h, _ => h
  | fuel + 1, h, j =>
    let i := (j - 1) / 2
    if i = j || !less h j i then h else up fuel (swap h i j) i

/-- container/heap.down -/
def down : Nat → List MetaBlob → Nat → Nat → List MetaBlob
  | 0, h, _, _ => h
  | fuel + 1, h, i, n =>
    let j1 := 2 * i + 1
    if j1 ≥ n then h
    else
      let j := if j1 + 1 < n && less h (j1 + 1) j1 then j1 + 1 else j1
      if !less h j i then h else down fuel (swap h i j) j n

/-- heap.Push -/
def push (h : List MetaBlob) (x : MetaBlob) : List MetaBlob := up (h.length + 1) (h ++ [x]) h.length

/-- heap.Pop -/
def pop (h : List MetaBlob) : Option (MetaBlob × List MetaBlob) :=
  let n := h.length - 1
  let h2 := down h.length (swap h 0 n) 0 n
  match h2.getLast? with
  | none => none
  | some m => some (m, h2.dropLast)

/-! ## state -/

/-- a call made to a wrapped store -/
inductive Call where
  | putBlobs (name bytes : Bytes)
  | putMeta (name bytes : Bytes)
  | rmMeta (names : List Bytes)
deriving Repr, DecidableEq

/-- micro-steps of makePackedMetaBlob, in source order of their calls -/
inductive PStep where
  | upload | record | remove
deriving Repr, DecidableEq

/-- micro-steps of ReceiveBlob -/
inductive RStep where
  | putBlobs | putMeta | record | setIndex
deriving Repr, DecidableEq

/-- a running `makePackedMetaBlob(plains, toDelete)` goroutine -/
structure Job where
  plains : List Bytes
  toDelete : List Bytes
  /-- ref of the packed blob once uploaded -/
  packed : Option Bytes
  rest : List PStep
deriving Repr, DecidableEq

/-- a ReceiveBlob in flight -/
structure Recv where
  plainBR : Bytes
  size : Nat
  encBytes : Bytes
  encBR : Bytes
  /-- ref of the single-line meta blob once written -/
  metaBR : Option Bytes
  rest : List RStep
deriving Repr, DecidableEq

structure St where
  index : SMap Bytes := []
  blobs : SMap Bytes := []
  metas : SMap Bytes := []
  heap : List MetaBlob := []
  nonce : Nat := 0
  jobs : List Job := []
  recv : Option Recv := none
  /-- newest first -/
  trace : List Call := []
  /-- transient fault of the wrapped `blobs` store: its k-th next ReceiveBlob fails (0 = none armed) -/
  failBlobs : Nat := 0
  /-- the same for the wrapped `meta` store -/
  failMeta : Nat := 0
  /-- transient fault of the meta index: its k-th next `Set` made by ReceiveBlob fails (driver only: the
  histories of `Props/C11.lean` have no failing index) -/
  failIndex : Nat := 0
  /-- the last ReceiveBlob returned an error of a wrapped store or of the index -/
  lastFailed : Bool := false
deriving Repr, DecidableEq

/-- the ReceiveBlob program read off the regenerated facts: the effect list (sub-store receives,
recordMeta, index.Set in source order) and the store each `ReceiveNoHash` call targets
(encrypt.go:176 `s.blobs`, encrypt.go:186 `s.meta`) -/
def recvStepsAux : List String → List Eff → List RStep
  | ts, .storeReceive :: r =>
    (match ts.head? with
     | some "s.blobs" => [RStep.putBlobs]
     | some "s.meta" => [RStep.putMeta]
     | _ => []) ++ recvStepsAux ts.tail r
  | ts, .recordMeta :: r => .record :: recvStepsAux ts r
  | ts, .indexSet :: r => .setIndex :: recvStepsAux ts r
  | ts, _ :: r => recvStepsAux ts r
  | _, [] => []

def recvSteps (effs : List EffAt) (targets : List String) : List RStep :=
  recvStepsAux targets (effs.map (·.e))

/-- the makePackedMetaBlob program read off the regenerated effect list -/
def packSteps : List EffAt → List PStep
  | [] => []
  | x :: r =>
    match x.e with
    | .recvMeta => .upload :: packSteps r
    | .recordMeta => .record :: packSteps r
    | .removeMeta => .remove :: packSteps r
    | _ => packSteps r

/-! ## recordMeta (meta.go:83) -/

/-- the `for s.smallMeta.Len() > 0` loop meta.go:96-104 -/
def compactLoop : Nat → List MetaBlob → List Bytes → List Bytes → List (List Bytes × List Bytes) →
    List MetaBlob × List Bytes × List Bytes × List (List Bytes × List Bytes)
  | 0, h, pl, td, js => (h, pl, td, js)
  | fuel + 1, h, pl, td, js =>
    match pop h with
    | none => (h, pl, td, js)
    | some (m, h') =>
      let pl' := pl ++ m.plains
      let td' := td ++ [m.br]
      if pl'.length > P.full then compactLoop fuel h' [] [] (js ++ [(pl', td')])
      else compactLoop fuel h' pl' td' js

/-- recordMeta: the new heap and the `(plains, toDelete)` of every packer it starts -/
def recordMeta (heap : List MetaBlob) (b : MetaBlob) : List MetaBlob × List (List Bytes × List Bytes) :=
  if b.plains.length > P.full then (heap, [])
  else
    let h := push heap b
    if h.length > P.small then
      match compactLoop P h.length h [] [] [] with
      | (h', pl, td, js) =>
        match td with
        | [] => (h', js)
        | [x] => (push h' ⟨x, pl⟩, js)
        | _ => (h', js ++ [(pl, td)])
    else (h, [])

def mkJobs (psteps : List PStep) (l : List (List Bytes × List Bytes)) : List Job :=
  l.map (fun x => ⟨x.1, x.2, none, psteps⟩)

/-- recordMeta on a state: new packers are queued -/
def St.record (psteps : List PStep) (s : St) (b : MetaBlob) : St :=
  { s with heap := (recordMeta P s.heap b).1, jobs := s.jobs ++ mkJobs psteps (recordMeta P s.heap b).2 }

/-! ## makePackedMetaBlob (meta.go:113) -/

/-- merge of two ascending lists (fuel ≥ the two lengths together) -/
def mergeRefs : Nat → List Bytes → List Bytes → List Bytes
  | 0, xs, ys => xs ++ ys
  | _ + 1, [], ys => ys
  | _ + 1, xs, [] => xs
  | fuel + 1, x :: xs, y :: ys =>
    if ltB y x then y :: mergeRefs fuel (x :: xs) ys else x :: mergeRefs fuel xs (y :: ys)

/-- top-down merge sort by Go's string order (fuel ≥ the length) -/
def msortRefs : Nat → List Bytes → List Bytes
  | 0, l => l
  | fuel + 1, l =>
    if l.length ≤ 1 then l
    else
      let h := l.length / 2
      mergeRefs l.length (msortRefs fuel (l.take h)) (msortRefs fuel (l.drop h))

/-- `sort.Sort(blob.ByRef(plains))` (refs of one hash type: text order) -/
def sortRefs (l : List Bytes) : List Bytes := msortRefs l.length l

/-- the lines `p/<index value>`; `none` = "failed to find the index entry" -/
def packedLines (idx : SMap Bytes) : List Bytes → Option (List (Bytes × Bytes))
  | [] => some []
  | p :: ps =>
    match get idx p, packedLines idx ps with
    | some v, some r => some ((p, v) :: r)
    | _, _ => none

/-- one micro-step of packer `j`; `none` = the goroutine is over -/
def jobStep (psteps : List PStep) (s : St) (j : Job) : St × Option Job :=
  match j.rest with
  | [] => (s, none)
  | .upload :: rest =>
    match packedLines s.index (sortRefs j.plains) with
    | none => (s, none)
    | some ls =>
      -- "failed to upload a packed meta": the goroutine logs and returns (meta.go:148)
      if s.failMeta = 1 then ({ s with failMeta := 0 }, none)
      else
      let enc := encryptBlob P s.nonce (fmtMeta ls)
      let br := P.digest enc
      ({ s with metas := ins br enc s.metas, nonce := s.nonce + 1, trace := .putMeta br enc :: s.trace,
                failMeta := s.failMeta - 1 },
       some { j with packed := some br, rest := rest })
  | .record :: rest =>
    match j.packed with
    | some br =>
      if j.plains.length < P.full then (St.record P psteps s ⟨br, j.plains⟩, some { j with rest := rest })
      else (s, some { j with rest := rest })
    | none => (s, some { j with rest := rest })
  | .remove :: rest =>
    ({ s with metas := j.toDelete.foldl (fun m n => del n m) s.metas, trace := .rmMeta j.toDelete :: s.trace },
     some { j with rest := rest })

/-- run packer number `i` of the queue for one micro-step -/
def stepJob (psteps : List PStep) (s : St) (i : Nat) : St :=
  match s.jobs[i]? with
  | none => s
  | some j =>
    let s0 := { s with jobs := s.jobs.eraseIdx i }
    match jobStep P psteps s0 j with
    | (s1, none) => s1
    | (s1, some j') => { s1 with jobs := (s1.jobs.take i) ++ j' :: s1.jobs.drop i }

/-- run the first packer of the queue to its end, then the next … (the driver's schedule) -/
def drain (psteps : List PStep) : Nat → St → St
  | 0, s => s
  | fuel + 1, s => if s.jobs.isEmpty then s else drain psteps fuel (stepJob P psteps s 0)

/-! ## ReceiveBlob (encrypt.go:153) -/

/-- fetchMeta meta.go:196 -/
inductive MetaRes where
  | ok (size : Nat) (encBR : Bytes)
  | notExist
  | err
deriving Repr, DecidableEq

def fetchMeta (idx : SMap Bytes) (b : Bytes) : MetaRes :=
  match get idx b with
  | none => .notExist
  | some v => match unpackIndexEntry P v with
    | some (sz, e) => .ok sz e
    | none => .err

/-- the answers of the storage API -/
inductive Res where
  | sized (n : Nat)
  | bytes (b : Bytes) (size : Nat)
  | notExist
  | corrupt
  | err
  | refs (l : List (Bytes × Nat))
deriving Repr, DecidableEq

/-- makeSingleMetaBlob meta.go:161 -/
def makeSingleMetaBlob (r : Nat) (plainBR encBR : Bytes) (plainSize : Nat) : Bytes :=
  encryptBlob P r (fmtMeta [(plainBR, packIndexEntry plainSize encBR)])

/-- ReceiveBlob up to its first write: duplicate check, digest check, encryption -/
def recvBegin (rsteps : List RStep) (s : St) (plainBR plain : Bytes) : St × Option Res :=
  match fetchMeta P s.index plainBR with
  | .ok sz _ => (s, some (.sized sz))
  | _ =>
    if P.digest plain ≠ plainBR then (s, some .corrupt)
    else
      let enc := encryptBlob P s.nonce plain
      ({ s with nonce := s.nonce + 1, lastFailed := false,
                recv := some ⟨plainBR, plain.length, enc, P.digest enc, none, rsteps⟩ }, none)

/-- one micro-step of the ReceiveBlob in flight -/
def recvStep (psteps : List PStep) (s : St) : St :=
  match s.recv with
  | none => s
  | some x =>
    match x.rest with
    | [] => { s with recv := none }
    | .putBlobs :: rest =>
      -- a failing wrapped store: ReceiveBlob returns its error, nothing else happens (encrypt.go:177)
      if s.failBlobs = 1 then { s with failBlobs := 0, lastFailed := true, recv := some { x with rest := [] } }
      else
      { s with blobs := ins x.encBR x.encBytes s.blobs, trace := .putBlobs x.encBR x.encBytes :: s.trace,
               recv := some { x with rest := rest }, failBlobs := s.failBlobs - 1 }
    | .putMeta :: rest =>
      if s.failMeta = 1 then { s with failMeta := 0, lastFailed := true, recv := some { x with rest := [] } }
      else
      let m := makeSingleMetaBlob P s.nonce x.plainBR x.encBR x.size
      let br := P.digest m
      { s with metas := ins br m s.metas, nonce := s.nonce + 1, trace := .putMeta br m :: s.trace,
               recv := some { x with metaBR := some br, rest := rest }, failMeta := s.failMeta - 1 }
    | .record :: rest =>
      match x.metaBR with
      | some br => St.record P psteps { s with recv := some { x with rest := rest } } ⟨br, [x.plainBR]⟩
      | none => { s with recv := some { x with rest := rest } }
    | .setIndex :: rest =>
      -- "error updating index" (encrypt.go:196): the meta blob is written and recorded, the row is not set
      if s.failIndex = 1 then { s with failIndex := 0, lastFailed := true, recv := some { x with rest := [] } }
      else
      { s with index := ins x.plainBR (packIndexEntry x.size x.encBR) s.index,
               recv := some { x with rest := rest }, failIndex := s.failIndex - 1 }

/-- ReceiveBlob under the driver's schedules: `late = false`: the packers it starts run after it
returned; `late = true`: they run as soon as they are started, i.e. before `index.Set` -/
def recvRun (psteps : List PStep) (late : Bool) : Nat → St → St
  | 0, s => s
  | fuel + 1, s =>
    match s.recv with
    | none => s
    | some _ =>
      let s1 := recvStep P psteps s
      let s2 := if late then drain P psteps (4 * (s1.jobs.length + 1) + 4 * s1.heap.length + 8) s1 else s1
      recvRun psteps late fuel s2

def drainFuel (s : St) : Nat := 4 * (s.jobs.length + 1) + 4 * s.heap.length + 64

def receiveBlob (rsteps : List RStep) (psteps : List PStep) (late : Bool) (s : St) (plainBR plain : Bytes) :
    St × Res :=
  match recvBegin P rsteps s plainBR plain with
  | (s', some r) => (s', r)
  | (s', none) =>
    let s1 := recvRun P psteps late (rsteps.length + 1) s'
    (drain P psteps (drainFuel s1) s1, if s1.lastFailed then .err else .sized plain.length)

/-- a ReceiveBlob whose duplicate check ran BEFORE another ReceiveBlob of the same ref set the index row
(two overlapping uploads of one blob): it goes on although the index has the row by now -/
def receiveBlobForced (rsteps : List RStep) (psteps : List PStep) (s : St) (plainBR plain : Bytes) : St × Res :=
  if P.digest plain ≠ plainBR then (s, .corrupt)
  else
    let enc := encryptBlob P s.nonce plain
    let s' := { s with nonce := s.nonce + 1, lastFailed := false,
                       recv := some ⟨plainBR, plain.length, enc, P.digest enc, none, rsteps⟩ }
    let s1 := recvRun P psteps false (rsteps.length + 1) s'
    (drain P psteps (drainFuel s1) s1, if s1.lastFailed then .err else .sized plain.length)

/-- two overlapping ReceiveBlob calls of the same blob: A passes the duplicate check and hangs in the
wrapped blobs store; B runs from start to end; A resumes.  Answers of (A, B). -/
def receiveOverlapping (rsteps : List RStep) (psteps : List PStep) (s : St) (plainBR plain : Bytes) :
    St × Res × Res :=
  match fetchMeta P s.index plainBR with
  | .ok sz _ => (s, .sized sz, .sized sz)
  | _ =>
    let b := receiveBlob P rsteps psteps false s plainBR plain
    let a := receiveBlobForced P rsteps psteps b.1 plainBR plain
    (a.1, a.2, b.2)

/-! ## Fetch, StatBlobs, EnumerateBlobs -/

/-- Fetch encrypt.go:204 (with the plaintext check of the fix) -/
def fetch (s : St) (plainBR : Bytes) : Res :=
  match fetchMeta P s.index plainBR with
  | .notExist => .notExist
  | .err => .err
  | .ok plainSize encBR =>
    match get s.blobs encBR with
    | none => .err
    | some encBytes =>
      if P.digest encBytes ≠ encBR then .corrupt
      else match decryptBlob P encBytes with
        | none => .err
        | some plain =>
          if P.digest plain ≠ plainBR ∨ plain.length ≠ plainSize then .corrupt
          else .bytes plain plainSize

/-- Fetch before the fix: the plaintext was returned unchecked -/
def fetchOld (s : St) (plainBR : Bytes) : Res :=
  match fetchMeta P s.index plainBR with
  | .notExist => .notExist
  | .err => .err
  | .ok plainSize encBR =>
    match get s.blobs encBR with
    | none => .err
    | some encBytes =>
      if P.digest encBytes ≠ encBR then .corrupt
      else match decryptBlob P encBytes with
        | none => .err
        | some plain => .bytes plain plainSize

/-- StatBlobs encrypt.go:139, one ref -/
def statBlob (s : St) (br : Bytes) : Res :=
  match fetchMeta P s.index br with
  | .ok sz _ => .sized sz
  | .notExist => .notExist
  | .err => .err

def enumRows (limit : Nat) : Nat → List (Bytes × Bytes) → Option (List (Bytes × Nat))
  | _, [] => some []
  | n, (k, v) :: rest =>
    match unpackIndexEntry P v with
    | none => none
    | some (sz, _) =>
      if limit ≠ 0 ∧ n + 1 ≥ limit then some [(k, sz)]
      else (enumRows limit (n + 1) rest).map ((k, sz) :: ·)

/-- EnumerateBlobs encrypt.go:241: keys ≥ after, skipping `after` itself; limit 0 = no limit -/
def enumerateBlobs (s : St) (after : Bytes) (limit : Nat) : Res :=
  match enumRows P limit 0 (s.index.filter (fun kv => ltB after kv.1)) with
  | some l => .refs l
  | none => .err

/-! ## start-up: processEncryptedMetaBlob (meta.go:209), readAllMetaBlobs (meta.go:262) -/

/-- the loop of processEncryptedMetaBlob: rows are set as the lines are read -/
def processLines (idx : SMap Bytes) (acc : List Bytes) : List Bytes → SMap Bytes × Option (List Bytes)
  | [] => (idx, some acc)
  | l :: ls =>
    match parseLine P l with
    | none => (idx, none)
    | some pv => processLines (ins pv.1 pv.2 idx) (acc ++ [pv.1]) ls

/-- processEncryptedMetaBlob: the index afterwards, and the plains when it succeeded -/
def processEncryptedMetaBlob (idx : SMap Bytes) (dat : Bytes) : SMap Bytes × Option (List Bytes) :=
  match decryptBlob P dat with
  | none => (idx, none)
  | some text =>
    match bodyLines text with
    | none => (idx, none)
    | some (ls, trailing) =>
      match processLines P idx [] ls with
      | (idx', none) => (idx', none)
      | (idx', some plains) => if trailing = [] then (idx', some plains) else (idx', none)

/-- readAllMetaBlobs with the meta blobs arriving in `order`; `false` = start-up failed -/
def readAllMetaBlobs (psteps : List PStep) : List Bytes → St → St × Bool
  | [], s => (s, true)
  | n :: rest, s =>
    match get s.metas n with
    | none => (s, false)
    | some dat =>
      match processEncryptedMetaBlob P s.index dat with
      | (idx, none) => ({ s with index := idx }, false)
      | (idx, some plains) =>
        readAllMetaBlobs psteps rest (St.record P psteps { s with index := idx } ⟨n, plains⟩)

/-- the process dies: goroutines and the heap are gone; the index survives unless `wipe` -/
def crash (wipe : Bool) (s : St) : St :=
  { s with heap := [], jobs := [], recv := none, index := if wipe then [] else s.index }

/-- crash, then newFromConfig's scan -/
def restart (psteps : List PStep) (wipe : Bool) (order : List Bytes) (s : St) : St × Bool :=
  readAllMetaBlobs P psteps order (crash wipe s)

end Pk.Encrypt
