import PkVerif.Base.Bytes
/-!
# Base: strict total orders on lists, cursor filtering, paging

`filter_gt_eq_drop` – for ANY cursor, what lies after it in an ascending list is a suffix.
`pages_suffix` – following "cursor = last item of the page" with any limit ≥ 1 reproduces the
remaining list exactly once, in order.  Used by C01 and C09 (and `Lemmas/SearchPage`).
-/
namespace Pk

section Paging
variable {K : Type} (lt : K → K → Bool)

structure StrictTotal (lt : K → K → Bool) : Prop where
  irrefl : ∀ a, lt a a = false
  trans : ∀ a b c, lt a b = true → lt b c = true → lt a c = true
  total : ∀ a b, lt a b = true ∨ a = b ∨ lt b a = true

def Asc : List K → Prop
  | [] => True
  | [_] => True
  | a :: b :: t => lt a b = true ∧ Asc (b :: t)

def enumerate (keys : List K) (after : Option K) (limit : Nat) : List K :=
  ((match after with
    | none => keys
    | some a => keys.filter (fun k => lt a k))).take limit

def pages (keys : List K) (limit : Nat) : Nat → Option K → List K
  | 0, _ => []
  | fuel + 1, cur =>
    let page := enumerate lt keys cur limit
    match page.getLast? with
    | none => []
    | some last => page ++ pages keys limit fuel (some last)

theorem asc_tail {a : K} {l : List K} (h : Asc lt (a :: l)) : Asc lt l := by
  cases l with
  | nil => trivial
  | cons b t => exact h.2

theorem asc_head_lt (st : StrictTotal lt) {a : K} {l : List K} (h : Asc lt (a :: l)) :
    ∀ x ∈ l, lt a x = true := by
  induction l generalizing a with
  | nil => intro x hx; cases hx
  | cons b t ih =>
    intro x hx
    cases hx with
    | head => exact h.1
    | tail _ hx' => exact st.trans _ _ _ h.1 (ih (a := b) h.2 x hx')

/-- for ANY cursor `c`, what lies after it in an ascending list is a suffix -/
theorem filter_gt_eq_drop (st : StrictTotal lt) (l : List K) (h : Asc lt l) (c : K) :
    ∃ n, l.filter (fun k => lt c k) = l.drop n ∧ ∀ x ∈ l.take n, lt c x = false := by
  induction l with
  | nil => exact ⟨0, by simp, by simp⟩
  | cons a t ih =>
    by_cases hca : lt c a = true
    · refine ⟨0, ?_, by simp⟩
      have hall : ∀ x ∈ a :: t, lt c x = true := by
        intro x hx
        cases hx with
        | head => exact hca
        | tail _ hx' => exact st.trans _ _ _ hca (asc_head_lt lt st h x hx')
      simp only [List.drop]
      exact List.filter_eq_self.mpr hall
    · obtain ⟨n, hn, hpre⟩ := ih (asc_tail lt h)
      refine ⟨n + 1, ?_, ?_⟩
      · simp [List.filter, hca, hn]
      · intro x hx
        simp only [List.take] at hx
        cases hx with
        | head => simpa using hca
        | tail _ hx' => exact hpre x hx'

theorem filter_gt_split (st : StrictTotal lt) (pre r : List K) (c : K)
    (h : Asc lt (pre ++ c :: r)) :
    (pre ++ c :: r).filter (fun k => lt c k) = r := by
  induction pre with
  | nil =>
    have hall : ∀ x ∈ r, lt c x = true := asc_head_lt lt st h
    simp [List.filter, st.irrefl c, List.filter_eq_self.mpr hall]
  | cons a t ih =>
    have hac : lt a c = true := asc_head_lt lt st h c (by simp)
    have hca : lt c a = false := by
      cases hx : lt c a with
      | false => rfl
      | true =>
        have := st.trans _ _ _ hx hac
        rw [st.irrefl] at this; cases this
    have := ih (asc_tail lt h)
    simp [List.filter, hca] at this ⊢
    exact this

/-- Paging with any limit ≥ 1 visits every remaining key exactly once, in order. -/
theorem pages_suffix (st : StrictTotal lt) (limit : Nat) (hl : 0 < limit) :
    ∀ (fuel : Nat) (pre r : List K) (c : K), Asc lt (pre ++ c :: r) → r.length < fuel →
      pages lt (pre ++ c :: r) limit fuel (some c) = r := by
  intro fuel
  induction fuel with
  | zero => intro pre r c _ hf; cases hf
  | succ n ih =>
    intro pre r c hasc hf
    unfold pages
    simp only [enumerate, filter_gt_split lt st pre r c hasc]
    cases hr : (r.take limit).getLast? with
    | none =>
      have : r.take limit = [] := List.getLast?_eq_none_iff.mp hr
      cases r with
      | nil => rfl
      | cons x xs =>
        cases limit with
        | zero => cases hl
        | succ m => simp at this
    | some last =>
      simp only
      obtain ⟨ini, hini⟩ : ∃ ini, r.take limit = ini ++ [last] :=
        List.getLast?_eq_some_iff.mp hr
      have hsplit : r = ini ++ last :: r.drop limit := by
        have := List.take_append_drop limit r
        rw [hini] at this
        simpa [List.append_assoc] using this.symm
      have hkeys : pre ++ c :: r = (pre ++ c :: ini) ++ last :: r.drop limit := by
        rw [List.append_assoc, List.cons_append, ← hsplit]
      have hlen : (r.drop limit).length < n := by
        have : 0 < r.length := by rw [hsplit, List.length_append, List.length_cons]; omega
        rw [List.length_drop]; omega
      have hrec := ih (pre ++ c :: ini) (r.drop limit) last (by rw [← hkeys]; exact hasc) hlen
      rw [hkeys, hrec]
      exact List.take_append_drop limit r
end Paging

def decAsc {K : Type} (lt : K → K → Bool) : (l : List K) → Decidable (Asc lt l)
  | [] => isTrue trivial
  | [_] => isTrue trivial
  | a :: b :: t =>
    match decAsc lt (b :: t) with
    | isTrue h => if h1 : lt a b = true then isTrue ⟨h1, h⟩ else isFalse (fun h' => h1 h'.1)
    | isFalse h => isFalse (fun h' => h h'.2)

instance {K : Type} (lt : K → K → Bool) (l : List K) : Decidable (Asc lt l) := decAsc lt l

/-- Go's string order on byte strings is a strict total order -/
theorem stB : StrictTotal ltB := ⟨ltB_irrefl, ltB_trans, ltB_total⟩

theorem pairwise_asc {K : Type} (lt : K → K → Bool) :
    ∀ (l : List K), l.Pairwise (fun a b => lt a b = true) → Asc lt l
  | [], _ | [_], _ => trivial
  | a :: b :: t, hp =>
    ⟨(List.pairwise_cons.mp hp).1 b (List.mem_cons_self ..), pairwise_asc lt _ (List.pairwise_cons.mp hp).2⟩

theorem asc_iff_pairwise {K : Type} (lt : K → K → Bool) (st : StrictTotal lt) (l : List K) :
    Asc lt l ↔ l.Pairwise (fun a b => lt a b = true) := by
  refine ⟨fun h => ?_, pairwise_asc lt l⟩
  induction l with
  | nil => exact .nil
  | cons a t ih => exact List.pairwise_cons.mpr ⟨asc_head_lt lt st h, ih (asc_tail lt h)⟩

end Pk
