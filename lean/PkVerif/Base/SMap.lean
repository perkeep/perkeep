import PkVerif.Base.Bytes
/-!
# Base: sorted association lists keyed by byte strings (`SMap`)

The canonical representation of "a map from blobref text to …": a list of pairs strictly ascending
by key (`KAsc`).  Two `KAsc` lists with the same `get` are equal (`SMap.ext`), so every algebraic
fact about maps reduces to a pointwise fact about `get`.
-/
namespace Pk

abbrev SMap (V : Type) := List (Bytes × V)

namespace SMap
variable {V : Type}

/-- strictly ascending by key -/
def KAsc (m : SMap V) : Prop := m.Pairwise (fun a b => ltB a.1 b.1 = true)

def get : SMap V → Bytes → Option V
  | [], _ => none
  | (k, v) :: rest, x => if x = k then some v else get rest x

def has (m : SMap V) (k : Bytes) : Bool := (get m k).isSome

/-- insert or replace, keeping the order -/
def ins (k : Bytes) (v : V) : SMap V → SMap V
  | [] => [(k, v)]
  | (k', v') :: rest =>
    if ltB k k' then (k, v) :: (k', v') :: rest
    else if k = k' then (k, v) :: rest
    else (k', v') :: ins k v rest

def del (k : Bytes) : SMap V → SMap V
  | [] => []
  | (k', v') :: rest => if k = k' then rest else (k', v') :: del k rest

def keys (m : SMap V) : List Bytes := m.map (·.1)

theorem kasc_nil : KAsc ([] : SMap V) := List.Pairwise.nil

theorem kasc_tail {p : Bytes × V} {m : SMap V} (h : KAsc (p :: m)) : KAsc m :=
  (List.pairwise_cons.mp h).2

theorem kasc_head_lt {p : Bytes × V} {m : SMap V} (h : KAsc (p :: m)) :
    ∀ q ∈ m, ltB p.1 q.1 = true := (List.pairwise_cons.mp h).1

theorem get_cons_self (k : Bytes) (v : V) (rest : SMap V) : get ((k, v) :: rest) k = some v := by
  rw [get, if_pos rfl]

theorem get_cons_ne {x k : Bytes} (h : x ≠ k) (v : V) (rest : SMap V) :
    get ((k, v) :: rest) x = get rest x := by
  rw [get, if_neg h]

theorem get_eq_none_of_all_gt {m : SMap V} (x : Bytes) (h : ∀ q ∈ m, ltB x q.1 = true) :
    get m x = none := by
  induction m with
  | nil => rfl
  | cons p rest ih =>
    obtain ⟨k, v⟩ := p
    rw [get_cons_ne (ltB_ne (h (k, v) (List.mem_cons_self ..)))]
    exact ih fun q hq => h q (List.mem_cons_of_mem _ hq)

theorem get_none_of_lt_head {p : Bytes × V} {m : SMap V} (h : KAsc (p :: m)) (x : Bytes)
    (hx : ltB x p.1 = true) : get (p :: m) x = none := by
  refine get_eq_none_of_all_gt x fun q hq => ?_
  rcases List.mem_cons.mp hq with rfl | hq
  · exact hx
  · exact ltB_trans _ _ _ hx (kasc_head_lt h q hq)

theorem get_some_mem {m : SMap V} {x : Bytes} {v : V} (h : get m x = some v) : (x, v) ∈ m := by
  induction m with
  | nil => simp [get] at h
  | cons p rest ih =>
    obtain ⟨k, w⟩ := p
    simp only [get] at h
    by_cases hx : x = k
    · simp [hx] at h; subst h; simp [hx]
    · simp only [hx, if_false] at h
      exact List.mem_cons_of_mem _ (ih h)

theorem mem_get {m : SMap V} (hm : KAsc m) {x : Bytes} {v : V} (h : (x, v) ∈ m) : get m x = some v := by
  induction m with
  | nil => cases h
  | cons p rest ih =>
    obtain ⟨k, w⟩ := p
    rcases List.mem_cons.mp h with e | h'
    · cases e; exact get_cons_self ..
    · rw [get_cons_ne (ltB_ne (kasc_head_lt hm (x, v) h')).symm]
      exact ih (kasc_tail hm) h'

/-- extensionality: sortedness makes the list representation canonical -/
theorem ext : ∀ {a b : SMap V}, KAsc a → KAsc b → (∀ k, get a k = get b k) → a = b := by
  intro a b ha hb h
  induction a generalizing b with
  | nil =>
    cases b with
    | nil => rfl
    | cons p _ => have := h p.1; rw [get_cons_self] at this; cases this
  | cons p ra ih =>
    obtain ⟨k, v⟩ := p
    cases b with
    | nil => have := h k; rw [get_cons_self] at this; cases this
    | cons q rb =>
      obtain ⟨k', v'⟩ := q
      -- the smaller of two different head keys would be missing on the other side
      have hk : k = k' := by
        rcases ltB_total k k' with hlt | heq | hgt
        · have h1 := h k
          rw [get_cons_self, get_none_of_lt_head hb k hlt] at h1; cases h1
        · exact heq
        · have h1 := h k'
          rw [get_cons_self, get_none_of_lt_head ha k' hgt] at h1; cases h1
      subst hk
      have hv : v = v' := by
        have := h k
        rw [get_cons_self, get_cons_self] at this
        exact Option.some.inj this
      subst hv
      have hrest : ∀ x, get ra x = get rb x := by
        intro x
        by_cases hx : x = k
        · rw [hx, get_eq_none_of_all_gt k (kasc_head_lt ha), get_eq_none_of_all_gt k (kasc_head_lt hb)]
        · have := h x
          rwa [get_cons_ne hx, get_cons_ne hx] at this
      rw [ih (kasc_tail ha) (kasc_tail hb) hrest]

theorem mem_ins {k : Bytes} {v : V} {m : SMap V} {q : Bytes × V} (h : q ∈ ins k v m) :
    q = (k, v) ∨ q ∈ m := by
  induction m with
  | nil => simp [ins] at h; exact Or.inl h
  | cons p rest ih =>
    obtain ⟨k', v'⟩ := p
    simp only [ins] at h
    split at h
    · cases h with
      | head => exact Or.inl rfl
      | tail _ h' => exact Or.inr h'
    · split at h
      · cases h with
        | head => exact Or.inl rfl
        | tail _ h' => exact Or.inr (List.mem_cons_of_mem _ h')
      · cases h with
        | head => exact Or.inr (by simp)
        | tail _ h' =>
          rcases ih h' with e | e
          · exact Or.inl e
          · exact Or.inr (List.mem_cons_of_mem _ e)

theorem kasc_ins (k : Bytes) (v : V) {m : SMap V} (hm : KAsc m) : KAsc (ins k v m) := by
  induction m with
  | nil => simp [ins, KAsc]
  | cons p rest ih =>
    obtain ⟨k', v'⟩ := p
    simp only [ins]
    by_cases h1 : ltB k k' = true
    · simp only [h1, if_true]
      refine List.pairwise_cons.mpr ⟨?_, hm⟩
      intro q hq
      cases hq with
      | head => exact h1
      | tail _ hq' => exact ltB_trans _ _ _ h1 (kasc_head_lt hm q hq')
    · simp only [h1, Bool.false_eq_true, if_false]
      by_cases h2 : k = k'
      · subst h2
        simp only [if_true]
        exact List.pairwise_cons.mpr ⟨fun q hq => kasc_head_lt hm q hq, kasc_tail hm⟩
      · simp only [h2, if_false]
        have hgt : ltB k' k = true := by
          rcases ltB_total k k' with a | a | a
          · exact absurd a h1
          · exact absurd a h2
          · exact a
        refine List.pairwise_cons.mpr ⟨?_, ih (kasc_tail hm)⟩
        intro q hq
        rcases mem_ins hq with e | e
        · subst e; exact hgt
        · exact kasc_head_lt hm q e

theorem get_ins (k : Bytes) (v : V) (m : SMap V) (x : Bytes) :
    get (ins k v m) x = if x = k then some v else get m x := by
  induction m with
  | nil => simp [ins, get]
  | cons p rest ih =>
    obtain ⟨k', v'⟩ := p
    simp only [ins]
    by_cases h1 : ltB k k' = true
    · simp [h1, get]
    · simp only [h1, Bool.false_eq_true, if_false]
      by_cases h2 : k = k'
      · subst h2
        by_cases hx : x = k <;> simp [get, hx]
      · simp only [h2, if_false, get, ih]
        by_cases hx : x = k
        · subst hx; simp [h2]
        · simp [hx]

theorem del_sublist (k : Bytes) (m : SMap V) : (del k m).Sublist m := by
  induction m with
  | nil => exact List.Sublist.slnil
  | cons p rest ih =>
    obtain ⟨k', v'⟩ := p
    simp only [del]
    split
    · exact List.sublist_cons_self _ _
    · exact ih.cons_cons _

theorem kasc_del (k : Bytes) {m : SMap V} (hm : KAsc m) : KAsc (del k m) :=
  List.Pairwise.sublist (del_sublist k m) hm

theorem get_del (k : Bytes) {m : SMap V} (hm : KAsc m) (x : Bytes) :
    get (del k m) x = if x = k then none else get m x := by
  induction m with
  | nil => simp [del, get]
  | cons p rest ih =>
    obtain ⟨k', v'⟩ := p
    simp only [del]
    by_cases h : k = k'
    · subst h
      simp only [if_true, get]
      by_cases hx : x = k
      · subst hx; simp [get_eq_none_of_all_gt x (kasc_head_lt hm)]
      · simp [hx]
    · simp only [h, if_false, get, ih (kasc_tail hm)]
      by_cases hx : x = k
      · subst hx; simp [h]
      · simp [hx]

theorem kasc_filter (p : Bytes × V → Bool) {m : SMap V} (hm : KAsc m) : KAsc (m.filter p) :=
  List.Pairwise.sublist List.filter_sublist hm

theorem get_filter_key (p : Bytes → Bool) (m : SMap V) (x : Bytes) :
    get (m.filter (fun q => p q.1)) x = if p x then get m x else none := by
  induction m with
  | nil => simp [get]
  | cons q rest ih =>
    obtain ⟨k, v⟩ := q
    have ih' := ih
    by_cases hk : p k = true
    · simp only [List.filter, hk, get, ih']
      by_cases hx : x = k
      · subst hx; simp [hk]
      · simp [hx]
    · have hk' : p k = false := by cases h : p k <;> simp_all
      simp only [List.filter, hk', get, ih']
      by_cases hx : x = k
      · subst hx; simp [hk']
      · simp [hx]

/-- left-biased union: entries of `a` win -/
def union (a b : SMap V) : SMap V := a.foldr (fun p acc => ins p.1 p.2 acc) b

theorem kasc_union (a : SMap V) {b : SMap V} (hb : KAsc b) : KAsc (union a b) := by
  induction a with
  | nil => exact hb
  | cons p rest ih => exact kasc_ins _ _ ih

theorem get_union (a b : SMap V) (x : Bytes) :
    get (union a b) x = match get a x with | some v => some v | none => get b x := by
  induction a with
  | nil => simp [union, get]
  | cons p rest ih =>
    obtain ⟨k, v⟩ := p
    simp only [union, List.foldr_cons] at ih ⊢
    rw [get_ins, ih]
    by_cases hx : x = k
    · subst hx; simp [get]
    · simp [get, hx]

/-- `a ⊆ b` as maps -/
def Sub (a b : SMap V) : Prop := ∀ k v, get a k = some v → get b k = some v

theorem Sub.refl (a : SMap V) : Sub a a := fun _ _ h => h

theorem Sub.trans {a b c : SMap V} (h1 : Sub a b) (h2 : Sub b c) : Sub a c :=
  fun k v h => h2 k v (h1 k v h)

/-! ### `has`, `keys`, `union`, `ins`, `del` and `Sub`: the algebra the store lemmas use -/

theorem has_ins {V : Type} (k : Bytes) (v : V) (m : SMap V) (x : Bytes) :
    has (ins k v m) x = (decide (x = k) || has m x) := by
  unfold has; rw [get_ins]
  by_cases hx : x = k <;> simp [hx]

theorem has_del {V : Type} (k : Bytes) {m : SMap V} (hm : KAsc m) (x : Bytes) :
    has (del k m) x = (!decide (x = k) && has m x) := by
  unfold has; rw [get_del k hm]
  by_cases hx : x = k <;> simp [hx]

theorem mem_keys_iff_has {V : Type} (m : SMap V) (k : Bytes) : k ∈ SMap.keys m ↔ has m k = true := by
  induction m with
  | nil => simp [SMap.keys, has, SMap.get]
  | cons p rest ih =>
    obtain ⟨k', v⟩ := p
    simp only [SMap.keys, List.map_cons, List.mem_cons, has, SMap.get] at ih ⊢
    by_cases hk : k = k'
    · simp [hk]
    · simp [hk, ih]

theorem has_union {V : Type} (a b : SMap V) (k : Bytes) : has (union a b) k = (has a k || has b k) := by
  unfold has; rw [get_union]
  cases SMap.get a k <;> simp

theorem has_filter_key {V : Type} (p : Bytes → Bool) {m : SMap V} (hm : KAsc m) (k : Bytes) :
    has (m.filter (fun q => p q.1)) k = (p k && has m k) := by
  unfold has; rw [get_filter_key p m]
  cases p k <;> simp

theorem has_false_get {V : Type} {m : SMap V} {k : Bytes} (h : has m k = false) : SMap.get m k = none := by
  unfold has at h
  cases hg : SMap.get m k with
  | none => rfl
  | some v => rw [hg] at h; cases h

theorem union_ins_left {V : Type} (k : Bytes) (v : V) (A : SMap V) {B : SMap V} (hB : KAsc B) :
    union (ins k v A) B = ins k v (union A B) := by
  apply SMap.ext (kasc_union _ hB) (kasc_ins _ _ (kasc_union _ hB))
  intro x
  rw [get_union, get_ins, get_ins, get_union]
  by_cases hx : x = k <;> simp [hx]

theorem union_ins_right {V : Type} (k : Bytes) (v : V) {A B : SMap V} (hB : KAsc B)
    (hk : has A k = false) : union A (ins k v B) = ins k v (union A B) := by
  apply SMap.ext (kasc_union _ (kasc_ins _ _ hB)) (kasc_ins _ _ (kasc_union _ hB))
  intro x
  rw [get_union, get_ins, get_ins, get_union]
  by_cases hx : x = k
  · subst hx; simp [has_false_get hk]
  · simp [hx]

theorem union_del_both {V : Type} (k : Bytes) {A B : SMap V} (hA : KAsc A) (hB : KAsc B) :
    union (del k A) (del k B) = del k (union A B) := by
  apply SMap.ext (kasc_union _ (kasc_del _ hB)) (kasc_del _ (kasc_union _ hB))
  intro x
  rw [get_union, get_del k hA, get_del k hB, get_del k (kasc_union _ hB), get_union]
  by_cases hx : x = k <;> simp [hx]

theorem del_eq_self {V : Type} (k : Bytes) {A : SMap V} (hA : KAsc A) (hk : has A k = false) :
    del k A = A := by
  apply SMap.ext (kasc_del _ hA) hA
  intro x
  rw [get_del k hA]
  by_cases hx : x = k
  · subst hx; simp [has_false_get hk]
  · simp [hx]

theorem union_self {V : Type} {A : SMap V} (hA : KAsc A) : union A A = A := by
  apply SMap.ext (kasc_union _ hA) hA
  intro x
  rw [get_union]
  cases SMap.get A x <;> rfl

theorem ins_eq_self {V : Type} {m : SMap V} (hm : KAsc m) {k : Bytes} {v : V}
    (h : SMap.get m k = some v) : ins k v m = m := by
  apply SMap.ext (kasc_ins _ _ hm) hm
  intro x
  rw [get_ins]
  by_cases hx : x = k
  · subst hx; simp [h]
  · simp [hx]

theorem ins_ins {V : Type} {m : SMap V} (hm : KAsc m) (k : Bytes) (v : V) :
    ins k v (ins k v m) = ins k v m :=
  ins_eq_self (kasc_ins _ _ hm) (by rw [get_ins]; simp)

theorem union_del_right_has {V : Type} {A B : SMap V} (hB : KAsc B) (k : Bytes)
    (hk : has A k = true) : union A (del k B) = union A B := by
  apply SMap.ext (kasc_union _ (kasc_del _ hB)) (kasc_union _ hB)
  intro x
  rw [get_union, get_union, get_del k hB]
  by_cases hx : x = k
  · subst hx
    cases hga : SMap.get A x with
    | none => simp [has, hga] at hk
    | some u => rfl
  · simp [hx]

theorem sub_del_self {V : Type} (k : Bytes) {m : SMap V} (hm : KAsc m) : Sub (del k m) m := by
  intro x v h
  rw [get_del k hm] at h
  by_cases hx : x = k
  · simp [hx] at h
  · simpa [hx] using h

theorem sub_del_del {V : Type} (k : Bytes) {a b : SMap V} (ha : KAsc a) (hb : KAsc b)
    (h : Sub a b) : Sub (del k a) (del k b) := by
  intro x v hg
  rw [get_del k ha] at hg
  rw [get_del k hb]
  by_cases hx : x = k
  · simp [hx] at hg
  · simp only [hx, if_false] at hg ⊢; exact h _ _ hg

theorem sub_ins_ins {V : Type} (k : Bytes) (v : V) {a b : SMap V} (h : Sub a b) :
    Sub (ins k v a) (ins k v b) := by
  intro x w hg
  rw [get_ins] at hg ⊢
  by_cases hx : x = k
  · simpa [hx] using hg
  · simp only [hx, if_false] at hg ⊢; exact h _ _ hg

theorem sub_ins_of_get {V : Type} {k : Bytes} {v : V} {a b : SMap V} (h : Sub a b)
    (hk : SMap.get b k = some v) : Sub (ins k v a) b := by
  intro x w hg
  rw [get_ins] at hg
  by_cases hx : x = k
  · subst hx
    simp only [if_true] at hg
    injection hg with hg
    subst hg; exact hk
  · simp only [hx, if_false] at hg; exact h _ _ hg

theorem get_ins_self {V : Type} (k : Bytes) (v : V) (m : SMap V) : get (ins k v m) k = some v := by
  rw [get_ins, if_pos rfl]

theorem get_ins_ne {V : Type} {k x : Bytes} (v : V) (m : SMap V) (h : x ≠ k) : get (ins k v m) x = get m x := by
  rw [get_ins, if_neg h]

theorem get_ins_of_ne {V : Type} {k x : Bytes} (v : V) {w : V} {m : SMap V} (hx : x ≠ k) (h : get m x = some w) :
    get (ins k v m) x = some w :=
  (get_ins_ne v m hx).trans h

theorem get_ins_some {V : Type} {k x : Bytes} {v w : V} {m : SMap V} (h : get (ins k v m) x = some w) :
    (x = k ∧ w = v) ∨ (x ≠ k ∧ get m x = some w) := by
  rw [get_ins] at h
  split at h
  · exact Or.inl ⟨‹_›, (Option.some.inj h).symm⟩
  · exact Or.inr ⟨‹_›, h⟩

theorem get_append {V : Type} (a b : SMap V) (x : Bytes) :
    get (a ++ b) x = match get a x with | some v => some v | none => get b x := by
  induction a with
  | nil => rfl
  | cons p rest ih =>
    obtain ⟨k, v⟩ := p
    by_cases hx : x = k
    · simp [get, hx]
    · simp only [List.cons_append, get, hx, if_false]; exact ih

theorem get_noKey {V : Type} {k : Bytes} {m : SMap V} (h : ∀ q ∈ m, q.1 ≠ k) : get m k = none := by
  cases hg : get m k with
  | none => rfl
  | some v => exact absurd rfl (h _ (get_some_mem hg))

end SMap
end Pk
