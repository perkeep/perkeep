import PkVerif.Spec.RefMap
/-!
# Spec: refinement in the presence of transient lower-layer failures (C13)

`FRefines content I` is `Refines` weakened for implementations whose lower layers may fail: a step
may answer `.err`, and then the abstract contents are the before- or the after-state of that
operation (nothing else changes: no other blob is lost, nothing partial becomes visible); the
invariant is preserved by every step, faulted or not; and in `Quiet` states (no failure pending
anywhere below) every step is exact again.  From these three facts: after ANY history with ANY
pattern of failures, once failures stop the store behaves exactly like the reference map started
from its current contents (`FRefines.recovers`).
-/
namespace Pk.RefMap
open Pk Pk.SMap

/-- a faulted-or-exact step -/
def StepOK (abs abs' : SMap Bytes) (o : Out) (op : Op) : Prop :=
  (o = out abs op ∧ abs' = next abs op) ∨ (o = .err ∧ (abs' = abs ∨ abs' = next abs op))

theorem out_ne_err (A : SMap Bytes) (op : Op) : out A op ≠ .err := by
  cases op with
  | fetch k => simp only [out]; cases SMap.get A k <;> exact Out.noConfusion
  | stat k => simp only [out]; cases SMap.get A k <;> exact Out.noConfusion
  | _ => exact Out.noConfusion

theorem StepOK.move {A A' : SMap Bytes} {o : Out} {op : Op} (h : StepOK A A' o op) :
    A' = A ∨ A' = next A op := by
  rcases h with ⟨_, h⟩ | ⟨_, h⟩
  · exact Or.inr h
  · exact h

theorem StepOK.read_abs {A A' : SMap Bytes} {o : Out} {op : Op} (h : StepOK A A' o op)
    (hr : next A op = A) : A' = A := by
  rcases h.move with h | h
  · exact h
  · rw [h, hr]

structure FRefines (content : Bytes → Bytes) (I : Impl) where
  abs : I.σ → SMap Bytes
  Inv : I.σ → Prop
  /-- no failure is pending in any lower layer -/
  Quiet : I.σ → Prop
  init_inv : Inv I.init
  init_abs : abs I.init = []
  good : ∀ s, Inv s → Good content (abs s)
  step_ok : ∀ s op, Inv s → op.WK content →
    Inv (I.step s op).1 ∧ StepOK (abs s) (abs (I.step s op).1) (I.step s op).2 op
  quiet_step : ∀ s op, Inv s → Quiet s → op.WK content →
    (I.step s op).2 = out (abs s) op ∧ abs (I.step s op).1 = next (abs s) op ∧ Quiet (I.step s op).1

/-- the invariant survives every history, whatever failed during it -/
theorem FRefines.reach_inv {content : Bytes → Bytes} {I : Impl} (F : FRefines content I) (s : I.σ)
    (h : F.Inv s) (ops : List Op) (hops : ∀ op ∈ ops, op.WK content) : F.Inv (I.runState s ops) := by
  induction ops generalizing s with
  | nil => exact h
  | cons op ops ih =>
    exact ih _ (F.step_ok s op h (hops op (by simp))).1 (fun o ho => hops o (by simp [ho]))

theorem run_eq_of_quiet {content : Bytes → Bytes} {I : Impl} (abs : I.σ → SMap Bytes)
    (Inv Quiet : I.σ → Prop)
    (hinv : ∀ s op, Inv s → op.WK content → Inv (I.step s op).1)
    (hq : ∀ s op, Inv s → Quiet s → op.WK content →
      (I.step s op).2 = out (abs s) op ∧ abs (I.step s op).1 = next (abs s) op ∧ Quiet (I.step s op).1)
    (s : I.σ) (h : Inv s) (hs : Quiet s) (ops : List Op) (hops : ∀ op ∈ ops, op.WK content) :
    I.run s ops = run (abs s) ops :=
  run_eq_of_exact abs (fun s => Inv s ∧ Quiet s) (fun op => op.WK content)
    (fun s op h hop => ⟨(hq s op h.1 h.2 hop).1, (hq s op h.1 h.2 hop).2.1, hinv s op h.1 hop,
      (hq s op h.1 h.2 hop).2.2⟩) s ⟨h, hs⟩ ops hops

/-- once failures have stopped, the store answers every further history exactly like the reference
map started from its current contents -/
theorem FRefines.recovers {content : Bytes → Bytes} {I : Impl} (F : FRefines content I) (s : I.σ)
    (h : F.Inv s) (hq : F.Quiet s) (ops : List Op) (hops : ∀ op ∈ ops, op.WK content) :
    I.run s ops = run (F.abs s) ops :=
  run_eq_of_quiet F.abs F.Inv F.Quiet (fun s op h hop => (F.step_ok s op h hop).1) F.quiet_step
    s h hq ops hops

/-- a faithful store is in particular fault-tolerant (it never fails) -/
def Refines.toF {content : Bytes → Bytes} {I : Impl} (R : Refines content I) : FRefines content I where
  abs := R.abs
  Inv := R.Inv
  Quiet := fun _ => True
  init_inv := R.init_inv
  init_abs := R.init_abs
  good := R.good
  step_ok := fun s op h hop =>
    let ⟨ho, ha, hi⟩ := R.step_ok s op h hop
    ⟨hi, Or.inl ⟨ho, ha⟩⟩
  quiet_step := fun s op h _ hop =>
    let ⟨ho, ha, _⟩ := R.step_ok s op h hop
    ⟨ho, ha, trivial⟩

/-! ## a leaf store with a schedule of transient failures -/

/-- what happens to one lower-layer call -/
inductive Fault where
  | none      -- the call goes through
  | before    -- the call fails before having any effect
  | after     -- the call takes effect but its answer is lost: the caller sees an error
deriving DecidableEq, Repr

/-- `I` behind a failure schedule: the i-th call to this store suffers `sched[i]` (none once the
schedule is used up) -/
def faultLeaf (I : Impl) (sched : List Fault) : Impl where
  σ := I.σ × List Fault
  init := (I.init, sched)
  step := fun (s, sc) op =>
    match sc with
    | [] => (((I.step s op).1, []), (I.step s op).2)
    | .none :: rest => (((I.step s op).1, rest), (I.step s op).2)
    | .before :: rest => ((s, rest), Out.err)
    | .after :: rest => (((I.step s op).1, rest), Out.err)

def faultLeafF {content : Bytes → Bytes} {I : Impl} (R : Refines content I) (sched : List Fault) :
    FRefines content (faultLeaf I sched) where
  abs := fun s => R.abs s.1
  Inv := fun s => R.Inv s.1
  Quiet := fun s => ∀ f ∈ s.2, f = Fault.none
  init_inv := R.init_inv
  init_abs := R.init_abs
  good := fun s h => R.good s.1 h
  step_ok := by
    rintro ⟨s, sc⟩ op h hop
    obtain ⟨ho, ha, hi⟩ := R.step_ok s op h hop
    cases sc with
    | nil => exact ⟨hi, Or.inl ⟨ho, ha⟩⟩
    | cons f rest =>
      cases f with
      | none => exact ⟨hi, Or.inl ⟨ho, ha⟩⟩
      | before => exact ⟨h, Or.inr ⟨rfl, Or.inl rfl⟩⟩
      | after => exact ⟨hi, Or.inr ⟨rfl, Or.inr ha⟩⟩
  quiet_step := by
    rintro ⟨s, sc⟩ op h hq hop
    obtain ⟨ho, ha, _⟩ := R.step_ok s op h hop
    cases sc with
    | nil => exact ⟨ho, ha, by intro f hf; cases hf⟩
    | cons f rest =>
      have hf : f = Fault.none := hq f (by simp)
      subst hf
      exact ⟨ho, ha, fun g hg => hq g (List.mem_cons_of_mem _ hg)⟩

/-! ## the contract of a cache that may fail -/

/-- what a cache may at most hold after `op`, given it held `m` before -/
def grow (m : SMap Bytes) : Op → SMap Bytes
  | .recv k v => ins k v m
  | _ => m

/-- `Caches` for a cache whose calls may fail: any call may answer anything (in particular `.err`),
but the invariant is kept, the contents stay within what a faithful map would hold, a positive read
answer is correct for the contents, a remove that answered `.ok` did remove, and in `Quiet` states
every answer is the faithful one. -/
structure FCaches (content : Bytes → Bytes) (I : Impl) where
  abs : I.σ → SMap Bytes
  Inv : I.σ → Prop
  Quiet : I.σ → Prop
  init_inv : Inv I.init
  init_abs : abs I.init = []
  good : ∀ s, Inv s → Good content (abs s)
  step_inv : ∀ s op, Inv s → op.WK content → Inv (I.step s op).1
  step_sub : ∀ s op, Inv s → op.WK content → Sub (abs (I.step s op).1) (grow (abs s) op)
  fetch_ok : ∀ s k v, Inv s → (I.step s (.fetch k)).2 = .bytes v → get (abs s) k = some v
  stat_ok : ∀ s k n, Inv s → (I.step s (.stat k)).2 = .sized n →
    ∃ v, get (abs s) k = some v ∧ n = v.length
  rm_ok : ∀ s k, Inv s → (I.step s (.rm k)).2 = .ok → Sub (abs (I.step s (.rm k)).1) (del k (abs s))
  quiet_step : ∀ s op, Inv s → Quiet s → op.WK content →
    (I.step s op).2 = out (abs s) op ∧ Quiet (I.step s op).1

/-- a remove call always takes effect, whatever it answers (its failures are of the "answer lost"
kind only) -/
def FCaches.RmSure {content : Bytes → Bytes} {I : Impl} (C : FCaches content I) : Prop :=
  ∀ s k, C.Inv s → Sub (C.abs (I.step s (.rm k)).1) (del k (C.abs s))

end Pk.RefMap
