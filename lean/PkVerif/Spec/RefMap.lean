import PkVerif.Base.SMap
/-!
# Spec: the reference content-addressed map, and the packaged refinement `Refines`

`Op`/`Out` are the storage API at model level (one blob per stat/remove call: batching is handled
by the driver as a sequence of single calls).  `RefMap.next/out` is the specification every storage
backend and every composition of backends must be observationally equal to (property C01).

An implementation model is an `Impl` (state, init, step) – executable, no proof content – and
`Refines content I` packages the proof that `I` refines the reference map on well-keyed operations
(`recv k v` always comes with `v = content k`: blobs are content-addressed).  Storage combinators
are functions on `Impl`s with matching functions on `Refines`, so any nesting of combinators is a
term and "for all nestings" is structural induction over the configuration tree.
-/
namespace Pk.RefMap
open Pk.SMap

inductive Op where
  | recv (k v : Bytes)
  | fetch (k : Bytes)
  | stat (k : Bytes)
  | enum (after : Bytes) (limit : Nat)
  | rm (k : Bytes)
deriving Repr, DecidableEq

inductive Out where
  | sized (n : Nat)                  -- receive / stat answer: the blob's size
  | bytes (b : Bytes)                -- fetch answer
  | notExist
  | refs (l : List (Bytes × Nat))    -- enumerate answer: (ref text, size), in the order sent
  | ok
  | err                              -- any other error (read-only, not implemented, I/O)
deriving Repr, DecidableEq

/-- the sizes view of a map, as enumerate/stat report it -/
def sizes (m : SMap Bytes) : List (Bytes × Nat) := m.map (fun p => (p.1, p.2.length))

/-- the specification of enumerate: strictly after the cursor (ANY string), ascending, at most limit -/
def enumOf (m : SMap Bytes) (after : Bytes) (limit : Nat) : List (Bytes × Nat) :=
  (sizes (m.filter (fun p => ltB after p.1))).take limit

def next (m : SMap Bytes) : Op → SMap Bytes
  | .recv k v => if has m k then m else ins k v m
  | .rm k => del k m
  | _ => m

def out (m : SMap Bytes) : Op → Out
  | .recv _ v => .sized v.length
  | .fetch k => match get m k with | some v => .bytes v | none => .notExist
  | .stat k => match get m k with | some v => .sized v.length | none => .notExist
  | .enum after limit => .refs (enumOf m after limit)
  | .rm _ => .ok

/-- run a history on the reference map -/
def run : SMap Bytes → List Op → List Out
  | _, [] => []
  | m, op :: ops => out m op :: run (next m op) ops

/-- well-keyed: a received blob's bytes are the ones its ref denotes, and a ref's text is not empty – the
empty string is the "no cursor" value of enumerate (`findSkip` in Model/Stores.lean), so no key may be it -/
def Op.WK (content : Bytes → Bytes) : Op → Prop
  | .recv k v => v = content k ∧ k ≠ []
  | _ => True

/-- every stored value is the content of its key, and the list is canonical -/
def Good (content : Bytes → Bytes) (m : SMap Bytes) : Prop :=
  KAsc m ∧ ∀ k v, get m k = some v → v = content k ∧ k ≠ []

theorem good_nil (content : Bytes → Bytes) : Good content [] :=
  ⟨kasc_nil, by intro k v h; simp [SMap.get] at h⟩

theorem good_next {content : Bytes → Bytes} {m : SMap Bytes} (hm : Good content m) (op : Op)
    (hop : op.WK content) : Good content (next m op) := by
  cases op with
  | recv k v =>
    simp only [next]
    split
    · exact hm
    · refine ⟨kasc_ins k v hm.1, ?_⟩
      intro k' v' h
      rw [get_ins] at h
      by_cases hk : k' = k
      · subst hk; simp at h; subst h; exact hop
      · simp only [hk, if_false] at h; exact hm.2 _ _ h
  | rm k =>
    refine ⟨kasc_del k hm.1, ?_⟩
    intro k' v' h
    simp only [next] at h
    rw [get_del k hm.1] at h
    by_cases hk : k' = k
    · simp [hk] at h
    · simp only [hk, if_false] at h; exact hm.2 _ _ h
  | fetch _ => exact hm
  | stat _ => exact hm
  | enum _ _ => exact hm

/-- an executable model of a storage implementation -/
structure Impl where
  σ : Type
  init : σ
  step : σ → Op → σ × Out

def Impl.run (I : Impl) : I.σ → List Op → List Out
  | _, [] => []
  | s, op :: ops => (I.step s op).2 :: I.run (I.step s op).1 ops

/-- the packaged proof that `I` refines the reference map -/
structure Refines (content : Bytes → Bytes) (I : Impl) where
  abs : I.σ → SMap Bytes
  Inv : I.σ → Prop
  init_inv : Inv I.init
  init_abs : abs I.init = []
  good : ∀ s, Inv s → Good content (abs s)
  step_ok : ∀ s op, Inv s → op.WK content →
    (I.step s op).2 = out (abs s) op ∧ abs (I.step s op).1 = next (abs s) op ∧ Inv (I.step s op).1

theorem run_eq_of_exact {I : Impl} (abs : I.σ → SMap Bytes) (Inv : I.σ → Prop) (P : Op → Prop)
    (h : ∀ s op, Inv s → P op →
      (I.step s op).2 = out (abs s) op ∧ abs (I.step s op).1 = next (abs s) op ∧ Inv (I.step s op).1)
    (s : I.σ) (hs : Inv s) (ops : List Op) (hops : ∀ op ∈ ops, P op) :
    I.run s ops = run (abs s) ops := by
  induction ops generalizing s with
  | nil => rfl
  | cons op ops ih =>
    obtain ⟨ho, ha, hi⟩ := h s op hs (hops op (by simp))
    simp only [Impl.run, run, ho]
    rw [ih _ hi (fun o ho' => hops o (by simp [ho'])), ha]

/-- the one generic theorem: a refining implementation answers every well-keyed history exactly as
the reference map does, from any state satisfying its invariant -/
theorem Refines.run_eq {content : Bytes → Bytes} {I : Impl} (R : Refines content I) (s : I.σ)
    (h : R.Inv s) (ops : List Op) (hops : ∀ op ∈ ops, op.WK content) :
    I.run s ops = run (R.abs s) ops :=
  run_eq_of_exact R.abs R.Inv (fun op => op.WK content) R.step_ok s h ops hops

/-- the state after a history -/
def Impl.runState (I : Impl) : I.σ → List Op → I.σ
  | s, [] => s
  | s, op :: ops => I.runState (I.step s op).1 ops

/-- the reference map after a history -/
def runState : SMap Bytes → List Op → SMap Bytes
  | m, [] => m
  | m, op :: ops => runState (next m op) ops

/-- invariant and abstraction follow the history -/
theorem Refines.reach {content : Bytes → Bytes} {I : Impl} (R : Refines content I) (s : I.σ)
    (h : R.Inv s) (ops : List Op) (hops : ∀ op ∈ ops, op.WK content) :
    R.Inv (I.runState s ops) ∧ R.abs (I.runState s ops) = runState (R.abs s) ops := by
  induction ops generalizing s with
  | nil => exact ⟨h, rfl⟩
  | cons op ops ih =>
    obtain ⟨_, ha, hi⟩ := R.step_ok s op h (hops op (by simp))
    obtain ⟨h1, h2⟩ := ih _ hi (fun o ho => hops o (by simp [ho]))
    exact ⟨h1, by simp only [Impl.runState, runState]; rw [h2, ha]⟩

theorem Refines.run_init {content : Bytes → Bytes} {I : Impl} (R : Refines content I)
    (ops : List Op) (hops : ∀ op ∈ ops, op.WK content) :
    I.run I.init ops = run [] ops := by
  rw [R.run_eq I.init R.init_inv ops hops, R.init_abs]

/-! ## refinement restricted to histories whose received keys satisfy a predicate `K`

Disk-backed leaves derive file names and record headers from the ref text, so they refine the map
only for keys that really are ref texts (`K`).  `RefinesK` is `Refines` with that hypothesis on
received keys and the matching invariant "every held key satisfies `K`"; combinators preserve it, and
`Refines` is the special case `K = fun _ => True`. -/

/-- the received key of an op, if any, satisfies `K` -/
def Op.KOK (K : Bytes → Prop) : Op → Prop
  | .recv k _ => K k
  | _ => True

structure RefinesK (content : Bytes → Bytes) (K : Bytes → Prop) (I : Impl) where
  abs : I.σ → SMap Bytes
  Inv : I.σ → Prop
  init_inv : Inv I.init
  init_abs : abs I.init = []
  good : ∀ s, Inv s → Good content (abs s)
  keys : ∀ s, Inv s → ∀ k v, get (abs s) k = some v → K k
  step_ok : ∀ s op, Inv s → op.WK content → op.KOK K →
    (I.step s op).2 = out (abs s) op ∧ abs (I.step s op).1 = next (abs s) op ∧ Inv (I.step s op).1

theorem RefinesK.run_eq {content : Bytes → Bytes} {K : Bytes → Prop} {I : Impl} (R : RefinesK content K I)
    (s : I.σ) (h : R.Inv s) (ops : List Op) (hops : ∀ op ∈ ops, op.WK content)
    (hk : ∀ op ∈ ops, op.KOK K) : I.run s ops = run (R.abs s) ops :=
  run_eq_of_exact R.abs R.Inv (fun op => op.WK content ∧ op.KOK K)
    (fun s op h hop => R.step_ok s op h hop.1 hop.2) s h ops (fun op ho => ⟨hops op ho, hk op ho⟩)

theorem RefinesK.run_init {content : Bytes → Bytes} {K : Bytes → Prop} {I : Impl} (R : RefinesK content K I)
    (ops : List Op) (hops : ∀ op ∈ ops, op.WK content) (hk : ∀ op ∈ ops, op.KOK K) :
    I.run I.init ops = run [] ops := by
  rw [R.run_eq I.init R.init_inv ops hops hk, R.init_abs]

/-- the keys of `next m op` are those of `m` plus the received key -/
theorem get_next_key {m : SMap Bytes} (hm : KAsc m) {op : Op} {k : Bytes} {v : Bytes}
    (h : get (next m op) k = some v) : (∃ w, get m k = some w) ∨ (∃ w, op = .recv k w) := by
  cases op with
  | recv k' v' =>
    simp only [next] at h
    split at h
    · exact Or.inl ⟨v, h⟩
    · rw [get_ins] at h
      by_cases hk : k = k'
      · subst hk; exact Or.inr ⟨v', rfl⟩
      · simp only [hk, if_false] at h; exact Or.inl ⟨v, h⟩
  | rm k' =>
    simp only [next] at h
    rw [get_del k' hm] at h
    by_cases hk : k = k'
    · simp [hk] at h
    · simp only [hk, if_false] at h; exact Or.inl ⟨v, h⟩
  | fetch _ => exact Or.inl ⟨v, h⟩
  | stat _ => exact Or.inl ⟨v, h⟩
  | enum _ _ => exact Or.inl ⟨v, h⟩

/-- an unrestricted refinement is a `K`-refinement for every `K` -/
def Refines.toK {content : Bytes → Bytes} {I : Impl} (R : Refines content I) (K : Bytes → Prop) :
    RefinesK content K I where
  abs := R.abs
  Inv := fun s => R.Inv s ∧ ∀ k v, get (R.abs s) k = some v → K k
  init_inv := ⟨R.init_inv, by intro k v h; rw [R.init_abs] at h; simp [SMap.get] at h⟩
  init_abs := R.init_abs
  good := fun s h => R.good s h.1
  keys := fun s h => h.2
  step_ok := by
    intro s op ⟨h, hk⟩ hop hK
    obtain ⟨ho, ha, hi⟩ := R.step_ok s op h hop
    refine ⟨ho, ha, hi, ?_⟩
    intro k v hg
    rw [ha] at hg
    rcases get_next_key (R.good s h).1 hg with ⟨w, hw⟩ | ⟨w, hw⟩
    · exact hk k w hw
    · subst hw; exact hK

/-- and back, for the trivial predicate -/
def RefinesK.toRefines {content : Bytes → Bytes} {I : Impl} (R : RefinesK content (fun _ => True) I) :
    Refines content I where
  abs := R.abs
  Inv := R.Inv
  init_inv := R.init_inv
  init_abs := R.init_abs
  good := R.good
  step_ok := fun s op h hop => R.step_ok s op h hop (by cases op <;> trivial)

/-- a weaker contract, for stores that may forget blobs on their own (an evicting cache): answers are
consistent with the store's own contents, and the contents only ever shrink relative to what a
faithful map would hold -/
structure Caches (content : Bytes → Bytes) (I : Impl) where
  abs : I.σ → SMap Bytes
  Inv : I.σ → Prop
  init_inv : Inv I.init
  init_abs : abs I.init = []
  good : ∀ s, Inv s → Good content (abs s)
  step_inv : ∀ s op, Inv s → op.WK content → Inv (I.step s op).1
  /-- reads answer from the current contents -/
  read_ok : ∀ s op, Inv s → (match op with | .fetch _ | .stat _ | .enum _ _ => True | _ => False) →
    (I.step s op).2 = out (abs s) op ∧ Sub (abs (I.step s op).1) (abs s)
  recv_ok : ∀ s k v, Inv s → (Op.recv k v).WK content →
    (I.step s (.recv k v)).2 = .sized v.length ∧ Sub (abs (I.step s (.recv k v)).1) (ins k v (abs s))
  rm_ok : ∀ s k, Inv s →
    (I.step s (.rm k)).2 = .ok ∧ Sub (abs (I.step s (.rm k)).1) (del k (abs s))

/-- a faithful store is in particular a cache -/
def Refines.toCaches {content : Bytes → Bytes} {I : Impl} (R : Refines content I) : Caches content I where
  abs := R.abs
  Inv := R.Inv
  init_inv := R.init_inv
  init_abs := R.init_abs
  good := R.good
  step_inv := fun s op h hop => (R.step_ok s op h hop).2.2
  read_ok := by
    intro s op h hr
    cases op with
    | recv _ _ => cases hr
    | rm _ => cases hr
    | fetch k => obtain ⟨ho, ha, _⟩ := R.step_ok s (.fetch k) h trivial; exact ⟨ho, by rw [ha]; exact Sub.refl _⟩
    | stat k => obtain ⟨ho, ha, _⟩ := R.step_ok s (.stat k) h trivial; exact ⟨ho, by rw [ha]; exact Sub.refl _⟩
    | enum a l => obtain ⟨ho, ha, _⟩ := R.step_ok s (.enum a l) h trivial; exact ⟨ho, by rw [ha]; exact Sub.refl _⟩
  recv_ok := by
    intro s k v h hop
    obtain ⟨ho, ha, _⟩ := R.step_ok s (.recv k v) h hop
    refine ⟨ho, ?_⟩
    rw [ha]
    simp only [next]
    split
    · rename_i hh
      intro k' v' hg
      rw [get_ins]
      by_cases hk : k' = k
      · subst hk
        simp only [if_true]
        have := (R.good s h).2 _ _ hg
        rw [this.1, hop.1]
      · simp [hk, hg]
    · exact Sub.refl _
  rm_ok := by
    intro s k h
    obtain ⟨ho, ha, _⟩ := R.step_ok s (.rm k) h trivial
    exact ⟨ho, by rw [ha]; exact Sub.refl _⟩

/-! ## the memory store (pkg/blobserver/memory without a size cap): the map itself -/

/-- memory.Storage: a Go map plus a sorted enumeration; receiving an existing ref is a no-op -/
def memImpl : Impl where
  σ := SMap Bytes
  init := []
  step := fun m op => (next m op, out m op)

def memRefines (content : Bytes → Bytes) : Refines content memImpl where
  abs := id
  Inv := Good content
  init_inv := good_nil content
  init_abs := rfl
  good := fun _ h => h
  step_ok := fun _ op h hop => ⟨rfl, rfl, good_next h op hop⟩

theorem run_eq_of_sim {I J : Impl} (f : I.σ → J.σ) (P : J.σ → Prop) (Q : Op → Prop)
    (h : ∀ s op, P (f s) → Q op →
      J.step (f s) op = (f (I.step s op).1, (I.step s op).2) ∧ P (J.step (f s) op).1) :
    ∀ (ops : List Op) (s : I.σ), P (f s) → (∀ op ∈ ops, Q op) → I.run s ops = J.run (f s) ops
  | [], _, _, _ => rfl
  | op :: ops, s, hp, hq => by
    obtain ⟨h1, h3⟩ := h s op hp (hq op (by simp))
    rw [h1] at h3
    simp only [Impl.run, h1]
    rw [run_eq_of_sim f P Q h ops _ h3 (fun o ho => hq o (by simp [ho]))]

end Pk.RefMap

namespace Pk.Stores
open Pk Pk.SMap Pk.RefMap

/-- the key an operation addresses (enumerate addresses none) -/
def opKey : Op → Bytes
  | .recv k _ => k
  | .fetch k => k
  | .stat k => k
  | .rm k => k
  | .enum _ _ => []

def opIsEnum : Op → Bool
  | .enum _ _ => true
  | _ => false

def opIsRecv : Op → Bool
  | .recv _ _ => true
  | _ => false

/-! Two ways from `Refines` to `RefinesK`: `Refines.toK` installs a real key predicate and strengthens
`Inv` by "every held key satisfies `K`"; `toTrueK` keeps `abs` and `Inv` as they are, so that a lemma
proved over `RefinesK` can be used unchanged for a `Refines` (at `K = fun _ => True`). -/

def toTrueK {content : Bytes → Bytes} {I : Impl} (R : Refines content I) :
    RefinesK content (fun _ => True) I where
  abs := R.abs
  Inv := R.Inv
  init_inv := R.init_inv
  init_abs := R.init_abs
  good := R.good
  keys := fun _ _ _ _ _ => trivial
  step_ok := fun s op h hop _ => R.step_ok s op h hop

theorem kok_true (op : Op) : op.KOK (fun _ => True) := by cases op <;> trivial

end Pk.Stores

namespace Pk.RefMap
open Pk.SMap

/-- on a good map a well-keyed receive is an insert: an existing row already holds these bytes -/
theorem next_recv_good {content : Bytes → Bytes} {m : SMap Bytes} (hm : Good content m) (k v : Bytes)
    (hv : v = content k) : next m (.recv k v) = ins k v m := by
  simp only [next]
  cases hg : SMap.get m k with
  | none => simp [has, hg]
  | some w =>
    have : w = v := by rw [hv]; exact (hm.2 k w hg).1
    subst this
    simp only [has, hg, Option.isSome_some, if_true]
    exact (ins_eq_self hm.1 hg).symm

end Pk.RefMap
