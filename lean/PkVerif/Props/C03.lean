import PkVerif.Lemmas.Pack
import PkVerif.Lemmas.FilesStore
import PkVerif.Gen.C03
/-!
# C03 – disk stores survive a crash at any instant without losing or tearing blobs

Property theorems only.  `Pk.Pack.*` models pkg/blobserver/diskpacked, `Pk.FilesStore.*` models
pkg/blobserver/files over a VFS with a durable and a volatile layer.  The orders of the lower-layer
calls (`Pk.Gen.dpAppendEffects`, `dpDeleteEffects`, `dpRemoveEffects`, `filesReceiveEffects`) are
regenerated from /repo on every run; the theorems are stated for every effect order satisfying a
decidable predicate, which the `C03_gen_*` theorems discharge on the generated lists by `decide`.

In this order: the pack format (the walker inverts the encoder); reindex and stream after a crash inside an
append; with the index intact, the crash states of an append; a crash inside a removal; the files store
(write temp, fsync, close, rename).

`walk … true` is the walker of the repaired reindex.go (a record whose body extends beyond the end of
the file is not reported); `walk … false` is the code before the repair (finding F-C03-1).
-/
namespace Pk.Pack

/-- decimal round trip of the size field (`%v` then `strconv.ParseUint(…, 10, 32)`) -/
theorem C03_decimal_roundtrip (n : Nat) (h : n < 4294967296) : parseUint32 (decEnc n) = some n :=
  parseUint32_decEnc n h

/-- **walkPack ∘ encode = identity**: on the concatenation of any list of well-formed records (live
or of the deleted form) the walker reports exactly these records, with their body offsets and
sizes, and no error – for the repaired and for the original walker. -/
theorem C03_walk_encode (okRef : Bytes → Bool) (cf : Bool) (rs : List Rec)
    (h : ∀ r ∈ rs, recOK okRef r = true) :
    walkPack okRef cf (encodePack rs) = (entriesOf rs 0, none) := by
  have := walkPack_encodePack [] h (walk_nil okRef cf)
  rwa [List.append_nil] at this

-- non-vacuity: a live record (`b-c`) and one of the deleted form (`xx-0`) satisfy `recOK`
example : recOK (fun _ => true) ⟨[98, 45, 99], [1, 2, 3]⟩ = true ∧
    recOK (fun _ => false) ⟨[120, 120, 45, 48], [0]⟩ = true := by decide

/-- **a torn header is ignored**: a pack of complete records followed by a strict prefix of the next
record's header walks like the pack without it (old and repaired walker alike) -/
theorem C03_reindex_torn_header (okRef : Bytes → Bool) (cf : Bool) (rs : List Rec) (r : Rec) (k : Nat)
    (h : ∀ x ∈ rs, recOK okRef x = true) (hr : recOK okRef r = true)
    (hk : k < (encodeHeader r.ref r.body.length).length) :
    walkPack okRef cf (encodePack rs ++ (encodeRecord r).take k) = (entriesOf rs 0, none) :=
  walkPack_encodePack _ h fun _ _ =>
    walk_torn hr (by rw [encodeRecord, List.length_append]; exact Nat.lt_of_lt_of_le hk (Nat.le_add_right _ _))
      (Or.inr hk)

/-- **a torn record is ignored** (repaired walker, finding F-C03-1 fixed): for EVERY strict prefix of the
bytes an append adds – torn header or torn body – the rebuilt index is that of the pack before the
append: no partial blob is listed -/
theorem C03_reindex_torn_body (okRef : Bytes → Bool) (rs : List Rec) (r : Rec) (k : Nat)
    (h : ∀ x ∈ rs, recOK okRef x = true) (hr : recOK okRef r = true) (hk : k < (encodeRecord r).length) :
    walkPack okRef true (encodePack rs ++ (encodeRecord r).take k) = (entriesOf rs 0, none) :=
  walkPack_encodePack _ h fun _ _ => walk_torn hr hk (Or.inl rfl)

-- non-vacuity: hypothesis `hk` of `C03_reindex_torn_body` holds of that record for k = 3
example : (3 : Nat) < (encodeRecord ⟨[98, 45, 99], [1, 2, 3]⟩).length := by decide

/-- the walker before the repair reported a record with a torn body, with its full size (this is what
made Reindex list a partial blob and Fetch serve a short body): header complete, 1 of 3 body bytes -/
theorem C03_reindex_torn_body_counterexample :
    walkPack (fun _ => true) false ((encodeRecord ⟨[98, 45, 99], [1, 2, 3]⟩).take 8) =
      ([⟨some [98, 45, 99], 7, 3⟩], none) ∧
    extent ((encodeRecord ⟨[98, 45, 99], [1, 2, 3]⟩).take 8) 7 3 = [1] := by decide

/-- the completed append: the walker reports the new record after the old ones -/
theorem C03_reindex_complete_append (okRef : Bytes → Bool) (cf : Bool) (rs : List Rec) (r : Rec)
    (h : ∀ x ∈ rs, recOK okRef x = true) (hr : recOK okRef r = true) :
    walkPack okRef cf (encodePack rs ++ encodeRecord r) =
      (entriesOf rs 0 ++ [entryOf r (encodePack rs).length], none) := by
  have e : encodePack rs ++ encodeRecord r = encodePack (rs ++ [r]) := by
    rw [encodePack_append]; simp [encodePack]
  rw [e, C03_walk_encode okRef cf (rs ++ [r]) (List.forall_mem_append.mpr ⟨h, List.forall_mem_singleton.mpr hr⟩)]
  rw [entriesOf_append]
  simp [entriesOf]

/-- **append after a clean tail** keeps the pack parseable (this is the part of "reopen and go on" that
holds: `openForWrite` seeks to the end, so the next record starts where the last complete one ended) -/
theorem C03_append_after_torn_tail_partial (okRef : Bytes → Bool) (cf : Bool) (rs : List Rec) (r : Rec)
    (h : ∀ x ∈ rs, recOK okRef x = true) (hr : recOK okRef r = true) :
    (walkPack okRef cf (encodePack rs ++ encodeRecord r)).2 = none := by
  rw [C03_reindex_complete_append okRef cf rs r h hr]

/-- finding F-C03-2: a torn tail (`[b-c`, 4 bytes of a header) is not truncated at reopen; the next
append lands behind it and the walker – hence Reindex – fails on the pack: the acknowledged blob
`d-e` cannot be rebuilt from the pack files (`blob.Parse` is represented by "contains no `[`") -/
theorem C03_append_after_torn_tail_counterexample :
    walkPack (fun r => !r.contains 91) true ((encodeRecord ⟨[98, 45, 99], [1, 2, 3]⟩).take 4 ++ encodeRecord ⟨[100, 45, 101], [7]⟩) =
      ([], some .badRef) ∧
    reindexFrom (fun r => !r.contains 91) true 0
      [(encodeRecord ⟨[98, 45, 99], [1, 2, 3]⟩).take 4 ++ encodeRecord ⟨[100, 45, 101], [7]⟩] [] = ([], false) := by
  decide +kernel

/-- **Reindex rebuilds exactly the complete live records**, whatever strict prefix of a further record
a crash left at the end of the pack: the run succeeds; every row of the rebuilt index names a live
complete record of the pack and its extent holds that record's complete body (nothing partial is
presented); every live complete record has a row -/
theorem C03_reindex_exact (okRef : Bytes → Bool) (rs : List Rec) (r : Rec) (k i : Nat)
    (h : ∀ x ∈ rs, recOK okRef x = true) (hr : recOK okRef r = true) (hk : k < (encodeRecord r).length) :
    (reindexFrom okRef true i [encodePack rs ++ (encodeRecord r).take k] []).2 = true ∧
    (∀ ref m, (reindexFrom okRef true i [encodePack rs ++ (encodeRecord r).take k] []).1.get ref = some m →
      m.file = i ∧ ∃ x ∈ rs, x.ref = ref ∧ isDeletedRef x.ref = false ∧ m.size = x.body.length ∧
        extent (encodePack rs ++ (encodeRecord r).take k) m.offset m.size = x.body) ∧
    (∀ x ∈ rs, isDeletedRef x.ref = false →
      ((reindexFrom okRef true i [encodePack rs ++ (encodeRecord r).take k] []).1.get x.ref).isSome) := by
  have hw := C03_reindex_torn_body okRef rs r k h hr hk
  simp only [reindexFrom, hw]
  refine ⟨trivial, ?_, ?_⟩
  · intro ref m hm
    rcases setEntries_get [] i _ ref m hm with ⟨e, he, href, rfl⟩ | hnil
    · obtain ⟨x, hx, h1, h2, h3⟩ := entriesOf_sound rs [] ((encodeRecord r).take k) e he
      rw [h1] at href
      by_cases hd : isDeletedRef x.ref = true
      · rw [if_pos hd] at href; cases href
      · rw [if_neg hd] at href; cases href
        exact ⟨rfl, x, hx, rfl, by simpa using hd, h2, h3⟩
    · cases hnil
  · intro x hx hd
    obtain ⟨e, he, h⟩ := entriesOf_complete rs 0 x hx
    exact setEntries_get_live [] i _ e x.ref he (by rw [h, hd]; rfl)

/-- **StreamBlobs never presents a partial blob**: over complete records followed by any strict prefix of
a further record (torn header or torn body) the streamer sends exactly the complete live records,
each with its complete body, and nothing for the torn one -/
theorem C03_stream_no_partial (okRefB : Bytes → Bool) (rs : List Rec) (r : Rec) (k : Nat)
    (h : ∀ x ∈ rs, recOKS okRefB x = true) (hr : recOKS okRefB r = true) (hk : k < (encodeRecord r).length) :
    (streamPacks okRefB [encodePack rs ++ (encodeRecord r).take k]).1 = liveOf rs :=
  streamPacks_encodePack _ h fun _ => streamPack_torn hr hk

-- non-vacuity: `recOKS` holds of `b-c`, and of a live and a deleted record only the live one is sent
example : recOKS (fun _ => true) ⟨[98, 45, 99], [1, 2, 3]⟩ = true ∧
    liveOf [⟨[98, 45, 99], [1, 2, 3]⟩, ⟨[120, 45, 48], [0]⟩] = [([98, 45, 99], [1, 2, 3])] := by decide

/-- obligation on the regenerated order of `(*storage).append`: header, then body, then `Sync`, and only
then (after the roll-over, if any) `index.Set`; nothing is written afterwards (the rollback
`Seek`/`Truncate` on an index error only removes bytes) -/
theorem C03_gen_append_effects : appSafe 0 false (Gen.dpAppendEffects.map (·.e)) = true := by decide

/-- for EVERY effect order satisfying `appSafe`: at every crash prefix, if the index row has been written
then header and body have been written AND synced in full; and never more than header + body is
written -/
theorem C03_append_row_only_after_sync (effs : List Eff) (h : appSafe 0 false effs = true)
    (hl bl k : Nat) :
    ((appRun hl bl (effs.take k)).row = true →
      (appRun hl bl (effs.take k)).synced = hl + bl ∧ (appRun hl bl (effs.take k)).written = hl + bl) ∧
    (appRun hl bl (effs.take k)).written ≤ hl + bl := by
  obtain ⟨p, d, hr⟩ := appSafe_prefix hl bl effs 0 false ⟨0, 0, false, false⟩ h ⟨rfl, fun h => (by cases h), fun _ => rfl, fun h => (by cases h)⟩ k
  exact ⟨appRel_row hl bl p d _ hr, appRel_written_le hl bl p d _ hr⟩

-- the bookkeeping on the generated order: after header and body nothing is synced; at the end all is, row set
example : (appRun 7 3 ((Gen.dpAppendEffects.map (·.e)).take 3)) = ⟨10, 0, false, false⟩ ∧
    (appRun 7 3 (Gen.dpAppendEffects.map (·.e))) = ⟨10, 10, true, true⟩ := by decide

/-- in a store whose rows lie within their packs every fetch returns exactly `size` bytes: no reader of
the index sees a short blob -/
theorem C03_fetch_full_size (st : Store) (hb : InBounds st) (r : Bytes) (n : Nat) (b : Bytes)
    (h : st.fetch r = .ok n b) : b.length = n := by
  unfold Store.fetch at h
  cases hm : st.index.get r with
  | none => simp [hm] at h
  | some m =>
    obtain ⟨p, hp, hle⟩ := hb r m hm
    simp only [hm, hp] at h
    injection h with h1 h2
    subst h1 h2
    exact extent_length_eq p _ _ hle

/-- **crash before the row is written**: whatever prefix of the added bytes reached the pack (torn header,
torn body, everything) and whether or not the next pack file was created, every reader of the index
sees exactly what it saw before the append; the store stays in bounds -/
theorem C03_index_intact_crash_safe (st : Store) (hne : st.packs ≠ []) (hb : InBounds st)
    (ref body : Bytes) (keep : Nat) (np : Bool) :
    (st.crashAppend ref body keep np false).index = st.index ∧
    (∀ r, (st.crashAppend ref body keep np false).fetch r = st.fetch r) ∧
    (∀ r, (st.crashAppend ref body keep np false).stat r = st.stat r) ∧
    InBounds (st.crashAppend ref body keep np false) := by
  have hidx : (st.crashAppend ref body keep np false).index = st.index := by simp [Store.crashAppend]
  have hg := crashAppend_grows st hne ref body keep np false
  refine ⟨hidx, fun r => fetch_of_grows st _ r (by rw [hidx]) hg (hb r), fun r => by simp [Store.stat, hidx],
    inBounds_of_grows st _ hidx hg hb⟩

/-- the row-written state, needing only the OTHER rows to lie within their packs -/
theorem C03_index_row_written_gen (st : Store) (hne : st.packs ≠ [])
    (hb : ∀ r m, r ≠ ref → st.index.get r = some m → ∃ p, st.packs[m.file]? = some p ∧ m.offset + m.size ≤ p.length)
    (body : Bytes) (keep : Nat) (np : Bool) (hk : (appendBytes ref body).length ≤ keep) :
    (st.crashAppend ref body keep np true).fetch ref = .ok body.length body ∧
    (∀ r, r ≠ ref → (st.crashAppend ref body keep np true).fetch r = st.fetch r) ∧
    InBounds (st.crashAppend ref body keep np true) := by
  obtain ⟨init, last, hp⟩ := exists_concat st.packs hne
  have hlast := crashAppend_last st init last hp ref body keep np true
  rw [List.take_of_length_le hk, appendBytes, ← List.append_assoc] at hlast
  exact row_set_of_grows st _ ref body _ _ (crashAppend_index_row st init last hp ref body keep np)
    (crashAppend_grows st hne ref body keep np true) hlast (by rw [List.length_append, List.length_append, Nat.add_assoc]; exact Nat.le_refl _)
    (by rw [← List.length_append]
        have := extent_exact (last ++ encodeHeader ref body.length) body []
        rwa [List.append_nil] at this)
    rfl hb

/-- **crash after the row is written** (so, by the effect order, all added bytes are on disk): the new blob
is served complete, every other blob as before; the store stays in bounds -/
theorem C03_index_row_written (st : Store) (hne : st.packs ≠ []) (hb : InBounds st)
    (ref body : Bytes) (keep : Nat) (np : Bool) (hk : (appendBytes ref body).length ≤ keep) :
    (st.crashAppend ref body keep np true).fetch ref = .ok body.length body ∧
    (∀ r, r ≠ ref → (st.crashAppend ref body keep np true).fetch r = st.fetch r) ∧
    InBounds (st.crashAppend ref body keep np true) :=
  C03_index_row_written_gen st hne (fun r m _ hm => hb r m hm) body keep np hk

/-- **the client's retry after "index row written, data not (all) there"** (the mechanism of
diskpacked.go:655-661: a duplicate is skipped only if its indexed extent lies within the pack file):
whatever strict prefix of the added bytes is in the pack – cut inside the header, at its end, anywhere
inside the body – if the blob is received again FIRST after the restart, it is appended again and
from then on served complete; every other blob is served as before the crashed receive; all rows lie
within their packs again -/
theorem C03_retry_after_row_without_data (st : Store) (hne : st.packs ≠ []) (hb : InBounds st)
    (ref body : Bytes) (keep : Nat) (np : Bool) (hk : keep < (appendBytes ref body).length) :
    ((st.crashAppend ref body keep np true).receive ref body).fetch ref = .ok body.length body ∧
    (∀ r, r ≠ ref → ((st.crashAppend ref body keep np true).receive ref body).fetch r = st.fetch r) ∧
    InBounds ((st.crashAppend ref body keep np true).receive ref body) := by
  obtain ⟨init, last, hp⟩ := exists_concat st.packs hne
  have hidx := crashAppend_index_row st init last hp ref body keep np
  have hg := crashAppend_grows st hne ref body keep np true
  have hlast := crashAppend_last st init last hp ref body keep np true
  -- the duplicate check sees an extent beyond the end of the file: append again
  have hrecv : (st.crashAppend ref body keep np true).receive ref body =
      (st.crashAppend ref body keep np true).append ref body := by
    have hlen : ¬ ((last ++ (appendBytes ref body).take keep).length ≥
        last.length + (encodeHeader ref body.length).length + body.length) := by
      rw [List.length_append, List.length_take, Nat.min_eq_left (Nat.le_of_lt hk), Nat.add_assoc]
      rw [appendBytes, List.length_append] at hk
      exact Nat.not_le.mpr (Nat.add_lt_add_left hk _)
    simp only [Store.receive, hidx, Index.get_set_same]
    simp only [hlast, hlen, if_false]
  have hb' : ∀ r m, r ≠ ref → (st.crashAppend ref body keep np true).index.get r = some m →
      ∃ p, (st.crashAppend ref body keep np true).packs[m.file]? = some p ∧ m.offset + m.size ≤ p.length := by
    intro r m hr hm
    rw [hidx, Index.get_set_other _ _ _ _ hr] at hm
    obtain ⟨p, hp', hle⟩ := hb r m hm
    exact hg.bound hp' hle
  rw [hrecv, append_eq_crashAppend]
  obtain ⟨h1, h2, h3⟩ := C03_index_row_written_gen (ref := ref) _ (fun e => by rw [e] at hlast; cases hlast)
    hb' body _ _ (Nat.le_refl _)
  refine ⟨h1, fun r hr => ?_, h3⟩
  rw [h2 r hr]
  exact fetch_of_grows st _ r (by rw [hidx, Index.get_set_other _ _ _ _ hr]) hg (hb r)

/-- finding F-C03-6: the same state, but another blob (`d-e`) is appended before the retry: the stale
extent of `b-c` lies inside the file again, the size-only duplicate check skips the retry – it is
acknowledged without being stored – and Fetch serves the torn byte glued to the other record -/
theorem C03_retry_after_refill_counterexample :
    let st := ((Store.init 0).crashAppend [98, 45, 99] [1, 2, 3] 8 false true).receive [100, 45, 101] [7, 7, 7]
    (st.receive [98, 45, 99] [1, 2, 3]) = st ∧
    st.fetch [98, 45, 99] = .ok 3 [1, 91, 100] := by decide +kernel

/-- **every crash instant of an append**, for every effect order satisfying `appSafe` (in particular the
regenerated one): take any prefix of the effects, any number `j` of added bytes between what is
synced and what is written; in the resulting on-disk state every other blob is served as before, the
new blob is either served exactly as before the append (absent, for a new blob) or complete – and it
is complete whenever the row is there; nothing is ever served short -/
theorem C03_append_crash_states (effs : List Eff) (h : appSafe 0 false effs = true)
    (st : Store) (hne : st.packs ≠ []) (hb : InBounds st) (ref body : Bytes) (k j : Nat) (np : Bool)
    (hj1 : (appRun (encodeHeader ref body.length).length body.length (effs.take k)).synced ≤ j)
    (_hj2 : j ≤ (appRun (encodeHeader ref body.length).length body.length (effs.take k)).written) :
    let row := (appRun (encodeHeader ref body.length).length body.length (effs.take k)).row
    let st' := st.crashAppend ref body j np row
    (∀ r, r ≠ ref → st'.fetch r = st.fetch r) ∧
    (st'.fetch ref = st.fetch ref ∨ st'.fetch ref = .ok body.length body) ∧
    (row = true → st'.fetch ref = .ok body.length body) ∧
    InBounds st' ∧ (∀ r n b, st'.fetch r = .ok n b → b.length = n) := by
  intro row st'
  obtain ⟨hrow, _⟩ := C03_append_row_only_after_sync effs h (encodeHeader ref body.length).length body.length k
  cases hr : row with
  | false =>
    have e : st' = st.crashAppend ref body j np false := by simp [st', hr]
    obtain ⟨_, h2, _, h4⟩ := C03_index_intact_crash_safe st hne hb ref body j np
    rw [e]
    exact ⟨fun r _ => h2 r, Or.inl (h2 ref), fun hc => (by cases hc), h4, fun r n b hf => C03_fetch_full_size _ h4 r n b hf⟩
  | true =>
    have e : st' = st.crashAppend ref body j np true := by simp [st', hr]
    have hs := (hrow hr).1
    have hk : (appendBytes ref body).length ≤ j := by
      rw [appendBytes, List.length_append, ← hs]; exact hj1
    obtain ⟨h1, h2, h3⟩ := C03_index_row_written st hne hb ref body j np hk
    rw [e]
    exact ⟨h2, Or.inr h1, fun _ => h1, h3, fun r n b hf => C03_fetch_full_size _ h3 r n b hf⟩

/-- the completed append is one of the states of `C03_append_crash_states`, so `InBounds` is an invariant of
receive histories -/
theorem C03_append_preserves_inBounds (st : Store) (hne : st.packs ≠ []) (hb : InBounds st) (ref body : Bytes) :
    InBounds (st.append ref body) ∧ (st.append ref body).fetch ref = .ok body.length body ∧
    (st.append ref body).packs ≠ [] := by
  rw [append_eq_crashAppend]
  obtain ⟨h1, _, h3⟩ := C03_index_row_written st hne hb ref body _ _ (Nat.le_refl _)
  refine ⟨h3, h1, ?_⟩
  obtain ⟨init, last, hp⟩ := exists_concat st.packs hne
  rw [crashAppend_packs st init last hp]
  simp

/-- the hypotheses of `C03_append_crash_states` (and of the theorems before it) hold of the empty store (and, by
`C03_append_preserves_inBounds`, of everything reached from it by appends) -/
example : InBounds (Store.init 0) ∧ (Store.init 0).packs ≠ [] := by
  refine ⟨?_, by decide⟩
  intro r m h; simp [Store.init, Index.get] at h

/-- obligations on the regenerated orders of `(*storage).delete` and `RemoveBlobs`: nothing in them is
synced (so, in the crash model of the property, every subset of {header rewritten, body zeroed, row
deleted} can be what is on disk), and even in program order the pack rewrite (`s.delete`) comes
before the commit of the row deletions – the state "bytes zeroed, row still there" is a plain
prefix of the removal -/
theorem C03_gen_delete_effects :
    (Gen.dpDeleteEffects.map (·.e)).contains .sync = false ∧
    (Gen.dpRemoveEffects.map (·.e)).contains .sync = false ∧
    Gen.dpDeleteEffects.map (·.e) = [.writeAt, .punchHole, .seek, .copy] ∧
    Gen.dpRemoveEffects.map (·.e) = [.indexDelete, .writeAt, .commit] := by decide

/-- the pack file after the part of `delete` given by (`hdr`, `bodyZ`), for a record in the middle of it -/
theorem C03_delete_pack_states (st : Store) (pre post name dg body : Bytes) (f : Nat)
    (h1 : 45 ∉ name) (h2 : 32 ∉ dg)
    (hpack : st.packs[f]? = some (pre ++ encodeHeader (name ++ 45 :: dg) body.length ++ (body ++ post)))
    (hrow : st.index.get (name ++ 45 :: dg) =
      some ⟨f, pre.length + (encodeHeader (name ++ 45 :: dg) body.length).length, body.length⟩)
    (hdr bodyZ : Bool) :
    (st.deletePack (name ++ 45 :: dg) hdr bodyZ)[f]? =
      some (pre ++ (if hdr then encodeHeader (delRef name dg) body.length else encodeHeader (name ++ 45 :: dg) body.length)
        ++ ((if bodyZ then List.replicate body.length 0 else body) ++ post)) ∧
    ∀ j, j ≠ f → (st.deletePack (name ++ 45 :: dg) hdr bodyZ)[j]? = st.packs[j]? := by
  unfold Store.deletePack
  simp only [hrow, hpack, deleteHeaderAt_record pre post name dg body f h1 h2]
  refine ⟨?_, fun j hj => by rw [getElem?_modifyNth, if_neg hj]⟩
  rw [getElem?_modifyNth, if_pos rfl, hpack, Option.map_some,
    ← apply_ite (fun h => pre ++ h ++ (body ++ post))]
  -- either header has the same length, so the body keeps its place
  generalize hH : (if hdr then encodeHeader (delRef name dg) body.length
    else encodeHeader (name ++ 45 :: dg) body.length) = H'
  have hl : H'.length = (encodeHeader (name ++ 45 :: dg) body.length).length :=
    hH ▸ ite_delRef_length hdr name dg body.length
  cases bodyZ
  · rfl
  · rw [if_pos rfl, if_pos rfl, ← hl, ← List.length_append, zeroExtent_record]

/-- **the program-order states of a removal are safe for the pack-only readers**: `delete` rewrites the
header FIRST (the order `C03_gen_delete_effects` pins on the source: `WriteAt` before the hole punch /
zero fill); from then on, whatever the body bytes `B` are (untouched, half zeroed, zeroed), the record
has the deleted form: the walker – hence Reindex – reports it as deleted and the streamer skips it,
so neither can present a reclaimed body as the blob -/
theorem C03_delete_program_order_pack_safe (okRef : Bytes → Bool) (cf : Bool) (rs1 rs2 : List Rec)
    (name dg B : Bytes) (h1 : name ≠ []) (h2 : dg ≠ []) (hl : name.length + dg.length + 1 ≤ 480)
    (hB : B.length < 4294967296)
    (hrs1 : ∀ x ∈ rs1, recOK okRef x = true) (hrs2 : ∀ x ∈ rs2, recOK okRef x = true) :
    walkPack okRef cf (encodePack (rs1 ++ ⟨delRef name dg, B⟩ :: rs2)) =
      (entriesOf (rs1 ++ ⟨delRef name dg, B⟩ :: rs2) 0, none) ∧
    (∀ pos, (entryOf ⟨delRef name dg, B⟩ pos).ref = none) ∧
    liveOf (rs1 ++ ⟨delRef name dg, B⟩ :: rs2) = liveOf rs1 ++ liveOf rs2 := by
  have hd := isDeletedRef_delRef name dg h1 h2
  refine ⟨C03_walk_encode okRef cf _ ?_, fun pos => by simp [entryOf, hd], ?_⟩
  · exact List.forall_mem_append.mpr ⟨hrs1, List.forall_mem_cons.mpr ⟨recOK_delRef okRef name dg B h1 h2 hl hB, hrs2⟩⟩
  · rw [liveOf_append]; simp [liveOf, hd]

-- the header rewrite of `delete` on `b-c`: `x-0`, which is of the deleted form
example : delRef [98] [99] = [120, 45, 48] ∧ isDeletedRef (delRef [98] [99]) = true := by decide

/-- **crash states of a removal, the part that holds**: in every subset state of {header rewritten, body
zeroed, row deleted} in which the body is zeroed only if the row is gone, the blob being removed is
either served complete or not at all; and in ALL eight states every other blob whose bytes do not
overlap the record is served as before -/
theorem C03_delete_crash_states_partial (st : Store) (pre post name dg body : Bytes) (f : Nat)
    (h1 : 45 ∉ name) (h2 : 32 ∉ dg)
    (hpack : st.packs[f]? = some (pre ++ encodeHeader (name ++ 45 :: dg) body.length ++ (body ++ post)))
    (hrow : st.index.get (name ++ 45 :: dg) =
      some ⟨f, pre.length + (encodeHeader (name ++ 45 :: dg) body.length).length, body.length⟩)
    (hdr bodyZ rowDel : Bool) :
    ((bodyZ = true → rowDel = true) →
      (st.crashDelete (name ++ 45 :: dg) hdr bodyZ rowDel).fetch (name ++ 45 :: dg) = .notExist ∨
      (st.crashDelete (name ++ 45 :: dg) hdr bodyZ rowDel).fetch (name ++ 45 :: dg) = .ok body.length body) ∧
    (∀ r m, r ≠ name ++ 45 :: dg → st.index.get r = some m →
      (m.file ≠ f ∨ m.offset + m.size ≤ pre.length ∨
        pre.length + (encodeHeader (name ++ 45 :: dg) body.length ++ body).length ≤ m.offset) →
      (st.crashDelete (name ++ 45 :: dg) hdr bodyZ rowDel).fetch r = st.fetch r) := by
  obtain ⟨hp1, hp2⟩ := C03_delete_pack_states st pre post name dg body f h1 h2 hpack hrow hdr bodyZ
  -- in all four states of the pack the record keeps its place and its lengths
  generalize hH : (if hdr then encodeHeader (delRef name dg) body.length
    else encodeHeader (name ++ 45 :: dg) body.length) = H' at hp1
  generalize hB : (if bodyZ then List.replicate body.length 0 else body) = B' at hp1
  have hHl : H'.length = (encodeHeader (name ++ 45 :: dg) body.length).length :=
    hH ▸ ite_delRef_length hdr name dg body.length
  have hBl : B'.length = body.length := by
    rw [← hB]; split
    · exact List.length_replicate
    · rfl
  constructor
  · intro hg
    cases rowDel with
    | true => exact Or.inl (by simp [Store.fetch, Store.crashDelete, Index.get_del_same])
    | false =>
      have hb : B' = body := by
        rw [← hB, if_neg (fun hz => Bool.noConfusion (hg hz))]
      simp only [Store.fetch, Store.crashDelete, hrow, Bool.false_eq_true, if_false, hp1, hb]
      rw [← hHl, ← List.length_append, ← List.append_assoc, extent_exact]
      exact Or.inr rfl
  · intro r m hr hm hdis
    have hidx : (st.crashDelete (name ++ 45 :: dg) hdr bodyZ rowDel).index.get r = some m := by
      rw [← hm, Store.crashDelete]
      split
      · exact Index.get_del_other _ _ _ hr
      · rfl
    refine fetch_frame st _ r m hm hidx f pre (encodeHeader (name ++ 45 :: dg) body.length ++ body) (H' ++ B') post
      (by simp only [List.length_append, hHl, hBl]) (by rw [hpack, List.append_assoc, List.append_assoc, List.append_assoc])
      (by rw [Store.crashDelete, hp1, List.append_assoc, List.append_assoc, List.append_assoc]) hp2 hdis

/-- finding F-C03-3: header rewritten, body zeroed, row still there (the removal crashed before
`CommitBatch`): Fetch serves three zero bytes as the blob `b-c`, without error -/
theorem C03_delete_crash_states_counterexample :
    let st : Store := ⟨[encodeRecord ⟨[98, 45, 99], [1, 2, 3]⟩], [([98, 45, 99], ⟨0, 7, 3⟩)], 1000⟩
    st.fetch [98, 45, 99] = .ok 3 [1, 2, 3] ∧
    (st.crashDelete [98, 45, 99] true true false).fetch [98, 45, 99] = .ok 3 [0, 0, 0] ∧
    (st.crashDelete [98, 45, 99] true true false).packs = [encodeRecord ⟨[120, 45, 48], [0, 0, 0]⟩] := by
  decide +kernel

/-- finding F-C03-3, second face: header rewritten, body and row still there.  Fetch serves the blob
intact (as the `_partial` theorem says) and a duplicate receive is skipped – acknowledged – because
the row is there; but the pack says "deleted": the rebuilt index and the stream do not have the
acknowledged blob -/
theorem C03_delete_crash_row_outlives_record_counterexample :
    let st : Store := ⟨[encodeRecord ⟨[98, 45, 99], [1, 2, 3]⟩], [([98, 45, 99], ⟨0, 7, 3⟩)], 1000⟩
    let st' := (st.crashDelete [98, 45, 99] true false false).receive [98, 45, 99] [1, 2, 3]
    st'.fetch [98, 45, 99] = .ok 3 [1, 2, 3] ∧
    (st'.reindex (fun _ => true) true true).1.fetch [98, 45, 99] = .notExist ∧
    (streamPacks (fun _ => true) st'.packs).1 = [] := by
  decide +kernel

/-- the hypotheses of `C03_delete_crash_states_partial` hold of that store (`pre = post = []`, name `b`,
digest `c`) -/
example :
    let st : Store := ⟨[encodeRecord ⟨[98, 45, 99], [1, 2, 3]⟩], [([98, 45, 99], ⟨0, 7, 3⟩)], 1000⟩
    st.packs[0]? = some ([] ++ encodeHeader ([98] ++ 45 :: [99]) [1, 2, 3].length ++ ([1, 2, 3] ++ [])) ∧
    st.index.get ([98] ++ 45 :: [99]) =
      some ⟨0, ([] : Bytes).length + (encodeHeader ([98] ++ 45 :: [99]) [1, 2, 3].length).length, [1, 2, 3].length⟩ :=
  ⟨rfl, rfl⟩

/-- finding F-C03-4: the record of `b-c` is in the pack twice (a receive that crashed after the record was
complete but before its row, then the client's retry); `RemoveBlobs` rewrites only the indexed
(second) record, so Reindex from the packs alone lists the removed blob again, and StreamBlobs
presents it -/
theorem C03_removed_duplicate_counterexample :
    let st0 : Store := Store.init 0
    let st1 := (st0.crashAppend [98, 45, 99] [1, 2, 3] 10 false false).receive [98, 45, 99] [1, 2, 3]
    let st2 := st1.remove [[98, 45, 99]]
    st1.fetch [98, 45, 99] = .ok 3 [1, 2, 3] ∧ st2.fetch [98, 45, 99] = .notExist ∧
    ((st2.reindex (fun _ => true) true true).1.fetch [98, 45, 99] = .ok 3 [1, 2, 3]) ∧
    (streamPacks (fun _ => true) st2.packs).1 = [([98, 45, 99], [1, 2, 3])] := by
  decide +kernel

/-- the completed removal (`RemoveBlobs`) of that store: the row is gone and the record has the deleted
form, which the walker skips -/
example :
    let st : Store := ⟨[encodeRecord ⟨[98, 45, 99], [1, 2, 3]⟩], [([98, 45, 99], ⟨0, 7, 3⟩)], 1000⟩
    (st.remove [[98, 45, 99]]).fetch [98, 45, 99] = .notExist ∧
    walkPack (fun _ => true) true ((st.remove [[98, 45, 99]]).packs.headD []) = ([⟨none, 7, 3⟩], none) := by
  decide +kernel

end Pk.Pack

namespace Pk.FilesStore

/-- obligation on the regenerated order of `files.ReceiveBlob`: on the success path and on every error
path (the calls before the failing one, then the deferred `Remove`) the temp file is created once,
written once, synced before the rename, nothing touches it after the rename, only VFS calls occur;
the success path ends with the rename done -/
theorem C03_gen_files_effects : CrashSafePred Pk.Gen.filesReceiveEffects = true := by decide

/-- the temp name (`<ref>.dat.tmp<digits>`: whatever `TempFile` appends to the prefix ends in a digit) is
never a `.dat` name, and so never the blob's own file name -/
theorem C03_files_tmp_not_dat (root ref data : Bytes) (n : Nat) :
    hasSuffix (tmpName (ctxOf root ref data).dir (ctxOf root ref data).pfx n) dotDat = false ∧
    tmpName (ctxOf root ref data).dir (ctxOf root ref data).pfx n ≠ (ctxOf root ref data).final := by
  refine ⟨tmpName_not_dat _ _ _, tmpName_ne_dat _ _ _ _ ?_⟩
  simp only [ctxOf, blobPath, blobFileBaseName, join]
  rw [show blobDirectory root ref ++ 47 :: (ref ++ dotDat) = (blobDirectory root ref ++ 47 :: ref) ++ dotDat by simp]
  exact hasSuffix_append _ _

/-- **files store, every crash instant**: for EVERY effect order satisfying `CrashSafePred`, every path
through it (success or any failing call), every prefix `k` of that path and every amount `j` of
un-synced data that survives: after the crash every file at the blob's path is either a file that
was there before the receive, unchanged, or holds exactly the new data – never a partial blob –
and every other file that is not one of this receive's temp files is exactly as before.
(`hT` is what `C03_files_tmp_not_dat` shows for `ctxOf`.) -/
theorem C03_files_crash_safe (l : List EffAt) (hl : CrashSafePred l = true) (c : Ctx) (v0 : VFS)
    (hT : ∀ n, tmpName c.dir c.pfx n ≠ c.final) (h0 : Restarted c v0)
    (path : List Eff) (hp : IsPath l path) (k j : Nat) :
    (∀ f ∈ ((run c ⟨v0, none⟩ (path.take k)).vfs.crash j).files, f.path = c.final →
      f.dur = f.cur ∧ (f.cur = c.data ∨ f ∈ v0.files)) ∧
    (∀ f ∈ ((run c ⟨v0, none⟩ (path.take k)).vfs.crash j).files, f.path ≠ c.final →
      (∀ n, f.path ≠ tmpName c.dir c.pfx n) → f ∈ v0.files) ∧
    (∀ f ∈ v0.files, f.path ≠ c.final → (∀ n, f.path ≠ tmpName c.dir c.pfx n) →
      f ∈ ((run c ⟨v0, none⟩ (path.take k)).vfs.crash j).files) := by
  obtain ⟨aEnd, hs⟩ := scan_of_pred l hl path hp
  obtain ⟨ak, _, hb, _⟩ := run_safe path hs (FrameInv.init hT h0) Rel.zero k
  exact ⟨fun f hf hp' => hb.final_file f ((hb.crash_mem h0 j f (Or.inl hp')).mp hf) hp',
    fun f hf hp' hn => hb.frame_sub f ((hb.crash_mem h0 j f (Or.inr hn)).mp hf) hp' hn,
    fun f hf hp' hn => (hb.crash_mem h0 j f (Or.inr hn)).mpr (hb.frame_sup f hf hp' hn)⟩

/-- **acknowledged ⇒ durable**: once the success path has run to its end, the blob's file exists and,
whatever un-synced data a crash drops, holds exactly the data -/
theorem C03_files_ack_durable (l : List EffAt) (hl : CrashSafePred l = true) (c : Ctx) (v0 : VFS)
    (hT : ∀ n, tmpName c.dir c.pfx n ≠ c.final) (h0 : Restarted c v0) (j : Nat) :
    ∃ f, ((run c ⟨v0, none⟩ (successPath l)).vfs.crash j).lookup c.final = some f ∧
      (f.cur = c.data ∨ f ∈ v0.files) ∧ f.dur = f.cur := by
  have hs : scan 0 (successPath l) = some 4 := by
    simp only [CrashSafePred, Bool.and_eq_true, beq_iff_eq] at hl; exact hl.1
  obtain ⟨ak, hk, hb, hr⟩ := run_safe _ hs (FrameInv.init hT h0) Rel.zero (successPath l).length
  rw [List.take_length] at hk hb hr
  obtain ⟨f0, hf0, hp0⟩ := hr.2 (Option.some.inj (hk.symm.trans hs))
  cases hl' : ((run c ⟨v0, none⟩ (successPath l)).vfs.crash j).lookup c.final with
  | none =>
    have := lookup_isNone_eq_false _ _ ⟨f0, (hb.crash_mem h0 j f0 (Or.inl hp0)).mpr hf0, hp0⟩
    rw [hl'] at this; cases this
  | some f =>
    obtain ⟨hmem, hpath⟩ := lookup_some _ _ _ hl'
    obtain ⟨h1, h2⟩ := hb.final_file f ((hb.crash_mem h0 j f (Or.inl hpath)).mp hmem) hpath
    exact ⟨f, rfl, h2, h1⟩

example : Restarted (ctxOf [47, 114] [98, 45, 99] [1, 2]) ⟨[[47, 114]], [], 1⟩ := by
  constructor <;> intro f hf <;> cases hf

/-- the generated order, run on an empty store with its success path cut after `copy` (3 effects) and all
un-synced data kept: the data sits in the temp file only -/
example :
    ((run (ctxOf [47, 114] [98, 45, 99] [1, 2]) ⟨⟨[[47, 114]], [], 1⟩, none⟩
      ((successPath Gen.filesReceiveEffects).take 3)).vfs.crash 9).files.map (fun f => (hasSuffix f.path dotDat, f.cur)) =
      [(false, [1, 2])] := by decide +kernel

/-- **enumerate ignores temp files**: every entry `EnumerateBlobs` lists is a file named `<ref>.dat` (so
never a `TempFile` name, which ends in a digit) and carries that file's size -/
theorem C03_files_enumerate_ignores_tmp (okRef : Bytes → Bool) (v : VFS) (root : Bytes) :
    ∀ e ∈ (enumerate okRef v root).1, ∃ f ∈ v.files, hasSuffix f.path dotDat = true ∧
      (∃ d, f.path = join d (e.1 ++ dotDat)) ∧ e.2 = f.cur.length ∧
      ∀ dir pfx n, f.path ≠ tmpName dir pfx n := by
  intro e he
  have hs : EnumSound v (enumerate okRef v root).1 := by
    unfold enumerate
    split
    · exact readBlobs_sound okRef v 8 root
    · intro e he; cases he
  obtain ⟨f, hf, d, hp, hsz⟩ := hs e he
  have hdat : hasSuffix f.path dotDat = true := by
    rw [hp, join, show d ++ 47 :: (e.1 ++ dotDat) = (d ++ 47 :: e.1) ++ dotDat by simp]
    exact hasSuffix_append _ _
  exact ⟨f, hf, hdat, ⟨d, hp⟩, hsz, fun dir pfx n e' => tmpName_ne_dat dir pfx n _ hdat e'.symm⟩

end Pk.FilesStore
