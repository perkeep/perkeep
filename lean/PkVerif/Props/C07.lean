import PkVerif.Lemmas.Attr
import PkVerif.Gen.C07
/-!
# C07 – permanode attributes and deletions follow the documented claim semantics

Property theorems only.  `Pk.Attr.*` (Model/Attr.lean) models pkg/index corpus.go, util.go, index.go
and the claim-folding composition of location.go; the spec is `Pk.Attr.Spec` (Spec/Attr.lean):

* the value of an attribute at time `T` for a signer is the fold, in claim-date order, of that
  signer's non-deleted set/add/del claims dated ≤ `T` (`Spec.AttrValues`; equal dates are unordered,
  so the spec is a relation; `Spec.attrValues` picks the arrangement with equal dates in blobref order,
  which is what the code does since 83d40e9, and is THE value when dates are pairwise distinct);
* a blob is deleted iff some delete claim targets it whose own ref is not deleted
  (`Spec.IsDeleted`: the defining equation; the theorem shows the recursion is its unique solution).

`search.Handler.Describe` is covered as a fourth observer of the three index modes
(`C07_describe_path_spec`): it respects deletions and presents the spec values as a set.

Status: the folds, the incremental cache, the cache-validity rule (as repaired by 2f922c1) and both
deletion recursions satisfy the spec for all inputs.  "All query paths agree with the spec" is FALSE on
the code: the corpus attribute queries never consult deletions (finding F-C07-1) – stated as
`C07_all_paths_agree_partial` (no deleted claim on the permanode) + `C07_all_paths_agree_counterexample`.
-/
namespace Pk.Attr

-- three claims on permanode 0, used by the examples
def exA : Claim := ⟨1, 7, 0, 0, .set, [116], [111], 2000⟩
def exB : Claim := ⟨2, 3, 0, 1, .add, [116], [110], 1000⟩
def exC : Claim := ⟨3, 5, 0, 0, .del, [116], [], 3000⟩

/-- the function is one of the allowed results, whatever the dates -/
theorem C07_spec_attrValues_allowed (cs : List Claim) (deleted : Nat → Bool) (attr : Bytes) (t : Nat)
    (f : Option Nat) : Spec.AttrValues cs deleted attr t f (Spec.attrValues cs deleted attr t f) :=
  ⟨sortByDate cs, ⟨sortByDate_perm cs, (sortByDate_sorted cs).sorted⟩, rfl⟩

/-- the arrangement the code uses (equal dates by blobref, 83d40e9) is one of the arrangements the
spec allows -/
theorem C07_linK_is_lin (l cs : List Claim) (h : Spec.IsLinK l cs) : Spec.IsLin l cs := ⟨h.1, h.2.sorted⟩

/-- with pairwise distinct dates the spec allows exactly one result -/
theorem C07_spec_linearisation_unique (cs : List Claim) (hd : DistinctDates cs) (deleted : Nat → Bool)
    (attr : Bytes) (t : Nat) (f : Option Nat) (vs : List Bytes) :
    Spec.AttrValues cs deleted attr t f vs ↔ vs = Spec.attrValues cs deleted attr t f := by
  constructor
  · rintro ⟨l, ⟨hp, hs⟩, rfl⟩
    have : l = sortByDate cs :=
      sorted_perm_unique l (sortByDate cs) (hp.trans (sortByDate_perm cs).symm) hs (sortByDate_sorted cs).sorted
        (hd.perm hp.symm)
    rw [this]; rfl
  · rintro rfl; exact C07_spec_attrValues_allowed cs deleted attr t f

example : DistinctDates [exA, exB, exC] := by unfold DistinctDates; decide

/-- **the three folds compute the spec's fold**: on any date-sorted claim list (equal dates in any
order), `claimsIntfAttrValue`'s loop (util.go:76), the loop of `AppendPermanodeAttrValues`
(corpus.go:1345) and the boolean loop of `PermanodeHasAttrValue` (corpus.go:1530, with its `break`)
fold exactly the claims that count, in the order of the list – a result the spec allows for that claim
set (deletions aside: none of them looks at deletions), for every attribute, time (zero = now) and signer. -/
theorem C07_fold_implementations_agree (l : List Claim) (hs : Sorted l) (attr val : Bytes)
    (at_ : Option Nat) (now : Nat) (f : Option Nat) :
    let spec := fun g => foldVals (l.filter (Spec.counts noDel attr (at_.getD now) g))
    Spec.AttrValues l noDel attr (at_.getD now) f (spec f) ∧
    claimsIntfAttrValues l attr at_ now (filtOf f) = spec f ∧
    appendValuesLoop l attr (at_.getD now) (filtOf f) = spec f ∧
    hasLoop attr val (at_.getD now) l false = decide (val ∈ spec none) := by
  intro spec
  simp only [spec, counts_noDel]
  refine ⟨⟨l, ⟨List.Perm.refl _, hs⟩, by rw [counts_noDel]⟩, claimsIntfAttrValues_eq _ _ _ _ _,
    appendValuesLoop_eq _ _ _ _, hasLoop_false_eq attr val _ l hs⟩

/-- on a list in the code's own order (date, then blobref: what `pm.Claims` is) that result is the
spec function -/
theorem C07_fold_implementations_agree_fn (l : List Claim) (hs : SortedK l) (attr val : Bytes)
    (at_ : Option Nat) (now : Nat) (f : Option Nat) :
    claimsIntfAttrValues l attr at_ now (filtOf f) = Spec.attrValues l noDel attr (at_.getD now) f ∧
    appendValuesLoop l attr (at_.getD now) (filtOf f) = Spec.attrValues l noDel attr (at_.getD now) f ∧
    hasLoop attr val (at_.getD now) l false = decide (val ∈ Spec.attrValues l noDel attr (at_.getD now) none) := by
  obtain ⟨_, a, b, c⟩ := C07_fold_implementations_agree l hs.sorted attr val at_ now f
  unfold Spec.attrValues
  rw [sortByDate_of_sorted l hs]
  exact ⟨a, b, c⟩

/-- the two value folds do not even need the list sorted: they fold what counts in the order given -/
theorem C07_fold_in_given_order (l : List Claim) (attr : Bytes) (at_ : Option Nat) (now : Nat) (f : Option Nat) :
    claimsIntfAttrValues l attr at_ now (filtOf f) = foldVals (l.filter (Spec.counts noDel attr (at_.getD now) f)) ∧
    appendValuesLoop l attr (at_.getD now) (filtOf f) = foldVals (l.filter (Spec.counts noDel attr (at_.getD now) f)) := by
  rw [counts_noDel]
  exact ⟨claimsIntfAttrValues_eq _ _ _ _ _, appendValuesLoop_eq _ _ _ _⟩

example : Sorted [exB, exA, exC] := by unfold Sorted; decide
example : SortedK [exB, exA, exC] := by unfold SortedK KeyLe; decide
example : claimsIntfAttrValues [exB, exA, exC] [116] (some 2500) 0 (filtOf none) = [[111]] := rfl

/-- **any arrival order**: after the claims `arr` of a permanode arrived one by one at a live corpus
(mergeClaimRow → fixupLastClaim: append path or re-sort path → appendAttrClaim → cacheAttrClaim),
`pm.Claims` is `arr` in date order (equal dates by blobref), `pm.attr` maps every attribute to the
fold of that order, and `pm.signer` has, for exactly the signers that have a claim, the fold of
their claims. -/
theorem C07_incremental_cache_correct (arr : List Claim) :
    Spec.IsLinK (incPM arr).claims arr ∧
    (∀ attr, get ((incPM arr).attr.getD []) attr = attrFold (incPM arr).claims attr) ∧
    (∀ s, lookupS (incPM arr).signer s = none → ∀ c ∈ arr, c.signer ≠ s) ∧
    (∀ s ms, lookupS (incPM arr).signer s = some ms → ∀ attr, get ms attr = attrFoldS (incPM arr).claims attr s) := by
  obtain ⟨hi, hp⟩ := incPM_inv arr
  refine ⟨⟨hp, hi.sorted⟩, hi.cache.attr, ?_, hi.cache.signerSome⟩
  intro s hs c hc
  exact hi.cache.signerNone s hs c (hp.mem_iff.mpr hc)

/-- the cache after ANY arrival order is the fold of the sorted list – equal dates included, as long as
no two claims share date and blobref (since 83d40e9; before, tied claims stayed in arrival order) -/
theorem C07_incremental_cache_eq_sorted_fold (arr : List Claim) (hd : DistinctKeys arr) :
    (incPM arr).claims = sortByDate arr ∧
    (∀ attr, get ((incPM arr).attr.getD []) attr = attrFold (sortByDate arr) attr) ∧
    (∀ s ms, lookupS (incPM arr).signer s = some ms → ∀ attr, get ms attr = attrFoldS (sortByDate arr) attr s) := by
  obtain ⟨hlin, ha, _, hsig⟩ := C07_incremental_cache_correct arr
  have hc : (incPM arr).claims = sortByDate arr := hlin.unique hd (isLinK_sortByDate arr)
  rw [hc] at ha hsig
  exact ⟨hc, ha, hsig⟩

/-- two arrival orders of the same claims (equal dates or not) give the same claim list and the same
answers to every attribute query – in particular the live corpus and the corpus loaded at start
(`loadPM`: rows in key order, then restoreInvariants) cannot be told apart -/
theorem C07_incremental_eq_loaded (arr rows : List Claim) (hp : rows.Perm arr) (hd : DistinctKeys arr)
    (attr val : Bytes) (at_ : Option Nat) (now : Nat) (f : Option Nat) :
    (incPM arr).claims = (loadPM rows).claims ∧
    pmAttrValues (incPM arr) attr at_ now f = pmAttrValues (loadPM rows) attr at_ now f ∧
    pmAttrValue (incPM arr) attr at_ now f = pmAttrValue (loadPM rows) attr at_ now f ∧
    pmHasAttrValue (incPM arr) attr val at_ now = pmHasAttrValue (loadPM rows) attr val at_ now := by
  obtain ⟨hi, hpi⟩ := incPM_inv arr
  obtain ⟨hl, hpl⟩ := loadPM_inv rows
  have hc : (incPM arr).claims = (loadPM rows).claims :=
    Spec.IsLinK.unique hd ⟨hpi, hi.sorted⟩ ⟨hpl.trans hp, hl.sorted⟩
  refine ⟨hc, ?_, ?_, ?_⟩
  · rw [pmAttrValues_eq _ hi, pmAttrValues_eq _ hl, hc]
  · rw [pmAttrValue_eq _ hi, pmAttrValue_eq _ hl, hc]
  · rw [pmHasAttrValue_eq _ hi, pmHasAttrValue_eq _ hl, hc]

example : (incPM [exC, exA, exB]).claims = [exB, exA, exC] := rfl
/-- two claims with the same date: whichever arrives first, the one with the smaller blobref comes first -/
def exT1 : Claim := ⟨4, 9, 0, 0, .set, [116], [120], 2000⟩
def exT2 : Claim := ⟨5, 2, 0, 1, .set, [116], [121], 2000⟩
example : DistinctKeys [exT1, exT2] := by unfold DistinctKeys; decide
example : (incPM [exT1, exT2]).claims = [exT2, exT1] ∧ (incPM [exT2, exT1]).claims = [exT2, exT1] := ⟨rfl, rfl⟩
example : get ((incPM [exA, exB]).attr.getD []) [116] = [[111]] := rfl

/-- **valuesAtSigner hands out a cached map only when it is right for the time asked** (corpus.go:282,
as repaired by 2f922c1): then no claim of the permanode is dated after `T` (zero = now), and the map
holds, for every attribute, the spec values at `T` for that signer filter; `(nil, true)` is answered
only when nothing counts.  (`Inv pm` is what `C07_incremental_cache_correct` / `restoreInvariants`
establish.) -/
theorem C07_cache_valid_at_T (pm : PM) (hi : Inv pm) (at_ : Option Nat) (now : Nat) (f : Option Nat) :
    (∀ m, valuesAtSigner pm at_ now f = some (some m) →
      (∀ c ∈ pm.claims, c.date ≤ at_.getD now) ∧
      ∀ attr, get m attr = Spec.attrValues pm.claims noDel attr (at_.getD now) f) ∧
    (valuesAtSigner pm at_ now f = some none →
      ∀ attr, Spec.attrValues pm.claims noDel attr (at_.getD now) f = []) := by
  constructor
  · intro m h
    obtain ⟨hall, hm⟩ := cache_valid pm hi at_ now f m h
    refine ⟨hall, fun attr => ?_⟩
    unfold Spec.attrValues
    rw [sortByDate_of_sorted _ hi.sorted, counts_noDel]
    exact hm attr
  · intro h attr
    unfold Spec.attrValues
    rw [sortByDate_of_sorted _ hi.sorted, counts_noDel, nilok_valid pm hi at_ now f h]
    rfl

/-- before 2f922c1 the rule was wrong at the zero time: with a claim dated after now, the cache was
handed out although it is not the value at now (finding F-C07-2, fixed) -/
theorem C07_cache_valid_at_T_old_counterexample :
    ∃ (pm : PM) (m : AttrMap), Inv pm ∧ valuesAtSignerOld pm none none = some (some m) ∧
      get m [116] ≠ Spec.attrValues pm.claims noDel [116] 1500 none :=
  ⟨incPM [exB, exA], _, (incPM_inv _).1, rfl, by decide⟩

example : Inv (incPM [exC, exA, exB]) := (incPM_inv _).1
example : ∃ m, valuesAtSigner (incPM [exA, exB]) (some 2500) 0 (some 1) = some (some m) := ⟨_, rfl⟩
example : valuesAtSigner (incPM [exA, exB]) (some 1500) 0 none = none := by decide
example : valuesAtSigner (incPM [exA, exB]) none 1500 none = none := by decide

/-- the hypothesis `World.WF` of the deletion theorems is not an extra assumption about histories: it
holds after any sequence of deliveries (`addClaim`, `addDelete` are what the driver executes) -/
theorem C07_deliveries_wf (w w' : World) (hg : w.Good) :
    (∀ c, w.addClaim c = some w' → w'.Good) ∧ (∀ d, w.addDelete d = some w' → w'.Good) :=
  ⟨fun _ h => hg.addClaim h, fun _ h => hg.addDelete h⟩

example : (World.empty.addClaim exA).bind (fun w => w.addDelete ⟨.cl 1, 2, 0, 10, 0⟩) ≠ none := by decide

/-- **both recursions are the spec, at any delete/undelete depth**: on each of the three paths
(Index.isDeleted over the deletes cache, Corpus.IsDeleted over the live corpus's map and over the map
read back from the `deleted|` rows) the answer satisfies "deleted iff targeted by a delete claim that
is not itself deleted", and it is the only predicate that does – so all three paths agree. -/
theorem C07_isDeleted_spec (w : World) (hw : w.WF) (m : Mode) :
    Spec.IsDeleted w.dels (w.isDeleted m) ∧
    ∀ P, Spec.IsDeleted w.dels P → ∀ x, P x = w.isDeleted m x := by
  have hfun : w.isDeleted m = isDeletedIn w.fuel w.dels :=
    funext fun x => isDeletedIn_congr (w.mem_deletes m) w.fuel x
  rw [hfun]
  exact ⟨(isDeleted_bool_iff _ _).2 (isDeletedIn_fixpoint w.dels refOrd w.fuel (w.delWF hw) w.fuel (Nat.le_refl _)),
    fun P hP => isDeletedIn_unique w.dels refOrd w.fuel (w.delWF hw) w.fuel (Nat.le_refl _) P
      ((isDeleted_bool_iff _ _).1 hP)⟩

/-- the three paths give the same answer -/
theorem C07_isDeleted_paths_agree (w : World) (m m' : Mode) (x : Ref) : w.isDeleted m x = w.isDeleted m' x :=
  w.isDeleted_eq m m' x

/-- a chain of depth 4: claim 1, deleted by 2, deleted by 3, deleted by 4, deleted by 5 -/
def exChain : World :=
  { pns := [0], claims := [exA], maxId := 5,
    dels := [⟨.cl 1, 2, 0, 10, 0⟩, ⟨.cl 2, 3, 0, 11, 0⟩, ⟨.cl 3, 4, 1, 12, 0⟩, ⟨.cl 4, 5, 0, 9, 0⟩] }

example : exChain.WF := by unfold World.WF; decide
example : [1, 2, 3, 4, 5].map (fun i => exChain.isDeleted .load (.cl i)) = [false, true, false, true, false] := rfl

/-- **the index path is the spec** (location.go as repaired by f282908: Index.AppendClaims without
corpus, sort by date and blobref, claimsIntfAttrValue): for every history, permanode, attribute, time
and signer filter the answer is the first of the values the spec allows, deletions included; the
arrangement used is the code's own (`IsLinK`: equal dates by blobref). -/
theorem C07_index_path_spec (w : World) (p : Nat) (attr : Bytes) (at_ : Option Nat) (now : Nat) (f : Option Nat) :
    ∃ l, Spec.IsLinK l (w.claimsOf p) ∧
      let vs := foldVals (l.filter (Spec.counts (fun id => w.idxIsDeleted (.cl id)) attr (at_.getD now) f))
      Spec.AttrValues (w.claimsOf p) (fun id => w.idxIsDeleted (.cl id)) attr (at_.getD now) f vs ∧
      w.idxAttrValue p attr at_ now f = headVal vs := by
  have hl : Spec.IsLinK (sortByDate (w.rowsOf p)) (w.claimsOf p) :=
    ⟨(sortByDate_perm _).trans (w.rowsOf_perm p), sortByDate_sorted _⟩
  refine ⟨_, hl, ⟨_, C07_linK_is_lin _ _ hl, rfl⟩, ?_⟩
  rw [w.idxAttrValue_eq]
  rfl

/-- **the corpus paths are the spec with deletions ignored**: live or loaded at start, cache or fold,
`AppendPermanodeAttrValues` / `PermanodeAttrValue` / `PermanodeHasAttrValue` return the spec values of
the permanode's claims as if nothing were deleted (in the code's arrangement `l`, which is one the
spec allows: `C07_linK_is_lin`). -/
theorem C07_corpus_paths_spec_without_deletion (w : World) (m : Mode) (hm : m ≠ .idx) (p : Nat) (attr val : Bytes)
    (at_ : Option Nat) (now : Nat) (f : Option Nat) :
    ∃ l, Spec.IsLinK l (w.claimsOf p) ∧
      w.corpusAttrValues m p attr at_ now f = foldVals (l.filter (Spec.counts noDel attr (at_.getD now) f)) ∧
      w.corpusAttrValue m p attr at_ now f
        = headVal (foldVals (l.filter (Spec.counts noDel attr (at_.getD now) f))) ∧
      w.corpusHasAttrValue m p attr val at_ now
        = decide (val ∈ foldVals (l.filter (Spec.counts noDel attr (at_.getD now) none))) := by
  unfold World.corpusAttrValues World.corpusAttrValue World.corpusHasAttrValue
  rw [counts_noDel, counts_noDel]
  cases h : w.pm m p with
  | none => exact ⟨[], ⟨by rw [w.pm_none m p hm h], List.Pairwise.nil⟩, rfl, rfl, rfl⟩
  | some pm =>
    obtain ⟨hi, hp⟩ := w.pm_inv m p pm h
    exact ⟨pm.claims, ⟨hp, hi.sorted⟩, pmAttrValues_eq pm hi attr at_ now f, pmAttrValue_eq pm hi attr at_ now f,
      pmHasAttrValue_eq pm hi attr val at_ now⟩

/-- **the two corpus paths agree on every attribute query, equal dates included** (since 83d40e9 the
claim order breaks date ties by blobref, so it no longer depends on arrival order and survives a
restart); the only condition is that no two claim rows share date AND blobref -/
theorem C07_corpus_paths_agree (w : World) (p : Nat) (hd : DistinctKeys (w.claimsOf p)) (attr val : Bytes)
    (at_ : Option Nat) (now : Nat) (f : Option Nat) :
    w.corpusAttrValues .inc p attr at_ now f = w.corpusAttrValues .load p attr at_ now f ∧
    w.corpusAttrValue .inc p attr at_ now f = w.corpusAttrValue .load p attr at_ now f ∧
    w.corpusHasAttrValue .inc p attr val at_ now = w.corpusHasAttrValue .load p attr val at_ now := by
  obtain ⟨l₁, h₁, a₁, b₁, c₁⟩ :=
    C07_corpus_paths_spec_without_deletion w .inc (by decide) p attr val at_ now f
  obtain ⟨l₂, h₂, a₂, b₂, c₂⟩ :=
    C07_corpus_paths_spec_without_deletion w .load (by decide) p attr val at_ now f
  have : l₁ = l₂ := h₁.unique hd h₂
  subst this
  exact ⟨a₁.trans a₂.symm, b₁.trans b₂.symm, c₁.trans c₂.symm⟩

/-- **all query paths agree with the spec – as far as the code goes**: when no claim row of the
permanode is deleted, the index path, the live corpus and the corpus loaded at start all return the
same spec value (`Spec.attrValues`: equal dates in blobref order – THE spec value when dates are
pairwise distinct, by `C07_spec_linearisation_unique`), for every attribute, time (before / between /
after / zero) and signer filter.  Without the guard this is false: `C07_all_paths_agree_counterexample`. -/
theorem C07_all_paths_agree_partial (w : World) (p : Nat) (hd : DistinctKeys (w.claimsOf p))
    (hnd : ∀ c ∈ w.claimsOf p, w.idxIsDeleted (.cl c.id) = false)
    (attr val : Bytes) (at_ : Option Nat) (now : Nat) (f : Option Nat) :
    let del : Nat → Bool := fun id => w.idxIsDeleted (.cl id)
    let spec := Spec.attrValues (w.claimsOf p) del attr (at_.getD now) f
    w.idxAttrValue p attr at_ now f = headVal spec ∧
    (∀ m, m ≠ .idx → w.corpusAttrValue m p attr at_ now f = headVal spec ∧
      w.corpusAttrValues m p attr at_ now f = spec ∧
      w.corpusHasAttrValue m p attr val at_ now
        = decide (val ∈ Spec.attrValues (w.claimsOf p) del attr (at_.getD now) none)) := by
  intro del spec
  have hfilt : ∀ (l : List Claim) (g : Option Nat), l.Perm (w.claimsOf p) →
      l.filter (Spec.counts noDel attr (at_.getD now) g) = l.filter (Spec.counts del attr (at_.getD now) g) :=
    fun l g hp => List.filter_congr fun c hc => by simp [Spec.counts, noDel, del, hnd c (hp.mem_iff.mp hc)]
  have huniq : ∀ l, Spec.IsLinK l (w.claimsOf p) → l = sortByDate (w.claimsOf p) :=
    fun l hl => hl.unique hd (isLinK_sortByDate _)
  constructor
  · obtain ⟨l, hl, _, hv⟩ := C07_index_path_spec w p attr at_ now f
    rw [hv, huniq l hl]
    rfl
  · intro m hm
    obtain ⟨l, hl, a, b, c⟩ := C07_corpus_paths_spec_without_deletion w m hm p attr val at_ now f
    rw [a, b, c, hfilt l f hl.1, hfilt l none hl.1, huniq l hl]
    exact ⟨rfl, rfl, rfl⟩

/-- set t=n at 1000, set t=o at 2000 (claim 2), claim 2 deleted by claim 3 -/
def exDeleted : World :=
  { pns := [0], maxId := 3, dels := [⟨.cl 2, 3, 0, 3000, 9⟩],
    claims := [⟨1, 7, 0, 0, .set, [116], [110], 1000⟩, ⟨2, 3, 0, 0, .set, [116], [111], 2000⟩] }

/-- **the corpus attribute queries ignore the deletion of attribute claims** (finding F-C07-1): after
the newest set-attribute claim is deleted, the index path answers with the older value (the spec),
both corpus paths still answer with the deleted claim's value. -/
theorem C07_all_paths_agree_counterexample :
    exDeleted.WF ∧ DistinctKeys (exDeleted.claimsOf 0) ∧
    exDeleted.idxAttrValue 0 [116] none 5000 none = [110] ∧
    Spec.attrValues (exDeleted.claimsOf 0) (fun id => exDeleted.idxIsDeleted (.cl id)) [116] 5000 none = [[110]] ∧
    exDeleted.corpusAttrValue .inc 0 [116] none 5000 none = [111] ∧
    exDeleted.corpusAttrValue .load 0 [116] none 5000 none = [111] ∧
    exDeleted.corpusAttrValues .inc 0 [116] (some 2500) 5000 none = [[111]] ∧
    exDeleted.corpusHasAttrValue .load 0 [116] [111] none 5000 = true := by
  refine ⟨?_, ?_, ?_⟩
  · unfold World.WF; decide
  · unfold DistinctKeys; decide
  · decide +kernel

/-- a history that satisfies the guards of `C07_all_paths_agree_partial`: claims delivered out of date
order by two signers, one claim deleted and undeleted again -/
def exUndeleted : World :=
  { pns := [0], maxId := 5, claims := [exA, exB, exC],
    dels := [⟨.cl 1, 4, 0, 10, 0⟩, ⟨.cl 4, 5, 1, 11, 0⟩] }

example : DistinctKeys (exUndeleted.claimsOf 0) := by unfold DistinctKeys; decide
example : ∀ c ∈ exUndeleted.claimsOf 0, exUndeleted.idxIsDeleted (.cl c.id) = false := by decide
example : exUndeleted.idxAttrValue 0 [116] (some 2500) 0 none = [111] := rfl

/-- **Describe is the spec on all three index modes, deletions respected**: `search.Handler.Describe`
(describe.go:820 populatePermanodeFields over index.AppendClaims for the handler's owner, with or
without corpus) returns the spec values of the owner's non-deleted claims, presented as a set (`norm`:
empty values dropped, first occurrence of a value kept).  Its zero time means "all claims"
(DescribeRequest.At), i.e. any `t` no claim is dated after. -/
theorem C07_describe_path_spec (w : World) (m : Mode) (p : Nat) (attr : Bytes) (at_ : Option Nat) (s t : Nat)
    (ht : at_ = some t ∨ (at_ = none ∧ ∀ c ∈ w.claimsOf p, c.date ≤ t)) :
    ∃ vs, Spec.AttrValues (w.claimsOf p) (fun id => w.idxIsDeleted (.cl id)) attr t (some s) vs ∧
      w.describe m p attr at_ s = norm vs := by
  obtain ⟨l, hp, hs, he⟩ := w.describe_eq m p attr at_ s
  refine ⟨_, ⟨l, ⟨hp, hs.sorted⟩, rfl⟩,
    he.trans (congrArg (fun l => norm (foldVals l)) (List.filter_congr fun c hc => ?_))⟩
  rcases ht with rfl | ⟨rfl, h2⟩
  · simp [Spec.counts, notAfter]
  · simp [Spec.counts, notAfter, h2 c (hp.mem_iff.mp hc)]

/-- the three modes give the same Describe answer, equal dates included (Describe sorts the owner's
claims with the same total order, describe.go:833) -/
theorem C07_describe_modes_agree (w : World) (p : Nat) (hd : DistinctKeys (w.claimsOf p)) (m m' : Mode)
    (attr : Bytes) (at_ : Option Nat) (s : Nat) : w.describe m p attr at_ s = w.describe m' p attr at_ s := by
  obtain ⟨l, hp, hs, he⟩ := w.describe_eq m p attr at_ s
  obtain ⟨l', hp', hs', he'⟩ := w.describe_eq m' p attr at_ s
  have : l = l' := Spec.IsLinK.unique hd ⟨hp, hs⟩ ⟨hp', hs'⟩
  rw [he, he', this]

example : exDeleted.describe .inc 0 [116] none 0 = [[110]] := rfl
example : exDeleted.describe .idx 0 [116] (some 2500) 0 = [[110]] := rfl

/-- **deleted claims are skipped, on every path**: Index.AppendClaims (rows, no corpus) and
Corpus.AppendClaims (live or loaded) return exactly the permanode's claim rows that are not deleted and
pass the signer and attribute filters; the corpus returns them in date order, equal dates by blobref
(the index promises no order: interface.go). -/
theorem C07_appendClaims_spec (w : World) (p : Nat) (f : Option Nat) (a : Option Bytes) :
    let want := (w.claimsOf p).filter (fun c =>
      signerOk f c && !w.idxIsDeleted (.cl c.id) && attrFilterOk a c)
    (w.idxAppendClaims p f a).Perm want ∧
    ∀ m, m ≠ .idx → (w.corpusAppendClaims m p f a).Perm want ∧ SortedK (w.corpusAppendClaims m p f a) := by
  intro want
  constructor
  · exact List.Perm.filter _ (w.rowsOf_perm p)
  · intro m hm
    obtain ⟨l, hp, hs, he⟩ := w.corpusAppendClaims_eq m hm p f a
    rw [he]
    exact ⟨List.Perm.filter _ hp, hs.filter _⟩

example : (exDeleted.idxAppendClaims 0 none none).map (·.id) = [1] := rfl
example : (exDeleted.corpusAppendClaims .inc 0 none none).map (·.id) = [1] := rfl

/-! ## facts regenerated from the source (Pk.Gen, group C07) -/

/-- the four claim-type strings the folds switch on are the ones the model's `Kind` names, pairwise
distinct (so a claim's `Type` determines its `Kind`) -/
theorem C07_gen_claim_types :
    Gen.c07ClaimTypes = ["set-attribute", "add-attribute", "del-attribute", "delete"] ∧ Gen.c07ClaimTypes.Nodup :=
  ⟨rfl, by simp [Gen.c07ClaimTypes]⟩

/-- location.go, index without corpus: the claims of AppendClaims are sorted by date before they are
folded (f282908) – the composition the harness's `attr idx` executes and `World.idxAttrValue` models -/
theorem C07_gen_location_sorts_before_fold : Gen.c07LocationCalls = ["AppendClaims", "sort.Sort", "claimSlice"] :=
  rfl

/-- camtypes: `ClaimPtrsByDate.Less` and `ClaimsByDate.Less` both go through `claimBefore`, which orders
equal dates by blobref (83d40e9) – the order `claimLt` / `dateLe` model -/
theorem C07_gen_claim_order_tie_break : Gen.c07ClaimOrderTieBreak = true := by decide

/-- describe.go populatePermanodeFields sorts the owner's claims (ClaimsByDate) after AppendClaims and
before folding them – `World.describe` models exactly that; the index rows alone are in the order of
the date TEXT, which is not the order in time inside one second -/
theorem C07_gen_describe_sorts_before_fold :
    Gen.c07DescribeCalls = ["AppendClaims", "sort.Sort", "ClaimsByDate"] := rfl

/-- scanFromStorage: every scanPrefix precedes restoreInvariants, which precedes initDeletes (`loadPM`) -/
theorem C07_gen_scan_order :
    Gen.c07ScanCalls.dropWhile (· == "scanPrefix") = ["restoreInvariants", "initDeletes"] := by
  simp [Gen.c07ScanCalls]

/-- valuesAtSigner turns the zero time into time.Now() instead of returning the cache (2f922c1) -/
theorem C07_gen_zero_time_is_now : Gen.c07ZeroTimeIsNow = true := by decide

/-- mergeClaimRow appends the claim and calls fixupLastClaim exactly when the corpus is not building -/
theorem C07_gen_fixup_when_not_building : Gen.c07FixupWhenNotBuilding = true := by decide

end Pk.Attr
