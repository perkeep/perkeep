import PkVerif.Lemmas.IndexCanon
import PkVerif.Gen.C05
/-!
# C05 – the index is a function of the set of blobs, not of their arrival order

Property theorems only. `Pk.Index` models pkg/index receive.go / index.go / keys.go at level 1 (one
`ReceiveBlob` is atomic; the asynchronous re-index goroutines are the separate `reidx` steps of a
schedule). A *schedule* (`List Act`) is any sequence of source-adds, arrivals (duplicates allowed),
re-index steps and restarts; it is `Valid` when every blob reaches the source before the index and
restarts happen at quiescence (`readyReindex` empty). `WF W` says fetch dependencies (keys, chunks,
bytes blobs, static sets) need nothing themselves and no delete claim targets itself. `ver` is the schema
version an empty index is stamped with (`requiredSchemaVersion`, pkg/index/keys.go:32: the 5 of the examples).

The theorems are about the code after the fixes c9dd462 (row 13 of DESIGN §12) and e826ac0; the
`Old.*` counterexamples show what the code before did.
-/
namespace Pk.Index
open Pk Pk.SMap

/-- key 1; permanode 2; claim 3 on 2; delete claim 4 of 2; chunks 5, 6; file 7 = 5 ++ 6; delete claim 8 of 7 -/
def W0 : World := fun r =>
  match r with
  | 1 => ⟨.key 0, 449, [116]⟩
  | 2 => ⟨.pn 1, 557, []⟩
  | 3 => ⟨.claim 1 2 .set (.indexed 0) (.str 1) 1000 0, 726, []⟩
  | 4 => ⟨.del 1 2 2000, 675, []⟩
  | 5 => ⟨.opaque, 40, []⟩
  | 6 => ⟨.opaque, 50, []⟩
  | 7 => ⟨.file 1 0 90 [116] 1 none [.chunk 5 40, .chunk 6 50], 243, []⟩
  | 8 => ⟨.del 1 7 3000, 675, []⟩
  | _ => ⟨.opaque, 0, []⟩

theorem W0_wf : WF W0 :=
  wf_of_bounded W0 9 (fun b hb => by obtain ⟨k, rfl⟩ := Nat.exists_eq_add_of_le' hb; rfl) (by decide)

/-- the delete claim arrives before its target, the index restarts, then the target arrives -/
def actsDel : List Act := [.src 1, .recv 1, .src 4, .recv 4, .restart, .src 2, .recv 2, .reidx 4]

/-- the file arrives before its chunks; the index restarts between the two chunks -/
def actsFile : List Act :=
  [.src 7, .recv 7, .src 5, .recv 5, .reidx 7, .restart, .src 6, .recv 6, .reidx 7]

/-- **Quiescent state is canonical.** Whatever the schedule (order, interleaving of the asynchronous
re-indexing, duplicates, restarts at quiescence), once every blob of the source has been delivered at
least once and nothing is left in `readyReindex`, the rows are the canonical rows of the source. -/
theorem C05_quiescent_state_canonical (W : World) (ver : Nat) (hW : WF W) (c : Bool) (acts : List Act)
    (hv : Valid W ver (State.init ver c) acts)
    (hq : (run W ver (State.init ver c) acts).ready = [])
    (hall : ∀ b ∈ (run W ver (State.init ver c) acts).src, Act.recv b ∈ acts) :
    (run W ver (State.init ver c) acts).rows = canonicalRows W ver (run W ver (State.init ver c) acts).src :=
  final_rows hW (allInv_reachable hW hv).1 hq (fun b hb => (mem_delivered acts b).mpr (hall b hb))

example : Valid W0 5 (State.init 5 false) actsDel ∧ (run W0 5 (State.init 5 false) actsDel).ready = [] ∧
    (∀ b ∈ (run W0 5 (State.init 5 false) actsDel).src, Act.recv b ∈ actsDel) :=
  ⟨valid_of_validB _ _ _ _ (by decide +kernel), by decide +kernel⟩

/-- **The index is a function of the set of blobs.** Two schedules that deliver the same set end in the
same rows – whatever their orders, duplicates, interleavings and restarts. -/
theorem C05_rows_function_of_set (W : World) (ver : Nat) (hW : WF W) (c c' : Bool) (acts acts' : List Act)
    (hv : Valid W ver (State.init ver c) acts) (hv' : Valid W ver (State.init ver c') acts')
    (hq : (run W ver (State.init ver c) acts).ready = []) (hq' : (run W ver (State.init ver c') acts').ready = [])
    (hall : ∀ b ∈ (run W ver (State.init ver c) acts).src, Act.recv b ∈ acts)
    (hall' : ∀ b ∈ (run W ver (State.init ver c') acts').src, Act.recv b ∈ acts')
    (hset : ∀ x, x ∈ (run W ver (State.init ver c) acts).src ↔ x ∈ (run W ver (State.init ver c') acts').src) :
    (run W ver (State.init ver c) acts).rows = (run W ver (State.init ver c') acts').rows := by
  rw [C05_quiescent_state_canonical W ver hW c acts hv hq hall,
    C05_quiescent_state_canonical W ver hW c' acts' hv' hq' hall']
  exact canonicalRows_congr W ver _ _ hset

/-- the canonical rows themselves depend on the set only, not on the list that presents it -/
theorem C05_canonical_rows_of_set (W : World) (ver : Nat) (S S' : List Ref) (h : ∀ x, x ∈ S ↔ x ∈ S') :
    canonicalRows W ver S = canonicalRows W ver S' := canonicalRows_congr W ver S S' h

example : canonicalRows W0 5 [1, 2, 4] = canonicalRows W0 5 [4, 2, 1, 2] :=
  C05_canonical_rows_of_set W0 5 _ _ (by
    intro x; simp only [List.mem_cons, List.mem_nil_iff, or_false]
    constructor
    · rintro (rfl | rfl | rfl) <;> simp
    · rintro (rfl | rfl | rfl | rfl) <;> simp)

/-- what the canonical index says about each blob of the set: fully indexed, or indexed as far as
possible (delete claim without its target's meta row), or only remembered – and nothing about others -/
theorem C05_quiescent_status (W : World) (ver : Nat) (hW : WF W) (c : Bool) (acts : List Act)
    (hv : Valid W ver (State.init ver c) acts)
    (hq : (run W ver (State.init ver c) acts).ready = [])
    (hall : ∀ b ∈ (run W ver (State.init ver c) acts).src, Act.recv b ∈ acts) (b : Ref) :
    stOf W (run W ver (State.init ver c) acts).rows b = canonStatus W (run W ver (State.init ver c) acts).src b :=
  final_status hW (allInv_reachable hW hv).1 hq (fun b hb => (mem_delivered acts b).mpr (hall b hb)) b

/-- **Pending blobs are remembered**, at every moment of every schedule (quiescent or not): a delivered
blob that is not fully indexed and is not queued for re-indexing is in `needs`, and the dependency is
persisted as a `missing|have|needed` row. -/
theorem C05_pending_remembered (W : World) (ver : Nat) (hW : WF W) (c : Bool) (acts : List Act)
    (hv : Valid W ver (State.init ver c) acts) (b : Ref) (hb : Act.recv b ∈ acts)
    (hnf : stOf W (run W ver (State.init ver c) acts).rows b ≠ .full)
    (hnr : b ∉ (run W ver (State.init ver c) acts).ready) :
    ∃ m, (b, m) ∈ (run W ver (State.init ver c) acts).needs ∧
      SMap.get (run W ver (State.init ver c) acts).rows (kMissing b m) = some [1] := by
  have h := allInv_reachable hW hv
  rcases h.1.j1 b ((mem_delivered acts b).mpr hb) (by simp) hnf with ⟨m, hm⟩ | h1
  · exact ⟨m, hm, by rw [h.1.r3 b m, if_pos ⟨hm, hnf⟩]⟩
  · exact absurd h1 hnr

example : Act.recv 4 ∈ [Act.src 1, .recv 1, .src 4, .recv 4] ∧
    stOf W0 (run W0 5 (State.init 5 false) [.src 1, .recv 1, .src 4, .recv 4]).rows 4 = .half ∧
    (4, 2) ∈ (run W0 5 (State.init 5 false) [.src 1, .recv 1, .src 4, .recv 4]).needs := by decide +kernel

/-- before c9dd462 the `missing|` row of a delete claim that waits for its target was deleted by
`removeAllMissingEdges` in the very ReceiveBlob that wrote it: in `needs`, but not persisted -/
theorem C05_pending_remembered_old_counterexample :
    (4, 2) ∈ (Old.run W0 5 (State.init 5 false) [.src 1, .recv 1, .src 4, .recv 4]).needs ∧
    SMap.get (Old.run W0 5 (State.init 5 false) [.src 1, .recv 1, .src 4, .recv 4]).rows (kMissing 4 2) = none := by
  decide +kernel

/-- **A restart forgets nothing**: at quiescence the dependencies reloaded from the `missing|` rows are
exactly those of the blobs that are not fully indexed. -/
theorem C05_restart_keeps_pending (W : World) (ver : Nat) (hW : WF W) (c : Bool) (acts : List Act)
    (hv : Valid W ver (State.init ver c) acts) (b m : Ref) :
    (b, m) ∈ ((run W ver (State.init ver c) acts).restart ver).needs ↔
      ((b, m) ∈ (run W ver (State.init ver c) acts).needs ∧ stOf W (run W ver (State.init ver c) acts).rows b ≠ .full) :=
  restart_needs (allInv_reachable hW hv).1 b m

/-- **Restart midway.** A schedule that restarts the index at any quiescent prefix and then delivers the
remaining blobs ends in the canonical rows of the source, like every other schedule. -/
theorem C05_restart_midway (W : World) (ver : Nat) (hW : WF W) (c : Bool) (acts1 acts2 : List Act)
    (hv : Valid W ver (State.init ver c) (acts1 ++ Act.restart :: acts2))
    (hq : (run W ver (State.init ver c) (acts1 ++ Act.restart :: acts2)).ready = [])
    (hall : ∀ b ∈ (run W ver (State.init ver c) (acts1 ++ Act.restart :: acts2)).src,
      Act.recv b ∈ acts1 ++ Act.restart :: acts2) :
    (run W ver (State.init ver c) (acts1 ++ Act.restart :: acts2)).rows =
      canonicalRows W ver (run W ver (State.init ver c) (acts1 ++ Act.restart :: acts2)).src :=
  C05_quiescent_state_canonical W ver hW c _ hv hq hall

example : Valid W0 5 (State.init 5 false) actsFile ∧ (run W0 5 (State.init 5 false) actsFile).ready = [] ∧
    stOf W0 (run W0 5 (State.init 5 false) actsFile).rows 7 = .full :=
  ⟨valid_of_validB _ _ _ _ (by decide +kernel), by decide +kernel⟩

/-- before e826ac0 the `missing|file|chunk1` row survived the indexing of chunk 1; a restart loaded it
back into `needs`, and the file stayed unindexed for ever although both chunks had arrived; before
c9dd462 a delete claim that arrived before its target was forgotten by a restart -/
theorem C05_restart_midway_old_counterexample :
    (Old.run W0 5 (State.init 5 false) actsFile).ready = [] ∧
    stOf W0 (Old.run W0 5 (State.init 5 false) actsFile).rows 7 = .absent ∧
    (Old.run W0 5 (State.init 5 false) actsDel).ready = [] ∧
    stOf W0 (Old.run W0 5 (State.init 5 false) actsDel).rows 4 = .half ∧
    (Old.run W0 5 (State.init 5 false) actsDel).needs = [] := by decide +kernel

/-- the quiescence condition on restarts is necessary: `readyReindex` lives in memory only, so an index
that is stopped between the indexing of a dependency and the re-indexing of the blob that waited for it
(here: file 7 is ready once chunk 5 is in) forgets that blob – nothing re-indexes it when the last chunk
arrives (DESIGN §8 C05 "to be examined"; `index.integrityCheck` / a full reindex are the remedies) -/
theorem C05_restart_not_quiescent_counterexample :
    (run W0 5 (State.init 5 false) [.src 7, .recv 7, .src 5, .recv 5]).ready = [7] ∧
    stOf W0 (run W0 5 (State.init 5 false) [.src 7, .recv 7, .src 5, .recv 5, .restart, .src 6, .recv 6]).rows 7 = .absent ∧
    (run W0 5 (State.init 5 false) [.src 7, .recv 7, .src 5, .recv 5, .restart, .src 6, .recv 6]).ready = [] ∧
    (run W0 5 (State.init 5 false) [.src 7, .recv 7, .src 5, .recv 5, .restart, .src 6, .recv 6]).needs = [] := by decide +kernel

/-- **Reindex = incremental.** `Reindex` (wipe, index every blob of the source in any order with the
asynchronous re-indexing in between, wait) produces the canonical rows of the source – the rows every
incremental schedule over the same set ends in (`C05_quiescent_state_canonical`). -/
theorem C05_reindex_equals_incremental (W : World) (ver : Nat) (hW : WF W) (s : State) (fuel : Nat)
    (order : List Ref) (hcov : ∀ b ∈ s.src, b ∈ order)
    (hq : (State.reindexAll W ver fuel s order).ready = []) :
    (State.reindexAll W ver fuel s order).rows = canonicalRows W ver s.src := by
  obtain ⟨seen', i1, i2, _, i4⟩ := allInv_reindexLoop hW fuel order _ [] (allInv_reopen_nil W ver s.src false)
  have hsrc : (reindexLoop W fuel (reopen ver [] s.src false) order).src = s.src := i2
  have := final_rows hW i1.1 hq (fun b hb => i4 b (hcov b (by rw [← hsrc]; exact hb)) (by rw [← hsrc]; exact hb))
  rw [hsrc] at this
  exact this

example : (State.reindexAll W0 5 20 (run W0 5 (State.init 5 false) [.src 1, .src 2, .src 4]) [4, 2, 1]).ready = [] ∧
    ∀ b ∈ (run W0 5 (State.init 5 false) [.src 1, .src 2, .src 4]).src, b ∈ [4, 2, 1] := by decide +kernel

/-- the invariant behind all of the above holds in every state of every valid schedule -/
theorem C05_invariant_reachable (W : World) (ver : Nat) (hW : WF W) (c : Bool) (acts : List Act)
    (hv : Valid W ver (State.init ver c) acts) :
    AllInv W ver (run W ver (State.init ver c) acts) (delivered acts ++ []) :=
  allInv_run hW acts _ [] (allInv_init W ver c) hv

/-- ReceiveBlob: commit, then corpus.addBlob, then noteBlobIndexedLocked, then removeAllMissingEdges –
and the last one only under a condition (`!mm.partial`, c9dd462) -/
theorem C05_gen_receive_order :
    Gen.c05ReceiveEffects.map (·.e) = [.commit, .corpusAdd, .noteIndexed, .removeMissingEdges] ∧
    (Gen.c05ReceiveEffects.filter (fun x => x.e == .removeMissingEdges)).all (·.cond) = true ∧
    (Gen.c05ReceiveEffects.filter (fun x => x.e == .commit || x.e == .noteIndexed)).all (fun x => !x.cond) = true := by
  decide

/-- noteBlobIndexedLocked deletes the `missing|` row of the satisfied dependency (e826ac0) -/
theorem C05_gen_note_indexed_deletes_row : Gen.c05NoteIndexedEffects.map (·.e) = [.indexDelete] := by decide

/-- Reindex indexes the blobs and rebuilds the deletes cache afterwards -/
theorem C05_gen_reindex_order : Gen.c05ReindexEffects.map (·.e) = [.storeReceive, .initDeletes] := by decide

end Pk.Index
