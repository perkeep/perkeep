import PkVerif.Props.C05
/-!
# C06 – live index and corpus always equal what a restart would load

Property theorems only. The model is C05's (`Pk.Index`) with the two in-memory mirrors: the index's
deletes cache (`State.deletes`) and the corpus (`State.corpus`: the rows merged so far, its deletes and
the flag `bad` = some row was merged twice). `observe` is the exported query surface: blob meta,
deletion status through the index and through the corpus, and per permanode its claims in date order,
modtime, content time, attribute values, and the two permanode orderings. `observeReload rows` is what
a fresh `index.New` + `KeepInMemory` over the same rows answers.

The theorems are about the code after the fixes 598c029 (row 14 of DESIGN §12), 12ff980 (row 15) and
260ba65 (row 16); the `Old.*` counterexamples show what the code before did.
-/
namespace Pk.Index
open Pk Pk.SMap

/-- a delete claim (4) of a permanode (2) arrives before it; then the claim on it -/
def actsLate : List Act := [.src 1, .recv 1, .src 4, .recv 4, .src 2, .recv 2, .reidx 4, .src 3, .recv 3]

/-- **Live = reload**, in every state of every schedule (also while blobs are still waiting for
dependencies or queued for re-indexing): the answers of the running index and corpus are those of a
fresh index and corpus opened over the same rows. -/
theorem C06_live_equals_reload (W : World) (ver : Nat) (hW : WF W) (acts : List Act)
    (hv : Valid W ver (State.init ver true) acts) (univ pns : List Ref) (fuel : Nat) :
    (run W ver (State.init ver true) acts).observe univ pns fuel =
      some (observeReload (run W ver (State.init ver true) acts).rows univ pns fuel) :=
  have h := allInv_reachable hW hv
  observe_of_mirrors _ h.1.kasc h.2.1 h.2.2 (by rw [run_corpus_isSome]; rfl) univ pns fuel

example : Valid W0 5 (State.init 5 true) actsLate := valid_of_validB _ _ _ _ (by decide +kernel)

/-- the answers are not trivial in the example: permanode 2 is deleted for both the index and the
corpus, and its claims are listed although the delete claim came first -/
example : (run W0 5 (State.init 5 true) actsLate).observe [1, 2, 3, 4] [2] 10 =
    some { metas := [(1, some [449, 0, 116]), (2, some [557, 1]), (3, some [726, 2]), (4, some [675, 2])],
           backs := [(1, []), (2, []), (3, []), (4, [])],
           deleted := [(1, false, false), (2, true, true), (3, false, false), (4, false, false)],
           pns := [⟨2, [3, 4], 2000, 2000, some (0, 1), none, none⟩],
           byMod := [], byCreated := [], bad := false } := by decide +kernel

/-- **A restart changes no answer**: at quiescence the restarted index and corpus answer like the
running ones. -/
theorem C06_restart_preserves_queries (W : World) (ver : Nat) (hW : WF W) (acts : List Act)
    (hv : Valid W ver (State.init ver true) acts) (hq : (run W ver (State.init ver true) acts).ready = [])
    (univ pns : List Ref) (fuel : Nat) :
    ((run W ver (State.init ver true) acts).restart ver).observe univ pns fuel =
      (run W ver (State.init ver true) acts).observe univ pns fuel := by
  have h := allInv_reachable hW hv
  have hcs : (run W ver (State.init ver true) acts).corpus.isSome = true := by rw [run_corpus_isSome]; rfl
  have hr := allInv_restart h hq
  rw [observe_of_mirrors _ hr.1.kasc hr.2.1 hr.2.2 (by rw [restart_eq h.1, hcs]; rfl),
    observe_of_mirrors _ h.1.kasc h.2.1 h.2.2 hcs, restart_rows h.1]

/-- the index's own deletes cache answers `IsDeleted` like the cache a restart rebuilds from the
`deleted|` rows (with or without a corpus) -/
theorem C06_index_isDeleted_survives_restart (W : World) (ver : Nat) (hW : WF W) (c : Bool) (acts : List Act)
    (hv : Valid W ver (State.init ver c) acts) (fuel : Nat) (br : Ref) :
    isDeletedIn fuel (run W ver (State.init ver c) acts).deletes br =
      isDeletedIn fuel (delsOfRows (run W ver (State.init ver c) acts).rows) br := by
  have h := allInv_reachable hW hv
  exact isDeletedIn_congr _ _ h.2.2 fuel br

/-- before 598c029 `initNeededMapsLocked` emptied the deletes cache that `initDeletesCacheLocked` had just
filled: after a restart `Index.IsDeleted` was false for everything -/
theorem C06_restart_loses_deletes_old_counterexample :
    isDeletedIn 10 (run W0 5 (State.init 5 true) actsLate).deletes 2 = true ∧
    isDeletedIn 10 (Old.restart 5 (run W0 5 (State.init 5 true) actsLate)).deletes 2 = false ∧
    isDeletedIn 10 ((run W0 5 (State.init 5 true) actsLate).restart 5).deletes 2 = true := by decide +kernel

/-- every row reaches the live corpus exactly once: no `dup blob seen` panic, no duplicated claim, and
the corpus rows and deletes are those a load of the index rows gives -/
theorem C06_corpus_mirrors_rows (W : World) (ver : Nat) (hW : WF W) (acts : List Act)
    (hv : Valid W ver (State.init ver true) acts) (c : Corpus)
    (hc : (run W ver (State.init ver true) acts).corpus = some c) :
    c.bad = false ∧ c.m = (Corpus.load (run W ver (State.init ver true) acts).rows).m ∧
    ∀ d, d ∈ c.deletes ↔ d ∈ (Corpus.load (run W ver (State.init ver true) acts).rows).deletes := by
  have h := allInv_reachable hW hv
  have hck := h.2.1 c hc
  exact ⟨hck.1, COk_m_eq _ h.1.kasc c hck, hck.2.2.2⟩

/-- before 12ff980 `corpus.addBlob` skipped every blob already in `c.blobs`: the second, complete pass
of a delete claim that had arrived before its target never reached the live corpus – neither the
deletion nor the claim row -/
theorem C06_dup_guard_old_counterexample :
    (Old.run W0 5 (State.init 5 true) actsLate).rows = (run W0 5 (State.init 5 true) actsLate).rows ∧
    (Old.run W0 5 (State.init 5 true) actsLate).observe [2] [2] 10 ≠
      some (observeReload (Old.run W0 5 (State.init 5 true) actsLate).rows [2] [2] 10) ∧
    ((Old.run W0 5 (State.init 5 true) actsLate).observe [2] [2] 10).map (·.deleted) = some [(2, true, false)] := by
  decide +kernel

/-- before 260ba65 a delete claim whose target is neither a permanode nor a claim (here: file 7) got no
`deleted|` row but was noted in both deletes caches: deleted while running, not deleted after a restart -/
theorem C06_noted_without_row_old_counterexample :
    ((Old.run W0 5 (State.init 5 true) [.src 1, .recv 1, .src 5, .src 6, .src 7, .recv 7, .src 8, .recv 8]).observe [7] [] 10).map (·.deleted)
      = some [(7, true, true)] ∧
    (observeReload (Old.run W0 5 (State.init 5 true) [.src 1, .recv 1, .src 5, .src 6, .src 7, .recv 7, .src 8, .recv 8]).rows [7] [] 10).deleted
      = [(7, false, false)] ∧
    ((run W0 5 (State.init 5 true) [.src 1, .recv 1, .src 5, .src 6, .src 7, .recv 7, .src 8, .recv 8]).observe [7] [] 10).map (·.deleted)
      = some [(7, false, false)] := by decide +kernel

/-- **A failed ReceiveBlob changes no answer and keeps live = reload.** When the index's store fails the
`Set` of a `missing|` row or the `CommitBatch` of the blob's rows, ReceiveBlob returns the error before the
corpus, the deletes cache and the rows are touched (at most the `missing|` row noted before a partial
commit survives); the live index and corpus still answer like a fresh index and corpus opened over the
rows that did get persisted – and the blob can be received again (the result state is again one the
other theorems apply to: it is `s` or `s` with one more noted dependency). -/
theorem C06_failed_receive_keeps_live_equals_reload (W : World) (ver : Nat) (hW : WF W) (acts : List Act)
    (hv : Valid W ver (State.init ver true) acts) (b : Ref) (f : Fault)
    (hfail : ((run W ver (State.init ver true) acts).receiveFault W b f).2 = false)
    (univ pns : List Ref) (fuel : Nat) :
    (((run W ver (State.init ver true) acts).receiveFault W b f).1).observe univ pns fuel =
      some (observeReload (((run W ver (State.init ver true) acts).receiveFault W b f).1).rows univ pns fuel) := by
  have h := allInv_reachable hW hv
  have hcs : (run W ver (State.init ver true) acts).corpus.isSome = true := by rw [run_corpus_isSome]; rfl
  rcases receiveFault_failed W _ b f hfail with e | ⟨t, e⟩ <;> rw [e]
  · exact observe_of_mirrors _ h.1.kasc h.2.1 h.2.2 hcs univ pns fuel
  · obtain ⟨m1, m2, m3⟩ := mirrors_noteNeeded _ h.1.kasc h.2.1 h.2.2 b t
    exact observe_of_mirrors _ m1 m2 m3 hcs univ pns fuel

/-- the hypothesis is satisfiable, and the failure is visible nowhere: the commit of permanode 2 fails -/
example : ((run W0 5 (State.init 5 true) [.src 1, .recv 1, .src 2]).receiveFault W0 2 .commit).2 = false ∧
    ((run W0 5 (State.init 5 true) [.src 1, .recv 1, .src 2]).receiveFault W0 2 .commit).1.rows =
      (run W0 5 (State.init 5 true) [.src 1, .recv 1, .src 2]).rows := by decide

/-- handing the mutation map to the corpus *before* the commit (a variant the effect-order obligation
`C06_gen_commit_then_mirrors` rules out) breaks live = reload as soon as one commit fails -/
theorem C06_corpus_before_commit_counterexample :
    let s := run W0 5 (State.init 5 true) [.src 1, .recv 1, .src 2]
    let s' := s.corpusAdd 2 (fullRows W0 2) false          -- addBlob done, CommitBatch failed
    s'.observe [2] [] 10 ≠ some (observeReload s'.rows [2] [] 10) := by decide

/-- `New` builds the deletes cache and then the needs maps; `initNeededMapsLocked` calls
`newDeletionCache` nowhere (598c029) -/
theorem C06_gen_new_order :
    Gen.c05NewEffects.map (·.e) = [.initDeletes, .initNeeded] ∧ Gen.c05InitNeededEffects = [] := by decide

/-- `commit` updates the deletes cache after the batch is committed; ReceiveBlob hands the corpus the
mutation map it just committed, before anything else happens -/
theorem C06_gen_commit_then_mirrors :
    Gen.c05CommitEffects.map (·.e) = [.commit, .initDeletes] ∧
    (Gen.c05ReceiveEffects.map (·.e)).take 2 = [.commit, .corpusAdd] := by decide

end Pk.Index
