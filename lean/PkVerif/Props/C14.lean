import PkVerif.Lemmas.Conc
import PkVerif.Gen.C14
/-!
# C14 – concurrent clients see linearizable, race-free stores and index   (PARTIAL by design)

What is a theorem here: the **logic** of the locking.  In the interleaving model of
`PkVerif/Model/Conc.lean` – any number of clients, each running one public call at a time, a call
being the sequence of atomic sections that the Go code delimits by taking/releasing its mutex or by
touching the OS / its index, ANY interleaving of the sections of different calls – every completed
call answers what the sequential reference map `Pk.RefMap` answers at a designated linearisation
point inside the call's invocation/response interval (`C14_linearizable`, by forward simulation),
and every acknowledged, never-removed blob is in the final state (`C14_acked_survive`).

Where today's code does not satisfy this, the model reproduces the code and the theorem carries the
deviation as an explicit decidable guard (`dpAnom`, `fsAnom`; `C14_anomalies_confined` says what they
are) next to a concrete counterexample schedule:

* files: `ReceiveBlob` answers an error when the blob is removed between its `Rename` and the `Lstat`
  that follows (`C14_files_recv_err_counterexample`);
* diskpacked: `RemoveBlobs` zeroes the data before the index row is dropped; a `Fetch` in between
  returns zero bytes (`C14_diskpacked_fetch_zeroed_counterexample`);
* files, diskpacked: `EnumerateBlobs` is a scan of the live directory tree / index, not a snapshot
  (`C14_enum_scan_counterexample`).

What is NOT a theorem (and cannot be one in this model): that a section really is atomic.  That needs
(a) every access to the shared fields to be under the lock – checked syntactically on the source by
`/verif/extract` (fact kind Locks) and stated on the regenerated table as
`C14_gen_lock_discipline`, `C14_gen_no_nested_lock`; and (b) the Go memory model and scheduler,
which are not modelled: absence of data races in the binary is only *observed*, by the race detector
on the schedules the harness explores.
-/
namespace Pk.Conc
open Pk Pk.SMap Pk.RefMap

/-! ## linearizability, for every store whose sections satisfy the simulation obligations -/

/-- For ANY number of clients and ANY interleaving of their atomic sections, the recorded trace is
linearizable: every call has one linearisation event between its invocation and its response, the
operations taken in the order of these events form a run of the reference map, and every response
equals the reference map's answer at the call's linearisation event (or is an anomaly that `anom`
lists explicitly). -/
theorem C14_linearizable {content : Bytes → Bytes} {S : CStore} {anom : Op → Out → Bool}
    (R : CRefines content S anom) (sched : List Lbl) (hwk : SchedWK content sched) :
    Linearizable anom (exec S sched).trace = true :=
  (sim_exec R sched hwk).ok

/-- the shared state at the end is the reference map after the linearised history -/
theorem C14_final_state_is_sequential {content : Bytes → Bytes} {S : CStore} {anom : Op → Out → Bool}
    (R : CRefines content S anom) (sched : List Lbl) (hwk : SchedWK content sched) :
    R.abs (exec S sched).sh = runState [] (linOps (exec S sched).trace) := by
  have hs := sim_exec R sched hwk
  rw [← hs.m_eq]
  exact (replay_runState anom _ hs.ok).1

/-- every response in an accepted trace belongs to a call that passed its linearisation point (the
check `Linearizable` moreover forces the order invocation < linearisation < response per client) -/
theorem C14_response_has_lin_point (anom : Op → Out → Bool) (tr : List Ev)
    (h : Linearizable anom tr = true) (c : Nat) (op : Op) (o : Out) (hr : Ev.ret c op o ∈ tr) :
    ∃ c', Ev.lin c' op ∈ tr :=
  mem_linOps ((replay_runState anom tr h).2 c op o hr)

/-- All acknowledged, unremoved blobs are present in the final state: if some client's receive of `k`
has returned and no client ever invoked a remove of `k`, the final state has `k` – whatever the
interleaving, whatever else is still in flight. -/
theorem C14_acked_survive {content : Bytes → Bytes} {S : CStore} {anom : Op → Out → Bool}
    (R : CRefines content S anom) (sched : List Lbl) (hwk : SchedWK content sched)
    (k v : Bytes) (c : Nat) (o : Out) (hack : Ev.ret c (.recv k v) o ∈ (exec S sched).trace)
    (hnorm : ∀ c', Lbl.call c' (.rm k) ∉ sched) :
    has (R.abs (exec S sched).sh) k = true := by
  have hs := sim_exec R sched hwk
  obtain ⟨_, hret⟩ := replay_runState anom _ hs.ok
  rw [C14_final_state_is_sequential R sched hwk]
  apply has_runState kasc_nil k _ (Or.inr ⟨v, hret c _ o hack⟩)
  intro op hop
  obtain ⟨c', hl⟩ := mem_linOps hop
  exact exec_ops S (fun op => op ≠ .rm k) sched
    (fun c op hm e => hnorm c (by rw [← e]; exact hm)) _ hl

/-! ## the three stores -/

/-- memory.Storage (every method one section under `s.mu`): linearizable at full strength -/
theorem C14_lockmap_linearizable (content : Bytes → Bytes) (sched : List Lbl) (hwk : SchedWK content sched) :
    Linearizable noAnom (exec lockMap sched).trace = true :=
  C14_linearizable (lockMapRefines content) sched hwk

/-- diskpacked (unlocked duplicate check, then the locked append; remove = zero the data, then drop
the index row; enumerate = a scan): linearizable up to the two listed anomalies -/
theorem C14_diskpacked_linearizable_partial (content : Bytes → Bytes) (sched : List Lbl)
    (hwk : SchedWK content sched) : Linearizable dpAnom (exec dpStore sched).trace = true :=
  C14_linearizable (dpRefines content) sched hwk

/-- files/localdisk (mkdir / temp file / rename / lstat; fetch = stat then open): linearizable up to the
two listed anomalies -/
theorem C14_files_linearizable_partial (content : Bytes → Bytes) (sched : List Lbl)
    (hwk : SchedWK content sched) : Linearizable fsAnom (exec filesStore sched).trace = true :=
  C14_linearizable (fsRefines content) sched hwk

/-- the guards of the two partial theorems say exactly this: receive, stat and remove on diskpacked,
and fetch, stat and remove on files, always answer like the reference map; a diskpacked fetch may
only deviate by answering all-zero bytes, a files receive only by answering `err`; nothing is
claimed about the answer of an enumerate -/
theorem C14_anomalies_confined (op : Op) (o : Out) :
    (dpAnom op o = true → (∃ k b, op = .fetch k ∧ o = .bytes b ∧ b = zeros b.length) ∨ (∃ a n r, op = .enum a n ∧ o = .refs r)) ∧
    (fsAnom op o = true → (∃ k v, op = .recv k v ∧ o = .err) ∨ (∃ a n r, op = .enum a n ∧ o = .refs r)) := by
  constructor
  · intro h
    unfold dpAnom at h
    split at h
    · exact Or.inl ⟨_, _, rfl, rfl, by simpa using h⟩
    · exact Or.inr ⟨_, _, _, rfl, rfl⟩
    · cases h
  · intro h
    unfold fsAnom at h
    split at h
    · exact Or.inl ⟨_, _, rfl, rfl⟩
    · exact Or.inr ⟨_, _, _, rfl, rfl⟩
    · cases h

/-! ## counterexamples: the same stores are NOT linearizable at full strength -/

/-- blobs are content-addressed: in the counterexamples every ref denotes the bytes `[7]` -/
def cex : Bytes → Bytes := fun _ => [7]

/-- for a concrete schedule, well-keyedness under `cex` is a computation -/
theorem schedWK_cex (sched : List Lbl)
    (h : sched.all (fun | .call _ (.recv k v) => decide (v = [7] ∧ k ≠ []) | _ => true) = true) :
    SchedWK cex sched := by
  intro c op hm
  have := List.all_eq_true.mp h _ hm
  cases op with
  | recv k v => exact of_decide_eq_true (p := v = [7] ∧ k ≠ []) this
  | _ => trivial

/-- client 0 receives `[1]`; after its rename client 1 removes the blob; client 0's final Lstat fails -/
def filesRecvErrSched : List Lbl :=
  [.call 0 (.recv [1] [7]), .step 0, .step 0, .step 0, .call 1 (.rm [1]), .step 1, .step 0]

theorem C14_files_recv_err_counterexample :
    SchedWK cex filesRecvErrSched ∧
    Linearizable noAnom (exec filesStore filesRecvErrSched).trace = false ∧
    Ev.ret 0 (.recv [1] [7]) .err ∈ (exec filesStore filesRecvErrSched).trace := by
  exact ⟨schedWK_cex _ (by decide), by decide, by decide⟩

/-- `[1]` is stored; client 0's remove has zeroed the data but not yet dropped the index row when
client 1 fetches: the fetch answers `[0]` instead of `[7]` -/
def dpFetchZeroedSched : List Lbl :=
  [.call 0 (.recv [1] [7]), .step 0, .step 0, .call 0 (.rm [1]), .step 0, .call 1 (.fetch [1]), .step 1, .step 0]

theorem C14_diskpacked_fetch_zeroed_counterexample :
    SchedWK cex dpFetchZeroedSched ∧
    Linearizable noAnom (exec dpStore dpFetchZeroedSched).trace = false ∧
    Ev.ret 1 (.fetch [1]) (.bytes [0]) ∈ (exec dpStore dpFetchZeroedSched).trace := by
  exact ⟨schedWK_cex _ (by decide), by decide +kernel, by decide +kernel⟩

/-- `[2]` is stored; client 0's enumerate has listed it and pauses; client 1 receives `[1]` and then
`[3]` (both acknowledged, one after the other); the enumerate goes on and lists `[3]` but not `[1]` –
no sequential order of the three calls explains that answer -/
def enumScanSched : List Lbl :=
  [.call 1 (.recv [2] [7]), .step 1, .step 1,
   .call 0 (.enum [] 10), .step 0,
   .call 1 (.recv [1] [7]), .step 1, .step 1,
   .call 1 (.recv [3] [7]), .step 1, .step 1,
   .step 0, .step 0]

/-- the same on files (a receive there has four sections) -/
def enumScanSchedFiles : List Lbl :=
  [.call 1 (.recv [2] [7]), .step 1, .step 1, .step 1, .step 1,
   .call 0 (.enum [] 10), .step 0,
   .call 1 (.recv [1] [7]), .step 1, .step 1, .step 1, .step 1,
   .call 1 (.recv [3] [7]), .step 1, .step 1, .step 1, .step 1,
   .step 0, .step 0]

theorem C14_enum_scan_counterexample :
    SchedWK cex enumScanSched ∧
    Linearizable noAnom (exec dpStore enumScanSched).trace = false ∧
    Ev.ret 0 (.enum [] 10) (.refs [([2], 1), ([3], 1)]) ∈ (exec dpStore enumScanSched).trace ∧
    Linearizable noAnom (exec filesStore enumScanSchedFiles).trace = false := by
  exact ⟨schedWK_cex _ (by decide), by decide +kernel, by decide +kernel, by decide +kernel⟩

/-! ## the hypotheses are satisfiable: concrete overlapping runs -/

/-- three clients on diskpacked with their sections interleaved (two concurrent receives of the same
blob, a remove and a stat in between): accepted, with a non-trivial trace -/
example :
    let sched : List Lbl := [.call 0 (.recv [1] [7]), .call 1 (.recv [1] [7]), .step 0, .step 1, .call 2 (.rm [1]),
      .step 2, .step 1, .step 2, .step 0, .call 2 (.stat [1]), .step 2]
    SchedWK cex sched ∧ Linearizable dpAnom (exec dpStore sched).trace = true ∧
      Linearizable noAnom (exec dpStore sched).trace = true ∧ (exec dpStore sched).trace.length = 12 := by
  exact ⟨schedWK_cex _ (by decide), by decide +kernel, by decide +kernel, by decide +kernel⟩

example : (lockMapRefines cex).Inv (exec lockMap [.call 0 (.recv [1] [7]), .step 0]).sh :=
  (sim_exec (lockMapRefines cex) _ (schedWK_cex _ (by decide))).inv

/-- `C14_acked_survive` applies: the receive of `[1]` is acknowledged while another client's call is
still in flight, nobody removes it -/
example :
    let sched : List Lbl := [.call 0 (.recv [1] [7]), .call 1 (.recv [2] [7]), .step 0, .step 1, .step 0, .step 0, .step 0]
    Ev.ret 0 (.recv [1] [7]) (.sized 1) ∈ (exec filesStore sched).trace ∧ (∀ c', Lbl.call c' (.rm [1]) ∉ sched) := by
  refine ⟨by decide, ?_⟩
  intro c' h
  simp at h

/-! ## lock discipline, on the table regenerated from the source -/

/-- the accesses that are genuinely outside their lock: none (DESIGN §12 rows 26 and 27 describe two such
accesses, `diskpacked.(*storage).fetch` on `s.fds` and `index.(*Index).populateDeleteClaim` on the corpus,
and their repair in /repo) -/
def knownUnguarded : List Gen.GuardedAccess := []

/-- every syntactic access to a lock-guarded field of diskpacked.storage, memory.Storage,
proxycache.Storage, encrypt.storage.smallMeta and index.Index (incl. corpus-mutating calls and calls of
the caller-holds-the-lock read API) is dominated by its lock -/
theorem C14_gen_lock_discipline : ∀ a ∈ Gen.guardedAccesses, a.held = true ∨ a ∈ knownUnguarded := by
  decide +kernel

/-- no method calls, with the lock held, a method of the same struct that takes the lock itself
(DESIGN §12 row 32: `search.(*Handler).serveClaims` held `index.RLock` around `GetClaims`, which takes it
again – repaired in /repo) -/
theorem C14_gen_no_nested_lock : Gen.nestedLocks = [] := by decide

/-- the table is not vacuous: every (struct, field) pair of the expectation table has accesses, and some
are writes -/
theorem C14_gen_table_covers_expectations :
    (∀ p ∈ Gen.guardedFields, ∃ a ∈ Gen.guardedAccesses, a.struct = p.1 ∧ a.field = p.2) ∧
    (∃ a ∈ Gen.guardedAccesses, a.write = true) ∧ 50 ≤ Gen.guardedAccesses.length := by
  decide +kernel

end Pk.Conc
