import PkVerif.Lemmas.Sync
import PkVerif.Gen.C19
/-!
# C19 – asynchronous sync delivers every blob eventually and its queue is durable

`Pk.Sync.*` models pkg/server/sync.go as a state machine over micro-steps
(source receive, queue row write, in-memory enqueue, copy start, transfer with an arbitrary fault,
queue row deletion, copy completion, crash + `readQueueToMemory`), see `PkVerif/Model/Sync.lean`.
All theorems quantify over **every** step sequence (all upload histories, interleavings, fault
patterns and crash points).

The order of the durable and in-memory effects is not assumed: the model variant is *read off* the
regenerated effect list of `enqueue` (`variantOf`), and the shape of `copyBlob` / `setError` /
`readQueueToMemory` / `blobserver.receive` the model relies on is checked on the regenerated lists by
the `C19_gen_*` theorems.

Deviations of the code from the statement at full strength:
* F-C19-1 (fixed in /repo): the original `enqueue` (memory first, duplicate short-cut, then row)
  acknowledged a re-upload without a row – `C19_orig_enqueue_counterexample`.
* F-C19-2 (known): a blob *received by the source store* whose upload was not acknowledged (queue
  write failed, or crash between the store's receive and the row) has no row; after a restart it is
  never delivered – `C19_eventual_source_counterexample`, with `C19_eventual_source_partial` for the
  guarded statement. Acknowledged uploads are covered at full strength.
-/
namespace Pk.Sync

/-- reachable from the empty handler by any step sequence, for the `enqueue` described by `effs` -/
def Reachable (effs : List EffAt) (s : St) : Prop :=
  ∃ v, variantOf effs = some v ∧ ∃ l : List Step, s = run v init l

/-! ## obligations on the regenerated facts -/

/-- `enqueue` as it is in /repo writes the queue row first, then the in-memory entry -/
theorem C19_gen_enqueue_variant : variantOf Gen.syncEnqueueEffects = some .fixed := by decide

/-- shape of `copyBlob`: fetch, digest check, destination receive – in this order, unconditionally –
and the completion (`setError`) deferred, i.e. after all of them -/
def copyOrderOK (l : List EffAt) : Bool :=
  spine l == [.srcFetch, .digestCheck, .storeReceive] &&
  (l.filter (·.deferred)).map (·.e) == [.copyDone]

theorem C19_gen_copy_order : copyOrderOK Gen.syncCopyBlobEffects = true := by decide

/-- shape of `setError`: the queue row deletion is conditional (`err == nil`), is the first effect,
and everything after it is an in-memory removal -/
def setErrorOK (l : List EffAt) : Bool :=
  l.head? == some ⟨.queueDelete, false, true⟩ &&
  l.tail.all (fun x => x.e == .memDequeue) && l.tail.any (fun x => x.cond)

theorem C19_gen_setError_order : setErrorOK Gen.syncSetErrorEffects = true := by decide

/-- `readQueueToMemory` only reads the queue and fills memory -/
def reloadOK (l : List EffAt) : Bool :=
  l.all (fun x => x.e != .queueSet && x.e != .queueDelete) && l.any (fun x => x.e == .memEnqueue)

theorem C19_gen_reload_memory_only : reloadOK Gen.syncReadQueueEffects = true := by decide

/-- `memHub.NotifyBlobReceived` starts EVERY receive hook (in a loop, through the group) and only then
collects the error: a failing hook cannot keep a later one from running -/
def hubRunsAllHooks (l : List EffAt) : Bool :=
  l == [⟨.gateStart, false, true⟩, ⟨.gateDone, false, false⟩]

theorem C19_gen_hub_runs_all_hooks : hubRunsAllHooks Gen.hubNotifyEffects = true := by decide

/-- `blobserver.receive`: the store has the blob before the hub (and the sync hook) is told -/
theorem C19_gen_receive_order : spine Gen.blobReceiveEffects = [.storeReceive, .hubNotify] := by decide

/-! ## the invariant holds in every reachable state -/

theorem C19_invariant (effs : List EffAt) (hv : variantOf effs = some .fixed) (s : St)
    (h : Reachable effs s) : Inv s := by
  obtain ⟨v, hv', l, rfl⟩ := h
  rw [hv] at hv'
  cases hv'
  exact inv_run l init inv_init

example : Reachable Gen.syncEnqueueEffects
    (run .fixed init [.srcRecv 1, .qSet 1 true, .memAdd 1 true, .srcRecv 2, .cpStart 1, .cpXfer 1 .corrupt]) :=
  ⟨.fixed, C19_gen_enqueue_variant, _, rfl⟩

/-- **queue durable**: in every reachable state – whatever the interleaving, the faults and the crash
points so far – every blob whose upload was acknowledged and that is not yet at the destination has
its row in the persistent queue. -/
theorem C19_queue_durable (effs : List EffAt) (hv : variantOf effs = some .fixed) (s : St)
    (h : Reachable effs s) (i : Nat) (ha : i ∈ s.acked) (hd : i ∉ dstIds s) : i ∈ s.rows := by
  rcases (C19_invariant effs hv s h).acked_safe i ha with e | e
  · exact absurd e hd
  · exact e

/-- non-vacuous: acknowledged, a failed copy attempt, a crash – the row is there -/
example : let s := run .fixed init [.srcRecv 1, .qSet 1 true, .memAdd 1 true, .cpStart 1, .cpXfer 1 (.destErr .canceled), .cpEnd 1, .restart]
    1 ∈ s.acked ∧ 1 ∉ dstIds s ∧ 1 ∈ s.rows := by decide

/-- **a row leaves the queue only after the destination acknowledged the blob**: whatever the next
step is, a row that disappears belongs to a blob that the destination already holds. -/
theorem C19_row_leaves_only_after_ack (effs : List EffAt) (hv : variantOf effs = some .fixed) (s : St)
    (h : Reachable effs s) (t : Step) (i : Nat) (hr : i ∈ s.rows) (hn : i ∉ (step .fixed s t).rows) :
    i ∈ dstIds s :=
  (C19_invariant effs hv s h).xferred_at_dst i (Or.inl (row_removed_only_by_qDel hr hn))

/-- non-vacuous: the successful row deletion does remove a row, and the blob is at the destination -/
example : let s := run .fixed init [.srcRecv 1, .qSet 1 true, .memAdd 1 true, .cpStart 1, .cpXfer 1 .ok]
    1 ∈ s.rows ∧ 1 ∉ (step .fixed s (.qDel 1 true)).rows ∧ 1 ∈ dstIds s := by decide

/-- the persistent state (source, destination, rows) survives a crash unchanged, and the reloaded
pending list is exactly the set of rows: deliveries pending at a crash are pending after restart -/
theorem C19_restart_reloads_rows (v : Variant) (s : St) :
    (step v s .restart).src = s.src ∧ (step v s .restart).dst = s.dst ∧ (step v s .restart).rows = s.rows ∧
    ∀ i, i ∈ (step v s .restart).need ↔ i ∈ s.rows := by
  refine ⟨rfl, rfl, rfl, ?_⟩
  intro i
  show i ∈ readQueueToMemory [] s.rows ↔ _
  simp [mem_readQueue]

/-- **bit-identical**: in every reachable state the destination holds, under the ref of blob `i`,
exactly the bytes of blob `i` (payload = id), and only blobs of the source – for every fault pattern,
including corrupt reads of the right size (the digest check of `copyBlob` rejects them). -/
theorem C19_bit_identical (effs : List EffAt) (hv : variantOf effs = some .fixed) (s : St)
    (h : Reachable effs s) (p : Nat × Nat) (hp : p ∈ s.dst) : p.2 = p.1 ∧ p.1 ∈ s.src :=
  (C19_invariant effs hv s h).dst_true p hp

/-- non-vacuous, and the corrupt read is what is being rejected: after a corrupt attempt and a clean
one the destination holds `(1, 1)`, never the corrupted payload `(1, 2)` -/
example : let s := run .fixed init [.srcRecv 1, .qSet 1 true, .memAdd 1 true, .cpStart 1, .cpXfer 1 .corrupt,
      .cpEnd 1, .cpStart 1, .cpXfer 1 .ok]
    s.dst = [(1, 1)] := by decide

/-- **no error kind is "nothing to copy"**: whatever the kind of the error (not-exist, a wrapped
ENOENT, cancellation, EOF, …) a failed source fetch, a failed read or a failed destination write
never lets `copyBlob` return nil and never changes the destination.  The statement is about `xfer`, the
transfer part of `copyBlob`; the row is kept because `step` then puts the copy in phase `failed`, in
which `qDel` is not enabled. -/
theorem C19_failed_transfer_keeps_row (src : List Nat) (dst : List (Nat × Nat)) (i : Nat) (k : ErrKind)
    (hne : i ≠ emptyBlob) :
    xfer src dst i (.fetchErr k) = (dst, false) ∧ xfer src dst i (.shortRead k) = (dst, false) ∧
    xfer src dst i .readEmpty = (dst, false) ∧ xfer src dst i .fetchSize = (dst, false) ∧
    xfer src dst i (.destErr k) = (dst, false) ∧ xfer src dst i .corrupt = (dst, false) := by
  by_cases h : i ∈ src <;> simp [xfer, h, fetched, hashMatches, hne]

/-- the zero-length blob: a failed fetch, a size mismatch, a failed destination write still keep the
row; a *read* failure cannot happen (zero bytes are read without touching the reader), so those
outcomes are the clean copy – and the empty blob is delivered like any other -/
theorem C19_empty_blob_transfer (src : List Nat) (dst : List (Nat × Nat)) (k : ErrKind) :
    xfer src dst emptyBlob (.fetchErr k) = (dst, false) ∧ xfer src dst emptyBlob .fetchSize = (dst, false) ∧
    xfer src dst emptyBlob (.destErr k) = (dst, false) ∧ xfer src dst emptyBlob .corrupt = (dst, false) ∧
    xfer src dst emptyBlob (.shortRead k) = xfer src dst emptyBlob .ok ∧
    xfer src dst emptyBlob .readEmpty = xfer src dst emptyBlob .ok := by
  by_cases h : emptyBlob ∈ src <;> simp [xfer, h, fetched, hashMatches]

/-- a pending empty blob that is the ONLY pending item is delivered by the failure-free continuation
like any other (first upload; alone after the others were delivered; only row at a restart) -/
example : dstIds (recover .fixed (run .fixed init [.srcRecv emptyBlob, .qSet emptyBlob true, .memAdd emptyBlob true])) = [emptyBlob] ∧
    dstIds (recover .fixed (run .fixed init ([.srcRecv 2, .qSet 2 true, .memAdd 2 true] ++ copyOkSteps 2 ++
      [.srcRecv emptyBlob, .qSet emptyBlob true, .memAdd emptyBlob true, .restart]))) = [2, emptyBlob] := by decide

/-- the same on a whole copy attempt: for every error kind, after `cpStart; cpXfer (fetchErr k); cpEnd`
(the deferred `setError(err)`) the row, the pending entry and the destination are as before -/
theorem C19_fetch_error_copy_is_noop (k : ErrKind) :
    let s := run .fixed init [.srcRecv 1, .qSet 1 true, .memAdd 1 true]
    let s' := run .fixed s [.cpStart 1, .cpXfer 1 (.fetchErr k), .qDel 1 true, .cpEnd 1]
    s'.rows = [1] ∧ s'.need = [1] ∧ s'.dst = [] ∧ s'.copying = [] ∧ s'.cps = [] := by
  cases k <;> decide

/-! ## several sync destinations on one source -/

/-- **a failing hook of handler A does not change what handler B does**: in the product of sync
machines over one upload stream, the state of every machine other than number `h` after an upload
during which `h`'s queue write failed equals its state after the same upload without any failure. -/
theorem C19_multi_hook_failure_is_local (v : Variant) (ms : List St) (i h j : Nat) (hj : j + 1 ≠ h) :
    (uploadAll v ms i h)[j]? = (uploadAll v ms i 0)[j]? := by
  have h1 : (j + 1 != h) = true := by simpa using hj
  simp [uploadAll, List.getElem?_mapIdx, h1]

/-- non-vacuous: three handlers, the first one's queue write fails – the second and third are as in
the clean run (row written, blob pending), the first one has no row -/
example : (uploadAll .fixed [init, init, init] 7 1).map (·.rows) = [[], [7], [7]] ∧
    (uploadAll .fixed [init, init, init] 7 0).map (·.rows) = [[7], [7], [7]] := by decide

/-! ## eventual delivery -/

/-- one failure-free copy strictly decreases the pending measure `need.length` -/
theorem C19_copy_decreases (v : Variant) (s : St) (i : Nat) (hq : Quiet s) (hi : i ∈ s.need) :
    (run v s (copyOkSteps i)).need.length < s.need.length ∧ i ∈ dstIds (run v s (copyOkSteps i)) ∧
    i ∉ (run v s (copyOkSteps i)).rows := by
  rw [run_copyOk v s i hq.cps hq.copying (hq.need_src i)]
  refine ⟨?_, copied_delivers hi, ?_⟩ <;> rw [copied, if_pos hi]
  · exact length_del_lt hi
  · exact fun hm => (mem_del.1 hm).2 rfl

example : Quiet (run .fixed init [.srcRecv 1, .qSet 1 true, .memAdd 1 true]) ∧
    1 ∈ (run .fixed init [.srcRecv 1, .qSet 1 true, .memAdd 1 true]).need :=
  ⟨⟨rfl, rfl, by decide, by decide⟩, by decide⟩

/-- **eventual delivery**: from ANY reachable state (any in-flight uploads and copies, any earlier
faults) the failure-free continuation `recoverSteps s` – restart, then one clean copy of every
reloaded blob – has bounded length, consists of failure-free steps only, and ends in a state where
every acknowledged blob is at the destination, nothing is pending and the queue is empty. -/
theorem C19_eventual (effs : List EffAt) (hv : variantOf effs = some .fixed) (s : St) (h : Reachable effs s) :
    (recoverSteps s).length ≤ 1 + 4 * s.rows.length ∧
    (∀ t ∈ recoverSteps s, t.clean = true) ∧
    (∀ i ∈ s.acked, i ∈ dstIds (run .fixed s (recoverSteps s))) ∧
    (run .fixed s (recoverSteps s)).rows = [] ∧ (run .fixed s (recoverSteps s)).need = [] := by
  have hI := C19_invariant effs hv s h
  have hr := recover_spec hI
  exact ⟨length_recoverSteps s, recoverSteps_clean s, fun i hi => hr.delivered i (hI.acked_safe i hi),
    hr.rows_nil, hr.need_nil⟩

/-- non-vacuous: two acknowledged uploads, one copy parked between transfer and row deletion, one
failed copy, one upload in flight – recovery delivers both acknowledged blobs -/
example : let s := run .fixed init [.srcRecv 1, .qSet 1 true, .memAdd 1 true, .srcRecv 2, .qSet 2 true, .memAdd 2 true,
      .cpStart 1, .cpXfer 1 .ok, .cpStart 2, .cpXfer 2 (.shortRead .eof), .srcRecv 3]
    s.acked = [1, 2] ∧ dstIds s = [1] ∧ dstIds (recover .fixed s) = [1, 2] := by decide

/-- every source blob is acknowledged, queued or already delivered -/
def SourceCovered (s : St) : Prop := ∀ i ∈ s.src, i ∈ s.acked ∨ i ∈ s.rows ∨ i ∈ dstIds s

instance (s : St) : Decidable (SourceCovered s) := by unfold SourceCovered; infer_instance

/-- eventual delivery at the strength of "every blob received by the source store", under the guard
`SourceCovered` -/
theorem C19_eventual_source_partial (effs : List EffAt) (hv : variantOf effs = some .fixed) (s : St)
    (h : Reachable effs s) (hc : SourceCovered s) :
    ∀ i ∈ (run .fixed s (recoverSteps s)).src, i ∈ dstIds (run .fixed s (recoverSteps s)) := by
  have hI := C19_invariant effs hv s h
  have hr := recover_spec hI
  intro i hi
  rw [show (run .fixed s (recoverSteps s)).src = s.src from hr.src_eq] at hi
  rcases hc i hi with e | e | e
  · exact hr.delivered i (hI.acked_safe i e)
  · exact hr.delivered i (.inr e)
  · exact hr.delivered i (.inl e)

example : SourceCovered (run .fixed init [.srcRecv 1, .qSet 1 true, .memAdd 1 true, .srcRecv 2, .qSet 2 true]) := by
  decide

/-- F-C19-2: at full strength ("every blob received by the source store") the statement is false.
A blob the source store accepted but whose queue write failed (equivalently: a crash between the
store's receive and the row write) is in the source, unacknowledged and without a row; after a
restart no failure-free continuation of the sync handler ever copies it. -/
theorem C19_eventual_source_counterexample :
    ∃ s, Reachable Gen.syncEnqueueEffects s ∧ ¬ SourceCovered s ∧
      1 ∈ (recover .fixed s).src ∧ 1 ∉ dstIds (recover .fixed s) ∧ (recover .fixed s).need = [] :=
  ⟨run .fixed init [.srcRecv 1, .qSet 1 false, .memAdd 1 false],
   ⟨.fixed, C19_gen_enqueue_variant, _, rfl⟩, by decide, by decide, by decide, by decide⟩

/-- … while without the restart the same blob is still delivered by the running process (the
in-memory entry is made even when the row write failed) -/
theorem C19_unacked_delivered_without_restart :
    let s := run .fixed init [.srcRecv 1, .qSet 1 false, .memAdd 1 false]
    1 ∈ dstIds (run .fixed s (copyOkSteps 1)) := by decide

/-- F-C19-1 (the code before the fix): with the original `enqueue` – in-memory entry first, duplicate
short-cut, then the row – a re-upload after a failed queue write is acknowledged without a row;
queue durability fails and after a restart the acknowledged blob is never delivered. -/
theorem C19_orig_enqueue_counterexample :
    variantOf [⟨.memEnqueue, false, false⟩, ⟨.queueSet, false, false⟩] = some .orig ∧
    (let s := run .orig init [.srcRecv 1, .memAdd 1 true, .qSet 1 false, .srcRecv 1, .memAdd 1 true]
     1 ∈ s.acked ∧ 1 ∉ dstIds s ∧ 1 ∉ s.rows ∧ 1 ∉ dstIds (recover .orig s)) := by decide

/-- the same defect through an interleaving instead of a fault: a second upload is acknowledged by the
duplicate short-cut while the first upload's row write is still in flight; a crash then loses it -/
theorem C19_orig_enqueue_race_counterexample :
    let s := run .orig init [.srcRecv 1, .memAdd 1 true, .srcRecv 1, .memAdd 1 true, .restart]
    1 ∈ s.acked ∧ 1 ∉ dstIds s ∧ 1 ∉ s.rows := by decide

end Pk.Sync
