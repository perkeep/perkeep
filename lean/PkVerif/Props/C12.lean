import PkVerif.Lemmas.Replica
import PkVerif.Gen.C12
/-!
# C12 – replicated writes are acknowledged only at quorum; reads survive replica loss

Property theorems only.  `Pk.Replica.*` models pkg/blobserver/replica/replica.go, `Pk.MergedEnum.*`
models pkg/blobserver/mergedenum.go (lemmas in `PkVerif/Lemmas/{Replica,MergedEnum}.lean`).

Every statement is for ALL replica counts, all thresholds, all assignments of results to replicas
(right size / wrong size / error, storing or not) and ALL arrival orders: the arrival order `arr` is any
permutation (`List.Perm`) of the per-replica results `rs`.
-/
namespace Pk.Replica
open Pk.MergedEnum

/-! ## facts regenerated from the source -/

/-- the tally of `ReceiveBlob` has the three cases the model has, in this order, and acknowledges
when the success counter *equals* `minWritesForSuccess` right after incrementing it -/
theorem C12_gen_tally_shape :
    Gen.replicaRecvCases = ["res.err == nil && int64(res.sb.Size) == size", "res.err == nil", "default"] ∧
    Gen.replicaRecvGoodCase = ["nSuccess++", "if nSuccess == sto.minWritesForSuccess", "return res.sb, nil"] :=
  ⟨rfl, rfl⟩

/-- `newFromConfig` refuses zero backends and a quorum outside `0..len(backends)` before it maps `0` to
"all" and defaults the read set to the write set (the second guard is the `fix:` of F-C12-1) -/
theorem C12_gen_ctor_guards :
    Gen.replicaCtorGuards = ["err != nil", "nReplicas == 0",
      "sto.minWritesForSuccess < 0 || sto.minWritesForSuccess > nReplicas",
      "sto.minWritesForSuccess == 0", "len(sto.readPrefixes) == 0"] := rfl

/-- reads go to `readReplicas`, writes and removes to `replicas` -/
theorem C12_gen_replica_sets :
    Gen.replicaRanges = ["Fetch:sto.readReplicas", "StatBlobs:sto.readReplicas", "ReceiveBlob:sto.replicas",
      "RemoveBlobs:sto.replicas", "EnumerateBlobs:sto.readReplicas"] := rfl

/-- `Fetch` returns on the first success, remembers the first error that is not "not exist", and
returns it after the loop (fix b37d745) -/
theorem C12_gen_fetch_shape :
    Gen.replicaFetchShape = ["if err == nil", "return", "if failErr == nil && !errors.Is(err, os.ErrNotExist)",
      "failErr = err", "if failErr != nil", "return nil, 0, failErr", "return"] := rfl

/-- the comparisons of the merge: `tooLow` is "≤ lastSent", the scan replaces `lowest` only by a
strictly smaller ref, the loop runs while `nSent < limit` -/
theorem C12_gen_merge_shape :
    Gen.mergedEnumShape = ["tooLow: lastSent.Valid() && (br == lastSent || br.Less(lastSent))",
      "for nSent < limit", "for !peeker.Closed() && tooLow(peeker.MustPeek().Ref)",
      "if lowestIdx == -1 || sb.Ref.Less(lowest.Ref)"] := rfl

/-! ## the configuration -/

/-- whatever `newFromConfig` accepts has a quorum in `1..n`, the configured write list, and a
non-empty read list -/
theorem C12_cfg_quorum_in_range (nStores : Nat) (backends readBackends : List Nat) (minCfg : Option Int)
    (c : Cfg) (h : newFromConfig nStores backends readBackends minCfg = some c) :
    1 ≤ c.min ∧ c.min ≤ c.writes.length ∧ c.writes = backends ∧ c.reads ≠ [] := by
  rw [newFromConfig, Option.ite_none_left_eq_some, Option.ite_none_left_eq_some,
    Option.ite_none_left_eq_some] at h
  obtain ⟨hb, hm, _, h⟩ := h
  cases h
  have hne : backends ≠ [] := fun e => hb (e ▸ rfl)
  rw [Bool.not_eq_true, Bool.not_eq_false', minOk, Bool.and_eq_true, decide_eq_true_eq, decide_eq_true_eq] at hm
  have hmin : 1 ≤ effMin backends.length (minCfg.getD backends.length) ∧
      effMin backends.length (minCfg.getD backends.length) ≤ backends.length := by
    unfold effMin
    by_cases h0 : minCfg.getD ↑backends.length = 0
    · rw [if_pos h0]; exact ⟨List.length_pos_iff.mpr hne, Nat.le_refl _⟩
    · rw [if_neg h0]
      exact ⟨Int.lt_toNat.mpr (Int.lt_iff_le_and_ne.mpr ⟨hm.1, Ne.symm h0⟩), Int.toNat_le.mpr hm.2⟩
  refine ⟨hmin.1, hmin.2, rfl, ?_⟩
  show effReads backends readBackends ≠ []
  unfold effReads
  split
  · exact hne
  · rename_i he; exact fun e => he (e ▸ rfl)

example : newFromConfig 4 [2, 0, 1] [3, 1] (some 2) = some ⟨[2, 0, 1], [3, 1], 2⟩ := by decide
example : newFromConfig 4 [2, 0, 1] [] none = some ⟨[2, 0, 1], [2, 0, 1], 3⟩ := by decide
example : newFromConfig 4 [2, 0, 1] [] (some 4) = none := by decide

/-! ## ReceiveBlob -/

/-- **ack ⇔ quorum.**  For every threshold `min ≥ 1`, every list of per-replica results and every
order in which they arrive, `ReceiveBlob` acknowledges iff at least `min` replicas answered without
error and with the right size -/
theorem C12_ack_iff_quorum (rs arr : List Res) (min size : Nat) (h1 : 1 ≤ min) (hperm : arr.Perm rs) :
    (receiveBlob min size arr).isAck = true ↔ min ≤ (rs.filter (Res.good size)).length := by
  have := tally_ack_iff min size arr 0 none 0 h1
  rw [receiveBlob, this, Nat.zero_add, (hperm.filter _).length_eq]

example : (receiveBlob 2 5 [⟨2, true, .ok 5⟩, ⟨0, false, .err⟩, ⟨1, true, .ok 6⟩, ⟨3, true, .ok 5⟩]).isAck = true := by
  decide
example : [(⟨2, true, .ok 5⟩ : Res), ⟨0, false, .err⟩, ⟨1, true, .ok 6⟩].Perm
    [⟨0, false, .err⟩, ⟨1, true, .ok 6⟩, ⟨2, true, .ok 5⟩] := by decide

/-- the acknowledgement does not depend on the arrival order -/
theorem C12_ack_order_independent (arr₁ arr₂ : List Res) (min size : Nat) (h1 : 1 ≤ min)
    (hperm : arr₁.Perm arr₂) :
    (receiveBlob min size arr₁).isAck = (receiveBlob min size arr₂).isAck := by
  have a := C12_ack_iff_quorum arr₂ arr₁ min size h1 hperm
  have b := C12_ack_iff_quorum arr₂ arr₂ min size h1 (List.Perm.refl _)
  rw [Bool.eq_iff_iff, a, b]

/-- **not ack ⇒ error**, for thresholds in `1..n`: when fewer than `min` replicas succeed the caller
gets a non-nil error (that of the failure that arrived last) -/
theorem C12_no_ack_is_error (arr : List Res) (min size : Nat) (h1 : 1 ≤ min) (h2 : min ≤ arr.length)
    (hno : (receiveBlob min size arr).isAck = false) : ∃ e, receiveBlob min size arr = .fail e := by
  cases hout : receiveBlob min size arr with
  | ack i c => rw [hout] at hno; cases hno
  | fail e => exact ⟨e, rfl⟩
  | zero =>
    exfalso
    obtain ⟨_, hall⟩ := tally_zero min size arr 0 none 0 hout
    have hack := (tally_ack_iff min size arr 0 none 0 h1).mpr (by rw [Nat.zero_add, hall]; exact h2)
    rw [receiveBlob] at hno
    rw [hno] at hack; cases hack

example : receiveBlob 2 5 [⟨1, true, .ok 5⟩, ⟨0, true, .ok 6⟩, ⟨2, false, .err⟩] = .fail (.replica 2) := by decide
example : receiveBlob 2 5 [⟨2, false, .err⟩, ⟨1, true, .ok 5⟩, ⟨0, true, .ok 6⟩] = .fail (.wrongSize 6 5) := by decide

/-- outside `1..n` the implication is false: with `min > n` and every replica succeeding, `ReceiveBlob`
falls out of its loop and returns the zero SizedRef with a NIL error (F-C12-1; unreachable since the
constructor rejects such a configuration – `C12_cfg_quorum_in_range`) -/
theorem C12_no_ack_is_error_counterexample :
    (receiveBlob 4 5 [⟨0, true, .ok 5⟩, ⟨1, true, .ok 5⟩, ⟨2, true, .ok 5⟩]).isAck = false ∧
    receiveBlob 4 5 [⟨0, true, .ok 5⟩, ⟨1, true, .ok 5⟩, ⟨2, true, .ok 5⟩] = .zero ∧
    (receiveBlob 4 5 [⟨0, true, .ok 5⟩, ⟨1, true, .ok 5⟩, ⟨2, true, .ok 5⟩]).noError = true := by decide

/-- `newFromConfigOld`, the constructor without the range check, accepts that configuration -/
theorem C12_cfg_old_accepts_unreachable_quorum_counterexample :
    newFromConfigOld 3 [0, 1, 2] [] (some 4) = some ([0, 1, 2], [0, 1, 2], 4) ∧
    newFromConfig 3 [0, 1, 2] [] (some 4) = none := by decide

/-- a replica answers honestly: "stored, right size" only if it did store -/
def Honest (size : Nat) (arr : List Res) : Prop := ∀ r ∈ arr, Res.good size r = true → r.stores = true

/-- **ack ⇒ at least `min` replicas hold the blob at that moment**: among the results `ReceiveBlob`
had consumed when it returned there are `min` good ones, and (replicas being honest about a good
answer – misreporting ones are counted as failures by the size test) the positions
`holdersAtReturn` are `min` or more DISTINCT replicas that have stored the blob – no matter how many
other replicas are still running, failed, or misreported -/
theorem C12_ack_replicas_hold (arr : List Res) (min size : Nat) (h1 : 1 ≤ min)
    (hon : Honest size arr) (hdistinct : (arr.map (·.idx)).Nodup)
    (hack : (receiveBlob min size arr).isAck = true) :
    min ≤ (holdersAtReturn min size arr).length ∧ (holdersAtReturn min size arr).Nodup := by
  cases hout : receiveBlob min size arr with
  | fail e => rw [hout] at hack; cases hack
  | zero => rw [hout] at hack; cases hack
  | ack idx c =>
    obtain ⟨j, rfl, _, hcount⟩ := tally_ack_consumed min size arr 0 none 0 idx c h1 hout
    simp only [Nat.zero_add] at hcount hout ⊢
    unfold holdersAtReturn
    rw [hout]
    simp only [consumedAtReturn, List.length_map]
    constructor
    · refine Nat.le_trans hcount (filter_length_mono _ _ _ ?_)
      intro r hr hg
      exact hon r (List.mem_of_mem_take hr) hg
    · have hsub : (((arr.take j).filter (·.stores)).map (·.idx)).Sublist (arr.map (·.idx)) :=
        List.Sublist.map _ (List.Sublist.trans List.filter_sublist (List.take_sublist _ _))
      exact List.Nodup.sublist hsub hdistinct

example : Honest 5 [⟨2, true, .ok 5⟩, ⟨0, false, .err⟩, ⟨1, false, .ok 6⟩] := by
  intro r hr hg
  simp only [List.mem_cons, List.not_mem_nil, or_false] at hr
  rcases hr with rfl | rfl | rfl <;> simp_all [Res.good]

/-- … and in the world: every sub-store named by `holdersAtReturn` holds the blob WITH THE RIGHT SIZE once
the uploads that had arrived are applied (whatever it held before, e.g. a truncated copy) -/
theorem C12_holders_have_blob (subs : List Sub) (writes : List Nat) (min size : Nat) (arr : List Res)
    (k : Bytes) (i : Nat) (hi : i ∈ idsOf writes (holdersAtReturn min size arr)) (hlt : i < subs.length) :
    ((storeAt subs (idsOf writes (holdersAtReturn min size arr)) (k, size)).getD i ⟨[], false⟩).store.get? k = some size :=
  storeAt_get subs _ (k, size) i hi hlt

/-- distinct positions of a duplicate-free write list are distinct sub-stores -/
theorem C12_holder_ids_distinct (writes ps : List Nat) (hw : writes.Nodup) (hp : ps.Nodup) :
    (idsOf writes ps).Nodup ∧ ∀ i ∈ idsOf writes ps, i ∈ writes := by
  constructor
  · unfold idsOf
    apply List.Pairwise.filterMap _ _ hp
    intro a a' hne b hb b' hb' e
    subst e
    have ha : a < writes.length := by
      cases h : writes[a]? with
      | none => rw [h] at hb; cases hb
      | some _ => exact (List.getElem?_eq_some_iff.mp h).1
    have hb1 : writes[a]? = some b := hb
    have hb2 : writes[a']? = some b := hb'
    exact hne ((List.getElem?_inj ha hw).mp (by rw [hb1, hb2]))
  · intro i hi
    obtain ⟨p, _, hp'⟩ := List.mem_filterMap.mp hi
    exact List.mem_of_getElem? hp'

/-- **ack ⇒ `min` distinct write sub-stores hold the blob when `ReceiveBlob` returns**, in the world:
for a duplicate-free write list over existing sub-stores and one result per write replica, there are
`min` or more distinct sub-stores of the write list that have the blob at that moment -/
theorem C12_ack_substores_hold (subs : List Sub) (writes : List Nat) (min size : Nat) (arr : List Res) (k : Bytes)
    (h1 : 1 ≤ min) (hw : writes.Nodup) (hws : ∀ i ∈ writes, i < subs.length)
    (hidx : ∀ r ∈ arr, r.idx < writes.length) (hdistinct : (arr.map (·.idx)).Nodup)
    (hon : Honest size arr) (hack : (receiveBlob min size arr).isAck = true) :
    ∃ ids : List Nat, ids.Nodup ∧ min ≤ ids.length ∧ ∀ i ∈ ids, i ∈ writes ∧
      ((storeAt subs (idsOf writes (holdersAtReturn min size arr)) (k, size)).getD i ⟨[], false⟩).store.get? k = some size := by
  obtain ⟨hlen, hnd⟩ := C12_ack_replicas_hold arr min size h1 hon hdistinct hack
  obtain ⟨hnd', hmem⟩ := C12_holder_ids_distinct writes (holdersAtReturn min size arr) hw hnd
  refine ⟨idsOf writes (holdersAtReturn min size arr), hnd', ?_, ?_⟩
  · rw [idsOf_length]
    · exact hlen
    · intro p hp
      unfold holdersAtReturn at hp
      obtain ⟨r, hr, rfl⟩ := List.mem_map.mp hp
      exact hidx r (List.mem_of_mem_take (List.mem_filter.mp hr).1)
  · intro i hi
    exact ⟨hmem i hi, C12_holders_have_blob subs writes min size arr k i hi (hws i (hmem i hi))⟩

/-- non-vacuity: 3 write replicas over sub-stores 2,0,1 (of 4), min = 2, arrival order 1,2,0 with a
failure in between: acknowledged after the third result, sub-stores 0 and 2 hold the blob -/
example : (receiveBlob 2 5 [⟨1, true, .ok 5⟩, ⟨2, false, .err⟩, ⟨0, true, .ok 5⟩]).isAck = true ∧
    idsOf [2, 0, 1] (holdersAtReturn 2 5 [⟨1, true, .ok 5⟩, ⟨2, false, .err⟩, ⟨0, true, .ok 5⟩]) = [0, 2] ∧
    ((storeAt (List.replicate 4 ⟨[([7], 4)], false⟩) [0, 2] ([7], 5)).getD 2 ⟨[], false⟩).store.get? [7] = some 5 := by
  decide

/-- `ReceiveBlob` returns at quorum: it does NOT wait for the remaining replicas (here replica 1 is
good but has not stored yet when the caller is told "ok"); their uploads continue on the caller's context -/
theorem C12_ack_before_all_replicas_finished :
    (receiveBlob 1 5 [⟨0, true, .ok 5⟩, ⟨1, true, .ok 5⟩]).isAck = true ∧
    holdersAtReturn 1 5 [⟨0, true, .ok 5⟩, ⟨1, true, .ok 5⟩] = [0] ∧
    completed 1 5 [⟨0, true, .ok 5⟩, ⟨1, true, .ok 5⟩] true = [0, 1] ∧
    completed 1 5 [⟨0, true, .ok 5⟩, ⟨1, true, .ok 5⟩] false = [0] := by decide

/-- a replica that stores the blob but reports a wrong size is counted as a failure, never as a success -/
theorem C12_wrong_size_is_failure (r : Res) (size sz : Nat) (h : r.reply = .ok sz) (hne : sz ≠ size) :
    Res.good size r = false := by simp [Res.good, h, hne]

/-- the whole statement for every storage the constructor can return -/
theorem C12_receive_sound (nStores : Nat) (backends readBackends : List Nat) (minCfg : Option Int) (c : Cfg)
    (hc : newFromConfig nStores backends readBackends minCfg = some c)
    (rs arr : List Res) (size : Nat) (hperm : arr.Perm rs) (hn : rs.length = c.writes.length) :
    ((receiveBlob c.min size arr).isAck = true ↔ c.min ≤ (rs.filter (Res.good size)).length) ∧
    ((receiveBlob c.min size arr).isAck = false → ∃ e, receiveBlob c.min size arr = .fail e) := by
  obtain ⟨h1, h2, _, _⟩ := C12_cfg_quorum_in_range nStores backends readBackends minCfg c hc
  refine ⟨C12_ack_iff_quorum rs arr c.min size h1 hperm, ?_⟩
  intro hno
  exact C12_no_ack_is_error arr c.min size h1 (by rw [hperm.length_eq, hn]; exact h2) hno

/-! ## Fetch -/

/-- **a blob remains fetchable as long as at least one (reachable) read replica holds it** – whatever
the other read replicas do (down, or not holding it), and wherever in the list the holder is -/
theorem C12_fetch_any_holder (reads : List Sub) (k : Bytes) :
    (∃ sz tried, fetch reads k = .ok sz tried) ↔ ∃ s ∈ reads, s.down = false ∧ s.store.has k = true :=
  fetchLoop_ok_iff k reads none none 0

/-- what is handed out is what a reachable read replica holds; with a non-empty read list (guaranteed by
the constructor) a miss is an error, never `(nil, 0, nil)` -/
theorem C12_fetch_result_sound (reads : List Sub) (k : Bytes) :
    (∀ sz tried, fetch reads k = .ok sz tried → ∃ s ∈ reads, s.down = false ∧ s.store.get? k = some sz) ∧
    (reads ≠ [] → fetch reads k ≠ .nilNil) :=
  ⟨fun sz tried h => fetchLoop_ok_size k reads none none 0 sz tried h,
   fun h => fetchLoop_ne_nilNil k reads none none 0 (Or.inl h)⟩

example : fetch [⟨[([9], 3)], true⟩, ⟨[], false⟩, ⟨[([9], 3)], false⟩] [9] = .ok 3 3 := by decide

/-- **a miss is "not exist" only if every read replica answered "not exist"; if some read replica
failed and none served the blob, the answer is that failure** (the guarantee of fix b37d745, F-C12-2):
a replica that is down might hold the blob, so the caller is not told that the blob is missing -/
theorem C12_fetch_miss_classified (reads : List Sub) (k : Bytes) :
    (∀ tried, fetch reads k = .err .notExist tried → ∀ s ∈ reads, s.fetch k = .error .notExist) ∧
    ((∃ s ∈ reads, s.down = true) → (¬ ∃ s ∈ reads, s.down = false ∧ s.store.has k = true) →
      ∃ tried, fetch reads k = .err .down tried) := by
  constructor
  · intro tried h
    exact (fetchLoop_notExist k reads none none 0 tried (by simp) h).2
  · intro hd hno
    exact fetchLoop_down k reads none none 0 (fun s hs h => hno ⟨s, hs, h⟩) (Or.inr ⟨rfl, hd⟩)

example : fetch [⟨[([9], 3)], true⟩, ⟨[], false⟩] [9] = .err .down 2 := by decide
example : fetch [⟨[], false⟩, ⟨[([8], 1)], false⟩] [9] = .err .notExist 2 := by decide

/-- the old `Fetch` returned the LAST error: a down replica holding the blob followed by a healthy one
without it made the blob look missing -/
theorem C12_fetch_old_miss_counterexample :
    fetchOld [⟨[([9], 3)], true⟩, ⟨[], false⟩] [9] = .err .notExist 2 ∧
    fetch [⟨[([9], 3)], true⟩, ⟨[], false⟩] [9] = .err .down 2 := by decide

/-! ## StatBlobs -/

/-- **stat reports each present blob exactly once**, for ANY overlap of the read replicas' contents
and ANY order in which the replicas' reports are delivered (`reports` is any permutation of what the
reachable replicas report – every interleaving of the concurrent callbacks is one): no key twice,
and a key is reported iff it was asked for and some reachable read replica holds it -/
theorem C12_stat_exactly_once (reads : List Sub) (blobs : List Bytes) (reports : List SR)
    (hperm : reports.Perm (seqReports reads blobs)) :
    (keys (statBlobs reads blobs reports).1).Nodup ∧
    ∀ k, k ∈ keys (statBlobs reads blobs reports).1 ↔
      k ∈ blobs ∧ ∃ s ∈ reads, s.down = false ∧ s.store.has k = true := by
  obtain ⟨h1, h2⟩ := statFold_spec reports blobs
  refine ⟨h1, ?_⟩
  intro k
  simp only [statBlobs]
  rw [h2 k, ← mem_keys_seqReports reads blobs k]
  have : k ∈ keys reports ↔ k ∈ keys (seqReports reads blobs) := (hperm.map _).mem_iff
  rw [this]
  constructor
  · rintro ⟨_, h⟩; exact h
  · intro h; exact ⟨((mem_keys_seqReports reads blobs k).mp h).1, h⟩

example : (statBlobs [⟨[([1], 4), ([2], 5)], false⟩, ⟨[([2], 5), ([3], 6)], false⟩] [[2], [3], [2], [7]]
    [([2], 5), ([3], 6), ([2], 5), ([2], 5), ([2], 5)]).1 = [([2], 5), ([3], 6)] := by decide

/-- when the replicas disagree about a blob's size (one of them holds a truncated copy) the size
reported is the one of SOME reachable read replica – which one depends on the delivery order (first
reporter wins); the key is still reported exactly once (`C12_stat_exactly_once`) -/
theorem C12_stat_entry_held (reads : List Sub) (blobs : List Bytes) (reports : List SR)
    (hperm : reports.Perm (seqReports reads blobs)) (e : SR) (he : e ∈ (statBlobs reads blobs reports).1) :
    ∃ s ∈ reads, s.down = false ∧ s.store.get? e.1 = some e.2 := by
  have h1 : e ∈ seqReports reads blobs := hperm.mem_iff.mp (statFold_subset reports blobs e he)
  simp only [seqReports, List.mem_flatMap, List.mem_filter] at h1
  obtain ⟨s, ⟨hs, hup⟩, hmem⟩ := h1
  exact ⟨s, hs, by simpa using hup, mem_statReports s blobs e hmem⟩

example : (statBlobs [⟨[([2], 4)], false⟩, ⟨[([2], 5)], false⟩] [[2]] [([2], 5), ([2], 4)]).1 = [([2], 5)] ∧
    (statBlobs [⟨[([2], 4)], false⟩, ⟨[([2], 5)], false⟩] [[2]] [([2], 4), ([2], 5)]).1 = [([2], 4)] := by decide

/-- non-vacuity: an interleaving of two replicas' reports is a permutation of their concatenation -/
example : [(([2] : Bytes), 5), ([2], 5), ([1], 4), ([3], 6)].Perm
    (seqReports [⟨[([1], 4), ([2], 5)], false⟩, ⟨[([2], 5), ([3], 6)], false⟩, ⟨[([9], 1)], true⟩] [[1], [2], [3], [9]]) := by
  decide

/-! ## EnumerateBlobs -/

/-- all sub-stores ascending (an invariant: `C12_store_ops_keep_ascending`) -/
def StoresAsc (reads : List Sub) : Prop := AllAsc (reads.map Sub.store)

instance (reads : List Sub) : Decidable (StoresAsc reads) := by unfold StoresAsc; infer_instance

/-- **enumerate reports each present blob exactly once**: for ANY number of read replicas with ANY
overlap of contents, what is sent is the ascending duplicate-free union of their keys after the cursor,
cut at `limit` -/
theorem C12_enumerate_exactly_once (reads : List Sub) (h : StoresAsc reads) (after : Option Bytes) (limit : Nat) :
    keys (enumerateBlobs reads after limit) =
      ((unionKeys (reads.map Sub.store)).filter (afterOk after)).take limit ∧
    (keys (enumerateBlobs reads after limit)).Nodup ∧
    Asc ltB (keys (enumerateBlobs reads after limit)) := by
  have e := mergedEnumerateStorage_keys (reads.map Sub.store) h after limit
  have hpw : (((unionKeys (reads.map Sub.store)).filter (afterOk after)).take limit).Pairwise
      (fun a b => ltB a b = true) :=
    List.Pairwise.sublist (List.take_sublist _ _) (List.Pairwise.filter _ (unionKeys_pw _))
  refine ⟨e, ?_, ?_⟩
  · rw [enumerateBlobs, e]
    apply List.Pairwise.imp _ hpw
    intro a b hab he; subst he; rw [ltB_irrefl] at hab; cases hab
  · rw [enumerateBlobs, e, asc_iff_pairwise ltB stB]; exact hpw

/-- membership form (limit not cutting): a key is enumerated iff some read replica holds it (after the cursor) -/
theorem C12_enumerate_mem (reads : List Sub) (h : StoresAsc reads) (after : Option Bytes) (limit : Nat)
    (hl : (unionKeys (reads.map Sub.store)).length ≤ limit) (k : Bytes) :
    k ∈ keys (enumerateBlobs reads after limit) ↔
      afterOk after k = true ∧ ∃ s ∈ reads, s.store.has k = true := by
  rw [(C12_enumerate_exactly_once reads h after limit).1]
  have hlen : ((unionKeys (reads.map Sub.store)).filter (afterOk after)).length ≤ limit :=
    Nat.le_trans (List.length_filter_le _ _) hl
  rw [List.take_of_length_le hlen, List.mem_filter, mem_unionKeys]
  constructor
  · rintro ⟨⟨st, hst, hk⟩, ha⟩
    obtain ⟨s, hs, rfl⟩ := List.mem_map.mp hst
    exact ⟨ha, s, hs, (get?_isSome_iff _ _).mpr hk⟩
  · rintro ⟨ha, s, hs, hk⟩
    exact ⟨⟨s.store, List.mem_map.mpr ⟨s, hs, rfl⟩, (get?_isSome_iff _ _).mp hk⟩, ha⟩

example : StoresAsc [⟨[([1], 4), ([2], 5)], false⟩, ⟨[([2], 5), ([3], 6)], false⟩, ⟨[([1], 4), ([3], 6), ([4], 1)], false⟩] := by
  decide
example : enumerateBlobs [⟨[([1], 4), ([2], 5)], false⟩, ⟨[([2], 5), ([3], 6)], false⟩,
    ⟨[([1], 4), ([3], 6), ([4], 1)], false⟩] (some [1]) 2 = [([2], 5), ([3], 6)] := by decide

/-- two read replicas holding the same ref with different sizes (a truncated copy): the ref is still
enumerated once, with the entry of the first source that has it (`merged_first_source`) -/
example : enumerateBlobs [⟨[([1], 4), ([2], 3)], false⟩, ⟨[([2], 5), ([3], 6)], false⟩] none 10
    = [([1], 4), ([2], 3), ([3], 6)] := by decide

/-- every entry enumerated is the entry of the first read replica (in read order) that holds its ref -/
theorem C12_enumerate_first_source (reads : List Sub) (h : StoresAsc reads) (limit : Nat) (e : SR)
    (he : e ∈ enumerateBlobs reads none limit) :
    ∃ pre s post, reads.map Sub.store = pre ++ s :: post ∧ e ∈ s ∧ ∀ t ∈ pre, e.1 ∉ keys t := by
  have e1 : enumerateBlobs reads none limit = mergedEnumerate limit (reads.map Sub.store) := by
    unfold enumerateBlobs mergedEnumerateStorage
    have : (reads.map Sub.store).map (fun c => sourceEnum c none limit) =
        (reads.map Sub.store).map (·.take limit) := by simp [sourceEnum]
    rw [this, merged_take_limit limit _ h]
  rw [e1] at he
  exact merged_first_source limit _ h e he

/-- receiving and removing keep every sub-store strictly ascending (so the hypothesis of
`C12_enumerate_exactly_once` holds in every reachable world) -/
theorem C12_store_ops_keep_ascending (s : Store) (h : Asc ltB (keys s)) (e : SR) (ks : List Bytes) :
    Asc ltB (keys (Store.insert e s)) ∧ Asc ltB (keys (Store.remove ks s)) :=
  ⟨(ascK_iff_pw _).mpr (insert_pw e s ((ascK_iff_pw _).mp h)),
   (ascK_iff_pw _).mpr (remove_pw ks s ((ascK_iff_pw _).mp h))⟩

/-! ## RemoveBlobs -/

/-- `RemoveBlobs` is best effort: it reports success iff at least one write replica succeeded -/
theorem C12_remove_ok_iff (subs : List Sub) (writes : List Nat) (ks : List Bytes) :
    (removeBlobs subs writes ks).2 = true ↔ ∃ i ∈ writes, (subs.getD i ⟨[], false⟩).down = false := by
  simp only [removeBlobs, List.any_eq_true, Bool.not_eq_true']

end Pk.Replica
