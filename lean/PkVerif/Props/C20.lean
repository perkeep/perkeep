import PkVerif.Lemmas.Ref
import PkVerif.Base.Order
import PkVerif.Gen.Facts
/-!
# C20 – blobref text, encodings and ordering are mutually consistent

Property theorems only.  `Pk.Ref.*` models pkg/blob/ref.go; the hash table, test ref types and
`maxOtherDigestLen` come from the regenerated `Pk.Gen` facts (`gtbl`), and every theorem that needs
a property of the table carries it as the decidable hypothesis `t.WF`, discharged for the generated
table by `decide` (`C20_gen_table_wf`).
-/
namespace Pk.Ref

/-- obligation on the regenerated facts: every supported hash name is a valid digest name (so it
contains no `-`) and has a non-empty digest -/
theorem C20_gen_table_wf : gtbl.WF := by decide

/-- the text of whatever `parse` accepts is the input: text → ref → text is the identity
(all strings, both `Parse` and `ParseKnown`, supported and unknown hash names, odd digests included) -/
theorem C20_parse_toText (t : Tbl) (s : Bytes) (allowAll : Bool) (r : Ref)
    (h : parse t s allowAll = some r) : toText r = s :=
  toText_of_parse t s allowAll r h

/-- a ref that came out of parsing parses back from its own text to an equal ref -/
theorem C20_reparse (t : Tbl) (s : Bytes) (r : Ref) (h : parse t s true = some r) :
    parse t (toText r) true = some r := by
  rw [C20_parse_toText t s true r h]; exact h

/-- the ref computed for bytes by a supported hash (name in the table, digest of the table's size)
prints to a text that both `Parse` and `ParseKnown` map back to it -/
theorem C20_toText_parse_known (t : Tbl) (ht : t.WF) (r : Ref) (hr : WFKnown t r) (allowAll : Bool) :
    parse t (toText r) allowAll = some r :=
  parse_toText_known t ht r hr allowAll

/-- **ordering**: for refs of supported hash functions `Less` is byte-wise order of the text forms -/
theorem C20_less_iff_text_lt (t : Tbl) (ht : t.WF) (r o : Ref) (hr : WFKnown t r) (ho : WFKnown t o) :
    less r o = ltB (toText r) (toText o) := by
  obtain ⟨hrs, hrb, hrodd⟩ := hr
  obtain ⟨hos, hob, hoodd⟩ := ho
  rw [toText_known r hrodd, toText_known o hoodd]
  unfold less
  by_cases hn : r.name = o.name
  · have hlen : r.sum.length = o.sum.length := by
      rw [hn] at hrs; rw [hrs] at hos; injection hos
    simp only [hn, bne_self_eq_false, Bool.false_eq_true, if_false]
    rw [ltB_append_left]
    simp only [ltB, Nat.lt_irrefl, if_false]
    exact (ltB_hexEnc _ _ hrb hob hlen).symm
  · have h1 := validName_all_gt _ (known_name_valid t ht _ _ hrs).1
    have h2 := validName_all_gt _ (known_name_valid t ht _ _ hos).1
    have hne : (r.name != o.name) = true := by simp [hn]
    simp only [hne, if_true]
    exact (ltB_names _ _ _ _ h1 h2 hn).symm

/-- the text form is injective on refs of supported hash functions: two such refs with the same
text are the same ref (so a store keyed by text and one keyed by ref hold the same set) -/
theorem C20_toText_injective (t : Tbl) (ht : t.WF) (r o : Ref) (hr : WFKnown t r) (ho : WFKnown t o)
    (h : toText r = toText o) : r = o := by
  have h1 := C20_toText_parse_known t ht r hr true
  have h2 := C20_toText_parse_known t ht o ho true
  rw [h, h2] at h1
  exact (Option.some.inj h1).symm

/-- **`Less` is a strict total order on refs of supported hash functions** – irreflexive, transitive
and trichotomous – which is what lets every enumeration (sorted by `Less` or by text, C01) have one
well-defined order and every `after` cursor one well-defined position -/
theorem C20_less_strict_total (t : Tbl) (ht : t.WF) (a b c : Ref) (ha : WFKnown t a) (hb : WFKnown t b)
    (hc : WFKnown t c) :
    less a a = false ∧
    (less a b = true → less b c = true → less a c = true) ∧
    (less a b = true → less b a = false) ∧
    (less a b = true ∨ a = b ∨ less b a = true) := by
  rw [C20_less_iff_text_lt t ht a a ha ha, C20_less_iff_text_lt t ht a b ha hb,
    C20_less_iff_text_lt t ht b c hb hc, C20_less_iff_text_lt t ht a c ha hc,
    C20_less_iff_text_lt t ht b a hb ha]
  refine ⟨ltB_irrefl _, ltB_trans _ _ _, ltB_asymm _ _, ?_⟩
  rcases ltB_total (toText a) (toText b) with h | h | h
  · exact Or.inl h
  · exact Or.inr (Or.inl (C20_toText_injective t ht a b ha hb h))
  · exact Or.inr (Or.inr h)

/-- **the order every enumeration promises**: a list of supported refs is ascending by `Less` exactly
when the list of their text forms is ascending byte-wise – a store may sort by either and a client may
check either, for lists of any length -/
theorem C20_sorted_by_less_iff_texts_sorted (t : Tbl) (ht : t.WF) (l : List Ref)
    (hl : ∀ r ∈ l, WFKnown t r) :
    Pk.Asc less l ↔ Pk.Asc ltB (l.map toText) := by
  induction l with
  | nil => simp [Pk.Asc]
  | cons a tl ih =>
    cases tl with
    | nil => simp [Pk.Asc]
    | cons b tl' =>
      have ha := hl a (by simp)
      have hb := hl b (by simp)
      have ih' := ih (fun r hr => hl r (by simp [hr]))
      simp only [List.map_cons] at ih' ⊢
      simp only [Pk.Asc]
      rw [C20_less_iff_text_lt t ht a b ha hb, ih']

/-- `EqualString` on a supported ref decides equality with the text form and cannot panic -/
theorem C20_equalString_iff (t : Tbl) (r : Ref) (hr : WFKnown t r) (s : Bytes) :
    equalString t r s = some (decide (s = toText r)) := by
  have hsup : supported t r = true := by rw [supported, hr.1]; rfl
  rw [equalString, if_pos hsup, toText_known r hr.2.2, equalStringKnown_eq]

/-- `HasPrefix` on a supported ref: true exactly when `s` is a prefix of the text form that reaches
past `name-` (at least one digest character, as documented); it cannot panic -/
theorem C20_hasPrefix_iff (t : Tbl) (ht : t.WF) (r : Ref) (hr : WFKnown t r) (s : Bytes) (g : Bool) :
    hasPrefix t g r s = some (s.isPrefixOf (toText r) && decide (r.name.length + 1 < s.length)) := by
  have hsup : supported t r = true := by rw [supported, hr.1]; rfl
  rw [hasPrefix, if_pos hsup, toText_known r hr.2.2,
    hasPrefixKnown_eq r s (known_name_valid t ht _ _ hr.1).2]

/-- `ParseKnown` hands out only refs of supported hashes or of the three test ref types -/
theorem C20_parseKnown_only_supported (t : Tbl) (s : Bytes) (r : Ref) (h : parse t s false = some r) :
    supported t r = true ∨ t.testTypes.contains r.name = true := by
  obtain ⟨name, hex, _, _, hn, ⟨size, hz, _⟩ | ⟨_, htt, _⟩⟩ := parse_spec t s false r h
  · left; rw [supported, hn, hz]; rfl
  · right; rw [hn]; exact htt.resolve_left (by decide)

/-- binary encoding round-trips for every supported ref -/
theorem C20_binary_roundtrip_known (t : Tbl) (ht : t.WF) (r : Ref) (hr : WFKnown t r) :
    unmarshalBinary t (marshalBinary r) = some r := by
  obtain ⟨hsz, _, hodd⟩ := hr
  obtain ⟨hv, _⟩ := known_name_valid t ht _ _ hsz
  obtain ⟨name, sum, odd⟩ := r
  cases hodd
  have hne : ¬ name.length < 1 := by
    cases name with
    | nil => cases hv
    | cons _ _ => exact Nat.not_lt.mpr (Nat.succ_le_succ (Nat.zero_le _))
  unfold unmarshalBinary marshalBinary
  rw [indexDash_append _ _ (validName_no_dash _ hv)]
  simp only
  rw [if_neg hne, List.take_left', ← List.singleton_append, ← List.append_assoc,
    List.drop_left' (by simp)]
  simp only [hsz, bne_self_eq_false, Bool.false_eq_true, if_false]
  rfl

/-- the binary encoding does NOT round-trip for unknown-hash refs with an odd number of hex digits:
`foo-abc` marshals to `foo-` ++ [0xab, 0xc0] and unmarshals as `foo-abc0`.  (Known finding F-C20-2;
the property's scope is supported hashes, where `C20_binary_roundtrip_known` holds.) -/
theorem C20_binary_roundtrip_odd_counterexample :
    ∃ r, parse gtbl [102, 111, 111, 45, 97, 98, 99] true = some r ∧
      unmarshalBinary gtbl (marshalBinary r) ≠ some r := by
  refine ⟨⟨[102, 111, 111], [171, 192], true⟩, by decide, by decide⟩

/-- JSON encoding round-trips for whatever `Parse` produced (every hash name, odd digests included) -/
theorem C20_json_roundtrip (t : Tbl) (s : Bytes) (r : Ref) (h : parse t s true = some r) :
    unmarshalJSON t (marshalJSON r) = some (some r) := by
  rw [marshalJSON, unmarshalJSON_quoted, parseBytes, C20_parse_toText t s true r h, h]; rfl

/-! ### the repaired defect (F-C20-1) and non-vacuity -/

/-- The code before the fix (`guarded = false`): `HasPrefix` of an unknown-hash ref with the bare hash name
panics (index out of range).  Repaired in /repo by a `fix:` commit; the model of the current tree is
`guarded = true`, where the same call answers `false`. -/
theorem C20_hasPrefix_unguarded_counterexample :
    hasPrefix gtbl false ⟨[102, 111, 111], [171], false⟩ [102, 111, 111] = none ∧
    hasPrefix gtbl true ⟨[102, 111, 111], [171], false⟩ [102, 111, 111] = some false := by
  constructor <;> decide

/-- hypotheses of the theorems above are satisfiable: a concrete sha1 ref is `WFKnown` -/
example : WFKnown gtbl ⟨[115, 104, 97, 49], List.replicate 20 171, false⟩ :=
  ⟨by decide, by decide, rfl⟩

example : parse gtbl (toText ⟨[115, 104, 97, 49], List.replicate 20 171, false⟩) false
    = some ⟨[115, 104, 97, 49], List.replicate 20 171, false⟩ := by decide

end Pk.Ref
