import PkVerif.Lemmas.SearchPage
import PkVerif.Gen.Facts
import PkVerif.Gen.C09
/-!
# C09 – paging through search results neither skips nor repeats anything

`Pk.SearchPage.*` models the continue-token codec, `addContinueConstraint`,
the `Continue` branch of `PermanodeConstraint.blobMatches`, the sorted permanode enumeration of the
corpus, the callback of `Handler.Query` (limit and Around bookkeeping) and `setResultContinue`.
A time is an `Int`: true nanoseconds since the Unix epoch (ties, sub-second values, pre-1970 and
out-of-int64 values are all just integers).

* `C09_pages_cover_exactly_once_partial` – for EVERY world (any ties), sort, constraint and limit ≥ 1,
  following the tokens returns the full ordered list exactly once – provided every matching time
  fits `Time.UnixNano` (int64 nanoseconds: years 1678..2262).  The guard is what the proof forces:
  `C09_pages_cover_exactly_once_counterexample` (finding F-C09-2, known).
* before the `fix:` commit the codec also failed for every pre-1970 time
  (`C09_old_codec_negative_counterexample`, `C09_old_paging_repeats_counterexample`; F-C09-1, fixed).
* `C09_around_window` – an Around query returns a contiguous window of the full ordered list that
  contains the pivot (at most `limit` long), or nothing when the pivot does not match: no guard.
* `C09_around_unsorted_window` – the same for the sorts whose candidate source is unsorted (CreatedAsc,
  BlobRefAsc: collect, sort, cut by position); before the second `fix:` commit that path panicked
  whenever the sort was not the ref order (`C09_around_unsorted_old_panics_counterexample`; F-C09-3, fixed).
-/
namespace Pk.SearchPage
open Pk Pk.Ref

/-- the hash tables, built from the regenerated `Gen.*` tables -/
def gtbl : Tbl := ⟨Gen.refSizes, Gen.testRefTypes, Gen.maxOtherDigestLen⟩

/-- obligation on the regenerated facts (needed by the ref part of the token round trip) -/
theorem C09_gen_table_wf : gtbl.WF := by decide

/-- obligation on the regenerated facts: the token is printed with `pn:%d:%v` of `t.UnixNano()` and
the ref, and read back by `strings.HasPrefix "pn:"`, `strings.Index ":"`, `strconv.ParseInt(·, 10, 64)`,
`time.Unix(0, ·)`, `blob.Parse` – what `encodeToken` / `parsePermanodeContinueToken … true` model -/
theorem C09_gen_token_codec :
    Gen.contTokenFormat = pnPrefix ++ [37, 100, 58, 37, 118] ∧
    Gen.contTokenArgs = [[116, 46, 85, 110, 105, 120, 78, 97, 110, 111, 40, 41], [108, 97, 115, 116, 112, 110]] ∧
    Gen.contParseCalls =
      [[115, 116, 114, 105, 110, 103, 115, 46, 72, 97, 115, 80, 114, 101, 102, 105, 120],   -- strings.HasPrefix
       [108, 101, 110],                                                                       -- len
       [115, 116, 114, 105, 110, 103, 115, 46, 73, 110, 100, 101, 120],                       -- strings.Index
       [115, 116, 114, 99, 111, 110, 118, 46, 80, 97, 114, 115, 101, 73, 110, 116],           -- strconv.ParseInt
       [116, 105, 109, 101, 46, 85, 110, 105, 120],                                           -- time.Unix
       [98, 108, 111, 98, 46, 80, 97, 114, 115, 101]] ∧                                       -- blob.Parse
    Gen.contParseStrings = [pnPrefix, pnPrefix, [58]] ∧
    Gen.contParseInts = [0, 10, 64, 0, 1] := ⟨rfl, rfl, rfl, rfl, rfl⟩


/-- **codec round trip** (repaired parser): for ANY time and any ref of a supported hash, the token
decodes to `UnixNano` of the time and to the ref -/
theorem C09_token_roundtrip (t : Int) (r : Ref) (hr : WFKnown gtbl r) :
    parsePermanodeContinueToken gtbl true (encodeToken t r) = some (unixNano t, r) :=
  token_roundtrip gtbl C09_gen_table_wf t r hr

/-- … which is the time itself whenever it fits int64 nanoseconds – negative (pre-1970) included -/
theorem C09_token_roundtrip_exact (t : Int) (ht : InInt64 t) (r : Ref) (hr : WFKnown gtbl r) :
    parsePermanodeContinueToken gtbl true (encodeToken t r) = some (t, r) := by
  rw [C09_token_roundtrip t r hr]; unfold unixNano; rw [wrap64_id t ht]

/-- a sha224 ref with all digest bytes `b` -/
def rk (b : Nat) : RefKey := ⟨[115, 104, 97, 50, 50, 52], List.replicate 28 b⟩

example : WFKnown gtbl (rk 7).toRef := by decide
example : InInt64 (-1) ∧ InInt64 (-9223372036854775808) ∧ ¬ InInt64 9223372036854775808 := by decide

/-- the parser as it was before the fix (`strconv.ParseUint`) rejects the token the server itself
printed for one nanosecond before 1970 -/
theorem C09_old_codec_negative_counterexample :
    parsePermanodeContinueToken gtbl false (encodeToken (-1) (rk 7).toRef) = none ∧
    parsePermanodeContinueToken gtbl true (encodeToken (-1) (rk 7).toRef) = some (-1, (rk 7).toRef) := by
  decide +kernel


/-- (time desc, ref desc) – the order of `sort.Reverse(byPermanodeTime)` – is a strict total order -/
theorem C09_order_strict_total : StrictTotal before := before_strictTotal

/-- the full ordered list is strictly ascending in that order (so it has no duplicates, whatever
the ties between times) and consists exactly of the matching permanodes that have a time -/
theorem C09_full_sorted (w : List PN) (srt : SortBy) (c : Cons) (hnd : (w.map PN.ref).Nodup) :
    Asc before (fullOrdered w srt c) ∧ (fullOrdered w srt c).Nodup ∧
    ∀ k, k ∈ fullOrdered w srt c ↔
      (∃ p ∈ w, pnTime srt p = some k.1 ∧ p.ref = k.2) ∧ baseMatches w c k.2 = true := by
  refine ⟨fullOrdered_asc srt c w hnd, ?_, mem_fullOrdered srt c w⟩
  have hp := fullOrdered_pairwise srt c w hnd
  refine hp.imp ?_
  intro a b hab e
  rw [e, before_strictTotal.irrefl] at hab; cases hab

/-- a query with negative limit and no token returns the full ordered list and no token -/
theorem C09_full_is_limit_free_query (signed : Bool) (w : List PN) (srt : SortBy) (c : Cons) (lim : Int)
    (hl : lim < 0) :
    query gtbl signed w ⟨srt, c, lim, [], none⟩ = some ⟨fullOrdered w srt c, []⟩ := by
  unfold query
  have h0 : ¬ lim = 0 := by omega
  have h1 : lim ≤ 0 := by omega
  have hc := collect_nolimit lim h1 none (fullOrdered w srt c) [] false
  simp only [List.nil_append] at hc
  simp only [List.isEmpty_nil, Bool.not_true, Bool.false_and, Bool.false_eq_true, if_false, h0,
    Option.isSome_none, Bool.false_and, Option.isNone_none, if_true, matcher_first, hc]
  simp [setResultContinue, h1]


/-- a page requested with the token of `c` (an element of the full list) is `Pk.enumerate` of the
full list after the cursor `c`; the first page is `Pk.enumerate` without cursor -/
theorem C09_page_is_enumerate (w : List PN) (srt : SortBy) (c : Cons) (L : Nat) (hL : 0 < L)
    (hw : WorldOK gtbl w) (hr : ∀ k ∈ fullOrdered w srt c, InInt64 k.1) :
    (∃ tok, query gtbl true w ⟨srt, c, (L : Int), [], none⟩ =
        some ⟨enumerate before (fullOrdered w srt c) none L, tok⟩) ∧
    ∀ x ∈ fullOrdered w srt c, ∃ tok,
      query gtbl true w ⟨srt, c, (L : Int), encodeToken x.1 x.2.toRef, none⟩ =
        some ⟨enumerate before (fullOrdered w srt c) (some x) L, tok⟩ := by
  constructor
  · exact ⟨_, by rw [query_page gtbl true w srt c L hL, matcher_first]; rfl⟩
  · intro x hx
    exact ⟨_, by rw [query_page gtbl true w srt c L hL,
      matcher_after gtbl C09_gen_table_wf w srt c _ x (hr x hx) (wf_of_mem_fullOrdered hw hx)
        fun k hk => ne_zeroTime_of_inInt64 (hr k hk)]; rfl⟩

/-- for ANY well-formed token – also a stale one, whose permanode is no longer in the list, or one
made up by the client – the page is a contiguous piece `(full.drop n).take L` of the full list and
nothing before it is "after the cursor": no result is repeated or taken out of order -/
theorem C09_any_token_page_is_suffix (w : List PN) (srt : SortBy) (c : Cons) (L : Nat) (hL : 0 < L)
    (hnd : (w.map PN.ref).Nodup) (hz : ∀ k ∈ fullOrdered w srt c, k.1 ≠ zeroTime)
    (tok : Bytes) (T : Int) (last : Ref) (htok : tok.isEmpty = false)
    (hp : parsePermanodeContinueToken gtbl true tok = some (T, last)) :
    ∃ n cont, query gtbl true w ⟨srt, c, (L : Int), tok, none⟩ = some ⟨((fullOrdered w srt c).drop n).take L, cont⟩ ∧
      ∀ x ∈ (fullOrdered w srt c).take n, before (T, ⟨last.name, last.sum⟩) x = false := by
  obtain ⟨n, hn, hpre⟩ := filter_gt_eq_drop before before_strictTotal (fullOrdered w srt c)
    (fullOrdered_asc srt c w hnd) (T, ⟨last.name, last.sum⟩)
  refine ⟨n, setResultContinue (L : Int) (((fullOrdered w srt c).drop n).take L), ?_, hpre⟩
  rw [query_page gtbl true w srt c L hL, ← hn, matcher_token gtbl true w srt c _ tok T last htok hp hz]


/-- **C09, paging** (partial: guard `InInt64` on the matching times): for every world – arbitrary
ties between times, sub-second and pre-1970 times –, both continuable sorts, every base constraint
and every limit ≥ 1, a client that follows the continuation tokens receives the full ordered list
exactly once: nothing skipped, nothing repeated, in order -/
theorem C09_pages_cover_exactly_once_partial (w : List PN) (srt : SortBy) (c : Cons) (limit : Nat)
    (hl : 0 < limit) (hw : WorldOK gtbl w) (hr : ∀ k ∈ fullOrdered w srt c, InInt64 k.1)
    (fuel : Nat) (hf : (fullOrdered w srt c).length < fuel) :
    followContinue gtbl true w srt c (limit : Int) fuel [] = fullOrdered w srt c :=
  follow_all gtbl C09_gen_table_wf w srt c limit hl hw hr fuel hf

/-- the same from the middle: after a page that ended at `x`, the remaining pages are exactly what
follows `x` in the full list -/
theorem C09_pages_resume_partial (w : List PN) (srt : SortBy) (c : Cons) (limit : Nat)
    (hl : 0 < limit) (hw : WorldOK gtbl w) (hr : ∀ k ∈ fullOrdered w srt c, InInt64 k.1)
    (pre r : List Cand) (x : Cand) (hM : fullOrdered w srt c = pre ++ x :: r) (fuel : Nat) (hf : r.length < fuel) :
    followContinue gtbl true w srt c (limit : Int) fuel (encodeToken x.1 x.2.toRef) = r :=
  follow_from gtbl C09_gen_table_wf w srt c limit hl hw hr fuel pre r x hM hf

/-- a world with massively tied, pre-1970 and sub-second times: three permanodes share the
modification time −5 ns, two share the creation time 0.000000001 s -/
def wTies : List PN :=
  [⟨rk 1, none, true, false, [-5], false, none⟩, ⟨rk 2, some 1, true, false, [-5], false, none⟩, ⟨rk 3, some 1, true, true, [-5, -7], false, none⟩,
   ⟨rk 4, some (-1000000000), false, true, [1322443956000123456], false, none⟩, ⟨rk 5, none, false, false, [], false, none⟩]

example : WorldOK gtbl wTies := ⟨by decide +kernel, by decide +kernel⟩
example : ∀ k ∈ fullOrdered wTies .lastMod .all, InInt64 k.1 := by decide +kernel
example : (fullOrdered wTies .lastMod .all).map (·.2) = [rk 4, rk 3, rk 2, rk 1] := by decide +kernel
example : followContinue gtbl true wTies .lastMod .all 1 6 [] = fullOrdered wTies .lastMod .all := by decide +kernel
example : followContinue gtbl true wTies .created .tagA 2 6 [] = fullOrdered wTies .created .tagA := by decide +kernel

/-- a world where sort times come from content files (FileInfo.Time of the indexed camliContent file;
a file that has not reached the index yet does not count) and where the constraint is restricted by
node type – all tied at −5 ns -/
def wContent : List PN :=
  [⟨rk 1, none, false, false, [-9], true, some ⟨-9, some (-5), true⟩⟩, ⟨rk 2, none, true, false, [-5, -6], true, none⟩,
   ⟨rk 3, none, false, false, [-5], true, some ⟨-5, some 77, false⟩⟩, ⟨rk 4, none, true, false, [-5], false, none⟩]

example : WorldOK gtbl wContent := ⟨by decide +kernel, by decide +kernel⟩
example : (fullOrdered wContent .created .nodeType).map (·.2) = [rk 3, rk 2, rk 1] := by decide +kernel
example : followContinue gtbl true wContent .created .nodeType 1 5 [] = fullOrdered wContent .created .nodeType := by decide +kernel
example : followContinue gtbl true wContent .created (.refPrefix [115, 104, 97, 50, 50, 52, 45, 48]) 2 5 []
    = fullOrdered wContent .created (.refPrefix [115, 104, 97, 50, 50, 52, 45, 48]) := by decide +kernel

/-- before the fix (ParseUint) the first page of a pre-1970 list came back forever: three requests,
three times the same permanode; the repaired parser returns each permanode once -/
theorem C09_old_paging_repeats_counterexample :
    (followContinue gtbl false wTies .lastMod .tagA 1 3 []).map (·.2) = [rk 3, rk 3, rk 3] ∧
    (followContinue gtbl true wTies .lastMod .tagA 1 4 []).map (·.2) = [rk 3, rk 2, rk 1] := by
  decide +kernel

/-- two permanodes created in the year 2262, just after `Time.UnixNano` overflows (2^63 ns) -/
def wFar : List PN :=
  [⟨rk 1, some 9223372036854775808, false, false, [-5], false, none⟩, ⟨rk 2, some 9223372036854775813, false, false, [-5], false, none⟩]

example : WorldOK gtbl wFar := ⟨by decide, by decide⟩

/-- **the guard is needed** (finding F-C09-2): outside int64 nanoseconds `UnixNano` wraps, the token
names a time 584 years earlier, the second page is empty and `rk 1` is never returned -/
theorem C09_pages_cover_exactly_once_counterexample :
    (fullOrdered wFar .created .all).map (·.2) = [rk 2, rk 1] ∧
    (followContinue gtbl true wFar .created .all 1 5 []).map (·.2) = [rk 2] ∧
    ¬ (∀ k ∈ fullOrdered wFar .created .all, InInt64 k.1) := by
  decide +kernel


/-- **C09, Around**: for every world, sort, constraint, limit (also ≤ 0) and pivot, the result of an
Around query is a contiguous window (`<:+:`) of the full ordered list that contains the pivot – at
most `limit` long when the limit is positive – or is empty when the pivot is not in the full list
(it does not match, has no time, or does not exist); it never carries a continue token -/
theorem C09_around_window (signed : Bool) (w : List PN) (srt : SortBy) (c : Cons) (lim : Int) (piv : Ref) :
    ∃ res, query gtbl signed w ⟨srt, c, lim, [], some piv⟩ = some ⟨res, []⟩ ∧
      (piv ∈ refsOf (fullOrdered w srt c) → res <:+: fullOrdered w srt c ∧ piv ∈ refsOf res) ∧
      (piv ∉ refsOf (fullOrdered w srt c) → res = []) ∧
      (0 < lim → (res.length : Int) ≤ lim) :=
  query_around gtbl signed w srt c lim piv

/-- Continue and Around together are rejected -/
theorem C09_around_excludes_continue (signed : Bool) (w : List PN) (srt : SortBy) (c : Cons) (lim : Int)
    (piv : Ref) (tok : Bytes) (h : tok.isEmpty = false) :
    query gtbl signed w ⟨srt, c, lim, tok, some piv⟩ = none := by
  simp [query, h]

example : ((query gtbl true wTies ⟨.lastMod, .all, 2, [], some (rk 1).toRef⟩).map (·.blobs.map (·.2)))
    = some [rk 2, rk 1] := by decide +kernel
example : ((query gtbl true wTies ⟨.lastMod, .all, 3, [], some (rk 5).toRef⟩).map (·.blobs)) = some [] := by decide +kernel

/-! ## Around on the other sorts (unsorted candidate source, query.go:1116-1180) -/

theorem sortU_mem (w : List PN) (us : USort) (l full : List RefKey) (h : sortU w us l = some full) (k : RefKey) :
    k ∈ full ↔ k ∈ l := by
  cases us with
  | blobRefAsc => simp only [sortU] at h; injection h with h; rw [← h, mem_sortBy]
  | createdAsc =>
    simp only [sortU] at h
    split at h
    · cases h
    · injection h with h; rw [← h, mem_sortBy]

/-- **C09, Around, any other sort** (CreatedAsc, BlobRefAsc – the results are collected, sorted, then
cut around the pivot's position): the query never panics; the result is a contiguous window of the
sorted full list that contains the pivot, at most `limit` long; it is empty when the pivot does not
match; when the sort itself fails (CreatedAsc over permanodes without any time) the query fails -/
theorem C09_around_unsorted_window (w : List PN) (us : USort) (c : Cons) (lim : Int) (piv : Ref) :
    (piv ∉ (matchedU w c).map RefKey.toRef → queryUnsorted true w us c lim [] (some piv) = .ok []) ∧
    (piv ∈ (matchedU w c).map RefKey.toRef →
      match sortU w us (matchedU w c) with
      | none => queryUnsorted true w us c lim [] (some piv) = .err
      | some full => ∃ res, queryUnsorted true w us c lim [] (some piv) = .ok res ∧
          res <:+: full ∧ piv ∈ res.map RefKey.toRef ∧ (0 < lim → (res.length : Int) ≤ lim)) := by
  have hany : (matchedU w c).any (fun k => k.toRef == piv) = true ↔ piv ∈ (matchedU w c).map RefKey.toRef := by
    simp
  have hL : 0 < lim → (if lim = 0 then 200 else lim) = lim := fun h => if_neg (Int.ne_of_gt h)
  unfold queryUnsorted
  simp only [List.isEmpty_nil, Bool.not_true, Bool.false_and, Bool.false_eq_true, if_false]
  generalize (if lim = 0 then 200 else lim) = L at hL ⊢
  constructor
  · intro hnot
    have hs : sortU w us [] = some [] := by cases us <;> rfl
    rw [Bool.eq_false_iff.mpr fun h => hnot (hany.mp h)]
    simp only [Bool.false_eq_true, if_false, hs]
    rw [if_neg fun h => absurd (Int.lt_trans h.1 h.2) (Int.lt_irrefl 0)]
  · intro hin
    rw [hany.mpr hin, if_pos rfl]
    cases hs : sortU w us (matchedU w c) with
    | none => rfl
    | some full =>
      have hpf : piv ∈ full.map RefKey.toRef := by
        obtain ⟨k, hk, he⟩ := List.mem_map.mp hin
        exact List.mem_map.mpr ⟨k, (sortU_mem w us _ full hs k).mpr hk, he⟩
      simp only
      by_cases hcut : 0 < L ∧ L < (full.length : Int)
      · rw [if_pos hcut]
        obtain ⟨pos, x, hp, hx, hxp⟩ := aroundPos_fixed full piv hpf
        obtain ⟨h1, h2, h3⟩ := windowAround_spec full pos L.toNat x hx (Int.lt_toNat.mpr hcut.1)
        rw [hp]
        exact ⟨_, rfl, h1, List.mem_map.mpr ⟨x, h2, hxp⟩, fun hl => hL hl ▸
          Int.le_trans (Int.ofNat_le.mpr h3) (Int.le_of_eq (Int.toNat_of_nonneg (Int.le_of_lt hcut.1)))⟩
      · rw [if_neg hcut]
        exact ⟨full, rfl, List.infix_refl _, hpf, fun hl => Int.not_lt.mp fun h => hcut ⟨hL hl ▸ hl, hL hl ▸ h⟩⟩

/-- four permanodes whose creation order (4, 3, 2, 1 ns) is the reverse of their ref order -/
def wAsc : List PN :=
  [⟨rk 1, some 4, false, false, [-5], false, none⟩, ⟨rk 2, some 3, false, false, [-5], false, none⟩,
   ⟨rk 3, some 2, false, false, [-5], false, none⟩, ⟨rk 4, some 1, false, false, [-5], false, none⟩]

example : sortU wAsc .createdAsc (matchedU wAsc .all) = some [rk 4, rk 3, rk 2, rk 1] := by decide +kernel
example : queryUnsorted true wAsc .createdAsc .all 2 [] (some (rk 3).toRef) = .ok [rk 4, rk 3] := by decide +kernel

/-- before the fix (finding F-C09-3) the pivot was looked up with a binary search on the ref strings
in a list sorted by time: the lookup missed it and `Query` panicked; the linear lookup finds it -/
theorem C09_around_unsorted_old_panics_counterexample :
    queryUnsorted false wAsc .createdAsc .all 1 [] (some (rk 1).toRef) = .panic ∧
    queryUnsorted true wAsc .createdAsc .all 1 [] (some (rk 1).toRef) = .ok [rk 1] := by
  decide +kernel

end Pk.SearchPage
