import PkVerif.Lemmas.FaultTree
import PkVerif.Lemmas.StatGate
import PkVerif.Gen.C13
/-!
# C13 – a transient lower-layer failure fails one call and nothing else

Every leaf of a storage tree sits behind a schedule of transient failures (`faultLeaf`: call i of
that leaf goes through, fails before any effect, or takes effect and answers an error).  The
contract is `Pk.RefMap.FRefines` (Spec/Faults.lean): every step keeps the invariant and is exact, or
answers `.err` with the logical contents at the before- or the after-state of THAT operation; when no
failure is pending anywhere every step is exact.  `interpFRefines` proves the contract for every
tree by recursion; the theorems below are its consequences for all trees, schedules and histories.

What does NOT satisfy the contract is stated as `_counterexample` + `_partial`:
replica's "best effort" remove (finding F-C13-3, open) and the former parallel remove of proxycache
(F-C13-4, repaired in /repo 938eb3a); and the gate leak of `StatBlobsParallelHelper` (F-C13-1,
repaired in /repo f90901e), whose repaired shape is read off the regenerated effect list.
-/
namespace Pk.Stores
open Pk Pk.SMap Pk.RefMap

/-- the cache of a proxycache behind ANY failure schedule keeps the cache contract -/
def cacheFCaches (content : Bytes → Bytes) : (c : FCache) → FCaches content c.interp
  | .memCache sched max => faultLeafFCachesAny (memCacheCaches content max) sched
  | .mem sched => faultLeafFCachesAny (memRefines content).toCaches sched

/-- the fault contract of a configuration tree, by structural recursion: every combinator maps the
contracts of its sub-stores to its own.  Leaf schedules, shard routing and the schema predicate are
arbitrary. -/
def interpFRefines (content : Bytes → Bytes) (route isSchema : Bytes → Bool) :
    (c : FCfg) → FRefines content (c.interp route isSchema)
  | .leaf sched => faultLeafF (memRefines content) sched
  | .ns m => nsFRefines (interpFRefines content route isSchema m)
  | .proxy o c max => proxyFRefines (interpFRefines content route isSchema o) (cacheFCaches content c) max
  | .overlay l u => overlayFRefines (interpFRefines content route isSchema l) (interpFRefines content route isSchema u)
  | .shard2 a b => shard2FRefines route (interpFRefines content route isSchema a) (interpFRefines content route isSchema b)
  | .shardBy r a b => shard2FRefines r (interpFRefines content route isSchema a) (interpFRefines content route isSchema b)
  | .replicaStrict a b => replica2FRefines (interpFRefines content route isSchema a) (interpFRefines content route isSchema b)
  | .condStrict t e => cond2FRefines isSchema (interpFRefines content route isSchema t) (interpFRefines content route isSchema e)

/-- the failures still scheduled anywhere in the tree, in a given state -/
def FCache.pending : (c : FCache) → c.interp.σ → List Fault
  | .memCache _ _, s => s.2
  | .mem _, s => s.2

def FCfg.pending (route isSchema : Bytes → Bool) : (c : FCfg) → (c.interp route isSchema).σ → List Fault
  | .leaf _, s => s.2
  | .ns m, s => m.pending route isSchema s.2
  | .proxy o c _, s => o.pending route isSchema s.1 ++ c.pending s.2.1
  | .overlay l u, s => l.pending route isSchema s.1 ++ u.pending route isSchema s.2.1
  | .shard2 a b, s => a.pending route isSchema s.1 ++ b.pending route isSchema s.2
  | .shardBy _ a b, s => a.pending route isSchema s.1 ++ b.pending route isSchema s.2
  | .replicaStrict a b, s => a.pending route isSchema s.1 ++ b.pending route isSchema s.2
  | .condStrict t e, s => t.pending route isSchema s.1 ++ e.pending route isSchema s.2

theorem cache_quiet_of_pending (content : Bytes → Bytes) : ∀ (c : FCache) (s : c.interp.σ),
    (∀ f ∈ c.pending s, f = Fault.none) → (cacheFCaches content c).Quiet s
  | .memCache _ _, _, h => h
  | .mem _, _, h => h

/-- "no failure pending" made concrete: when every remaining schedule entry of every leaf is `none`,
the tree is in a `Quiet` state of its contract -/
theorem quiet_of_pending (content : Bytes → Bytes) (route isSchema : Bytes → Bool) :
    ∀ (c : FCfg) (s : (c.interp route isSchema).σ),
      (∀ f ∈ c.pending route isSchema s, f = Fault.none) → (interpFRefines content route isSchema c).Quiet s := by
  intro c
  induction c with
  | leaf _ => exact fun _ h => h
  | ns m ih => exact fun s h => ih s.2 h
  | proxy o c _ ih =>
    exact fun s h => ⟨ih s.1 (List.forall_mem_append.mp h).1,
      cache_quiet_of_pending content c s.2.1 (List.forall_mem_append.mp h).2⟩
  | overlay l u ihl ihu =>
    exact fun s h => ⟨ihl s.1 (List.forall_mem_append.mp h).1, ihu s.2.1 (List.forall_mem_append.mp h).2⟩
  | shard2 a b iha ihb =>
    exact fun s h => ⟨iha s.1 (List.forall_mem_append.mp h).1, ihb s.2 (List.forall_mem_append.mp h).2⟩
  | shardBy _ a b iha ihb =>
    exact fun s h => ⟨iha s.1 (List.forall_mem_append.mp h).1, ihb s.2 (List.forall_mem_append.mp h).2⟩
  | replicaStrict a b iha ihb =>
    exact fun s h => ⟨iha s.1 (List.forall_mem_append.mp h).1, ihb s.2 (List.forall_mem_append.mp h).2⟩
  | condStrict t e iht ihe =>
    exact fun s h => ⟨iht s.1 (List.forall_mem_append.mp h).1, ihe s.2 (List.forall_mem_append.mp h).2⟩

/-! ## the property -/

/-- **fault atomicity.**  For every tree (any depth, any failure schedule at every leaf and cache),
after ANY well-keyed history – whatever failed during it – the invariant holds, and the next
operation keeps it and is either exact (the reference map's answer and next contents) or answers
`.err` with the logical contents equal to the before- or the after-state of that one operation. -/
theorem C13_fault_atomic (content : Bytes → Bytes) (route isSchema : Bytes → Bool) (c : FCfg)
    (hist : List Op) (hhist : ∀ op ∈ hist, op.WK content) (op : Op) (hop : op.WK content) :
    let I := c.interp route isSchema
    let F := interpFRefines content route isSchema c
    let s := I.runState I.init hist
    F.Inv s ∧ F.Inv (I.step s op).1 ∧ Good content (F.abs (I.step s op).1) ∧
      StepOK (F.abs s) (F.abs (I.step s op).1) (I.step s op).2 op := by
  intro I F s
  have hs : F.Inv s := F.reach_inv I.init F.init_inv hist hhist
  obtain ⟨hi, hst⟩ := F.step_ok s op hs hop
  exact ⟨hs, hi, F.good _ hi, hst⟩

/-- what a faulted-or-exact step means for the individual blobs: **no other blob is touched** (every
key the operation does not name reads the same before and after), and the named key holds its old
or its new value – never anything else (nothing partial) -/
theorem C13_step_touches_one_key {content : Bytes → Bytes} {A A' : SMap Bytes} {o : Out} {op : Op}
    (hA : Good content A) (h : StepOK A A' o op) :
    (∀ k', (∀ v, op ≠ .recv k' v) → op ≠ .rm k' → get A' k' = get A k') ∧
    (∀ k v, op = .recv k v → get A' k = get A k ∨ get A' k = some (match get A k with | some w => w | none => v)) ∧
    (∀ k, op = .rm k → get A' k = get A k ∨ get A' k = none) := by
  have hmove := h.move
  refine ⟨?_, ?_, ?_⟩
  · intro k' hr hm
    rcases hmove with rfl | rfl
    · rfl
    · cases op with
      | recv k v => rw [get_next_recv_any, if_neg (fun e => hr v (by rw [e]))]
      | rm k => exact (get_del k hA.1 k').trans (if_neg (fun e => hm (by rw [e])))
      | _ => rfl
  · intro k v he
    subst he
    rcases hmove with rfl | rfl
    · exact Or.inl rfl
    · exact Or.inr ((get_next_recv_any A k v k).trans (if_pos rfl))
  · intro k he
    subst he
    rcases hmove with rfl | rfl
    · exact Or.inl rfl
    · exact Or.inr ((get_del k hA.1 k).trans (if_pos rfl))

/-- **recovery.**  After ANY history with ANY failures, once no failure is pending in any leaf, every
further history is answered exactly as the reference map started from the current logical contents –
no error persists, nothing hangs (the model is total), nothing is lost or resurrected. -/
theorem C13_recovers (content : Bytes → Bytes) (route isSchema : Bytes → Bool) (c : FCfg)
    (hist : List Op) (hhist : ∀ op ∈ hist, op.WK content)
    (hquiet : ∀ f ∈ c.pending route isSchema ((c.interp route isSchema).runState (c.interp route isSchema).init hist),
      f = Fault.none)
    (ops : List Op) (hops : ∀ op ∈ ops, op.WK content) :
    let I := c.interp route isSchema
    let s := I.runState I.init hist
    I.run s ops = RefMap.run ((interpFRefines content route isSchema c).abs s) ops ∧
      Good content ((interpFRefines content route isSchema c).abs s) := by
  intro I s
  have hs := (interpFRefines content route isSchema c).reach_inv I.init
    (interpFRefines content route isSchema c).init_inv hist hhist
  exact ⟨(interpFRefines content route isSchema c).recovers s hs
    (quiet_of_pending content route isSchema c s hquiet) ops hops,
    (interpFRefines content route isSchema c).good s hs⟩

/-- the trees of the theorems are the trees the driver and the harness run: without replica/cond the
proved model and `Pk.Stores.interp` of the driver's configuration are the same term -/
theorem C13_model_is_driver_model (route isSchema : Bytes → Bool) (c : FCfg) (h : c.strictFree = true) :
    Stores.interp route isSchema c.toCfg = c.interp route isSchema := FCfg.interp_toCfg route isSchema c h

/-- an n-way shard over `k :: r` (routing `sum key % n`) as a fault tree: sub-store `i` against the
rest (the n-way merged enumeration is the nested two-way one: `C01_merged_nway_is_nested`) -/
def FCfg.shardNest (sum : Bytes → Nat) (n : Nat) : Nat → FCfg → List FCfg → FCfg
  | _, k, [] => k
  | i, k, k' :: r => .shardBy (fun key => sum key % n != i) k (FCfg.shardNest sum n (i + 1) k' r)

/-- the fault tree of an n-way shard is the tree the driver builds for `shardN` -/
theorem C13_shardN_is_driver_tree (sum : Bytes → Nat) (n : Nat) : ∀ (r : List FCfg) (k : FCfg) (i : Nat),
    (FCfg.shardNest sum n i k r).toCfg = Cfg.shardNest sum n i k.toCfg (r.map FCfg.toCfg)
  | [], _, _ => rfl
  | k' :: r, k, i => by
    simp only [FCfg.shardNest, FCfg.toCfg, List.map_cons, Cfg.shardNest]
    rw [C13_shardN_is_driver_tree sum n r k' (i + 1)]

/-- proxycache over ANY fault-tolerant origin and ANY fault-tolerant store used as its cache -/
def C13_proxy_over_any_cache {content : Bytes → Bytes} {origin cache : Impl} (Fo : FRefines content origin)
    (Fc : FRefines content cache) (max : Nat) : FRefines content (proxyImpl origin cache max) :=
  proxyFRefines Fo Fc.toFCaches max

/-! ### non-vacuity: a three-level tree, failures of both kinds, a failed receive and its recovery -/

def exTree : FCfg :=
  .overlay (.leaf []) (.shard2 (.ns (.leaf [.none, .before, .after])) (.proxy (.leaf [.after]) (.memCache [.before] 10) 5))

def exRoute : Bytes → Bool := fun k => k == [2]

def exHist : List Op :=
  [.recv [1] [7], .rm [1], .recv [1] [7], .fetch [1], .recv [1] [7], .fetch [1], .recv [2] [8], .fetch [2],
   .recv [2] [8], .enum [] 5]

/-- blob `[1]` lives behind the namespace: its re-receive fails twice (the master's 2nd call fails
outright, the 3rd takes effect but loses its answer: `.err` both times, and the blob stays invisible –
the before-state).  Blob `[2]` goes to the proxycache: the origin stores it but loses the answer
(`.err`), the next fetch serves it (the after-state) although the cache's fetch fails too; from then
on everything is exact. -/
example : (exTree.interp exRoute (fun _ => false)).run (exTree.interp exRoute (fun _ => false)).init exHist =
    [.sized 1, .ok, .err, .notExist, .err, .notExist, .err, .bytes [8], .sized 1, .refs [([2], 1)]] := by decide

example : exTree.strictFree = true := by decide

/-- `C13_recovers`' hypothesis is satisfiable after a history with failures -/
example : ∀ f ∈ exTree.pending exRoute (fun _ => false)
    ((exTree.interp exRoute (fun _ => false)).runState (exTree.interp exRoute (fun _ => false)).init exHist),
    f = Fault.none := by decide

/-- a three-way shard (routing by key length) whose second and third sub-stores fail: the receive
routed to the second fails without effect, the one routed to the third takes effect but loses its
answer; a failing sub-store fails the whole merged enumeration once, then everything is exact -/
def exTree3 : FCfg := FCfg.shardNest (fun k => k.length) 3 0 (.leaf []) [.leaf [.before], .leaf [.after, .before]]

example : (exTree3.interp exRoute (fun _ => false)).run (exTree3.interp exRoute (fun _ => false)).init
    [.recv [1, 1, 1] [7], .recv [1] [8], .recv [1, 1] [9], .enum [] 5, .recv [1] [8], .enum [] 5] =
    [.sized 1, .err, .err, .err, .sized 1, .refs [([1], 1), ([1, 1], 1), ([1, 1, 1], 1)]] := by decide

example : exTree3.strictFree = true := by decide

/-! ## where the code is NOT fault-atomic -/

/-- **F-C13-3 (open).**  replica.RemoveBlobs is "best effort": it reports success as soon as ONE
replica removed the blob.  Two memory replicas, the first one's removal fails: the remove is
acknowledged, no call answers an error, and the blob is still served. -/
theorem C13_replica_remove_counterexample :
    (replica2Impl (faultLeaf memImpl [.none, .before]) (faultLeaf memImpl [])).run
        (replica2Impl (faultLeaf memImpl [.none, .before]) (faultLeaf memImpl [])).init
        [.recv [1] [7], .rm [1], .fetch [1]] = [.sized 1, .ok, .bytes [7]] ∧
    RefMap.run [] [.recv [1] [7], .rm [1], .fetch [1]] = [.sized 1, .ok, .notExist] :=
  replica2_rm_best_effort_counterexample

/-- the same through cond (its read and remove side is a replica) -/
theorem C13_cond_remove_counterexample :
    (cond2Impl (fun _ => true) (faultLeaf memImpl [.none, .before]) (faultLeaf memImpl [])).run
        (cond2Impl (fun _ => true) (faultLeaf memImpl [.none, .before]) (faultLeaf memImpl [])).init
        [.recv [1] [7], .rm [1], .fetch [1]] = [.sized 1, .ok, .bytes [7]] ∧
    RefMap.run [] [.recv [1] [7], .rm [1], .fetch [1]] = [.sized 1, .ok, .notExist] :=
  cond2_rm_best_effort_counterexample

/-- what holds for the REAL replica over any two fault-tolerant stores: every operation other than
remove is fault-atomic on the union of the replicas' contents (guard: `op` is not a remove) … -/
theorem C13_replica_fault_atomic_partial {content : Bytes → Bytes} {a b : Impl} (Fa : FRefines content a)
    (Fb : FRefines content b) (sa : a.σ) (sb : b.σ) (op : Op)
    (ha : Fa.Inv sa) (hb : Fb.Inv sb) (hop : op.WK content) (hnrm : ∀ k, op ≠ .rm k) :
    (Fa.Inv ((replica2Impl a b).step (sa, sb) op).1.1 ∧ Fb.Inv ((replica2Impl a b).step (sa, sb) op).1.2) ∧
    StepOK (union (Fa.abs sa) (Fb.abs sb))
      (union (Fa.abs ((replica2Impl a b).step (sa, sb) op).1.1)
        (Fb.abs ((replica2Impl a b).step (sa, sb) op).1.2))
      ((replica2Impl a b).step (sa, sb) op).2 op :=
  replica2_step_ok_except_rm Fa Fb sa sb op ha hb hop hnrm

/-- … a remove keeps both replicas' invariants whatever failed … -/
theorem C13_replica_remove_keeps_invariant_partial {content : Bytes → Bytes} {a b : Impl}
    (Fa : FRefines content a) (Fb : FRefines content b) (sa : a.σ) (sb : b.σ) (k : Bytes)
    (ha : Fa.Inv sa) (hb : Fb.Inv sb) :
    Fa.Inv ((replica2Impl a b).step (sa, sb) (.rm k)).1.1 ∧ Fb.Inv ((replica2Impl a b).step (sa, sb) (.rm k)).1.2 :=
  replica2_step_inv Fa Fb sa sb (.rm k) ha hb trivial

/-- … and once no failure is pending the real replica, remove included, is exact again -/
theorem C13_replica_recovers_partial {content : Bytes → Bytes} {a b : Impl} (Fa : FRefines content a)
    (Fb : FRefines content b) (s : a.σ × b.σ) (ha : Fa.Inv s.1) (hb : Fb.Inv s.2)
    (hq : Fa.Quiet s.1 ∧ Fb.Quiet s.2) (ops : List Op) (hops : ∀ op ∈ ops, op.WK content) :
    (replica2Impl a b).run s ops = RefMap.run (union (Fa.abs s.1) (Fb.abs s.2)) ops :=
  replica2_recovers Fa Fb s ha hb hq ops hops

/-- the guard of the partial theorems is satisfiable: a fetch on two failing memory replicas -/
example : ∀ k, (Op.fetch [1]) ≠ .rm k := by intro k h; cases h

/-- **F-C13-5 (repaired in /repo b37d745).**  replica.Fetch used to return the LAST replica's error:
after a failure of the replica holding the blob it passed on a later replica's "not there". -/
theorem C13_replica_fetch_fallback_counterexample :
    (replica2OldFetchImpl (faultLeaf memImpl [.none, .before]) (faultLeaf memImpl [.before])).run
        (replica2OldFetchImpl (faultLeaf memImpl [.none, .before]) (faultLeaf memImpl [.before])).init
        [.recv [1] [7], .fetch [1], .fetch [1]] = [.err, .notExist, .bytes [7]] :=
  replica2_fetch_fallback_counterexample.1

/-- **F-C13-4 (repaired in /repo 938eb3a).**  proxycache.RemoveBlobs used to remove from cache and
origin in parallel.  When the cache's removal failed without effect while the origin's went through,
the caller saw `.err` and from then on the proxy served the blob on Fetch/Stat (cache hits) but did
not enumerate it – answers no map gives, with no failure pending. -/
theorem C13_proxy_parallel_remove_counterexample :
    badProxy.run badProxy.init
        [.recv [1] [7], .rm [1], .fetch [1], .stat [1], .enum [] 10, .fetch [1]] =
      [.sized 1, .err, .bytes [7], .sized 1, .refs [], .bytes [7]] ∧
    (∀ m : SMap Bytes, ¬ (out m (.fetch [1]) = .bytes [7] ∧ out m (.enum [] 10) = .refs [])) :=
  ⟨proxy_failed_cache_remove_counterexample.1, proxy_failed_cache_remove_counterexample.2.2.2⟩

/-- the repaired order (cache first, origin only if the cache's removal succeeded) on the same
history and schedule: the failed remove leaves the before-state on every read path -/
theorem C13_proxy_remove_repaired :
    (proxyImpl memImpl (faultLeaf memImpl [Fault.none, Fault.before]) 100).run
        (proxyImpl memImpl (faultLeaf memImpl [Fault.none, Fault.before]) 100).init
        [.recv [1] [7], .rm [1], .fetch [1], .stat [1], .enum [] 10, .rm [1], .fetch [1], .enum [] 10] =
      [.sized 1, .err, .bytes [7], .sized 1, .refs [([1], 1)], .ok, .notExist, .refs []] :=
  proxy_failed_cache_remove_fixed

/-! ## the stat gate: every started slot is released -/

open Pk.StatGate in
/-- **every gate slot taken by a call of `StatBlobsParallelHelper` is released when it returns** –
for every blob list, every way each worker ends, and every point at which the cancellation becomes
visible to the loop – provided the source has a `gate.Done()` on the early exit and a deferred one
in the worker (`GateDoneOnEveryExit`, discharged on the regenerated effect list below). -/
theorem C13_gate_balanced (l : List EffAt) (h : GateDoneOnEveryExit l) (visible : Nat → Bool)
    (ends : List WorkerEnd) :
    (call (shapeOf l) visible ends).starts = (call (shapeOf l) visible ends).dones ∧
      leaked (shapeOf l) visible ends = 0 := by
  have hb : (call (shapeOf l) visible ends).starts = (call (shapeOf l) visible ends).dones :=
    loop_balanced (shapeOf l) h.2.1 h.2.2 visible ends 0 ⟨0, 0⟩ rfl
  exact ⟨hb, Nat.sub_eq_zero_of_le (Nat.le_of_eq hb)⟩

open Pk.StatGate in
/-- the obligation on the source, on the list regenerated from pkg/blobserver/stat.go -/
theorem C13_gen_gate_done_on_break : GateDoneOnEveryExit Pk.Gen.statHelperEffects := by decide

open Pk.StatGate in
/-- hence the shared gate keeps its full capacity over ANY sequence of calls, failed or not -/
theorem C13_gate_never_exhausted (cap : Nat) (hc : 0 < cap)
    (calls : List ((Nat → Bool) × List WorkerEnd)) :
    gateRun (shapeOf Pk.Gen.statHelperEffects) (some cap) calls = some cap := by
  have : shapeOf Pk.Gen.statHelperEffects = ⟨true, true⟩ := by decide
  rw [this]; exact gateRun_fixed cap hc calls

open Pk.StatGate in
/-- the shape before the repair (`gate.Start()`, then `break` without `Done`; DESIGN §12 row 1) -/
def pinnedStatHelperEffects : List EffAt := [⟨.gateStart, false, true⟩, ⟨.gateDone, true, true⟩]

open Pk.StatGate in
/-- **F-C13-1 (repaired in /repo f90901e).**  One blob, context already cancelled: one Start, no Done. -/
theorem C13_gate_balanced_counterexample :
    ¬ GateDoneOnEveryExit pinnedStatHelperEffects ∧
    call (shapeOf pinnedStatHelperEffects) (fun _ => true) [.ok] = ⟨1, 0⟩ := by decide

open Pk.StatGate in
/-- … and what it costs: for EVERY gate capacity, that many cancelled stats later every further stat
on that backend type – healthy or not – blocks forever -/
theorem C13_gate_exhaustion_counterexample (cap : Nat) (w : WorkerEnd)
    (next : (Nat → Bool) × List WorkerEnd) (hne : next.2 ≠ []) :
    gateRun (shapeOf pinnedStatHelperEffects) (some cap)
      (List.replicate cap ((fun _ => true), [w]) ++ [next]) = none := by
  have : shapeOf pinnedStatHelperEffects = ⟨false, true⟩ := by decide
  rw [this]; exact gateRun_pinned_exhausted (fun _ => true) rfl w cap next hne

open Pk.StatGate in
/-- the pinned shape loses exactly one slot per call in which the loop saw the cancellation, none
otherwise -/
theorem C13_gate_balanced_partial (visible : Nat → Bool) (ends : List WorkerEnd) :
    leaked (shapeOf pinnedStatHelperEffects) visible ends =
      if (List.range' 0 ends.length).any visible then 1 else 0 := by
  have : shapeOf pinnedStatHelperEffects = ⟨false, true⟩ := by decide
  rw [this]
  rcases loop_pinned visible ends 0 ⟨0, 0⟩ with h | h
  · exact h.trans (Nat.zero_add _)
  · exact absurd h (Nat.lt_irrefl 0)

open Pk.StatGate in
example : (List.range' 0 [WorkerEnd.ok, .workerErr, .ok].length).any (fun i => i == 2) = true := by decide

end Pk.Stores
