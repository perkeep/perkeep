import PkVerif.Lemmas.FileSchema
import PkVerif.Gen.C15
/-!
# C15 – files and directories written as schema blobs read back exactly

Model: `PkVerif/Model/FileSchema.lean` (pkg/schema filewriter.go, filereader.go, schema.go
`SetStaticSetMembers`, dirreader.go `staticSet`).  Every statement is for all inputs: all contents, all
answers of the rolling checksum and of the EOF look-ahead (`In`), all well-formed part trees of any
depth, all offsets and lengths, all member lists.

The reader theorems are about the code after the `fix:` commit (F-C15-1); `C15_read_old_counterexample`
is about `readAtD true` (the `LimitReader` of the code before it).
-/
namespace Pk.C15
open Pk Pk.FS

/-- the chunker's constants, regenerated from filewriter.go (`Gen.*`) -/
def genCfg : Cfg :=
  { maxBlobSize := Gen.schemaMaxBlobSize, firstChunkSize := Gen.firstChunkSize,
    tooSmallThreshold := Gen.tooSmallThreshold }

/-- The chunks of the span tree, in tree order, spell the input – for every content, every answer
of the rolling checksum and every EOF look-ahead; the reported size is the input's length and the
chunks handed to the blob server are exactly the leaves of the tree. -/
theorem C15_chunks_reassemble (c : Cfg) (input : List In) :
    (chunksL (writeFileChunks c input).2.1).flatten = input.map In.byte ∧
    (writeFileChunks c input).1 = input.length ∧
    (writeFileChunks c input).2.2 = chunksL (writeFileChunks c input).2.1 := by
  have h := runChunker_fin c input
  exact ⟨h.content, h.n_eq.trans (by simp), h.uploads⟩

/-- No chunk exceeds `maxBlobSize` (any positive cap). -/
theorem C15_chunk_cap (c : Cfg) (hpos : 0 < c.maxBlobSize) (input : List In) :
    ∀ b ∈ chunksL (writeFileChunks c input).2.1, b.length ≤ c.maxBlobSize :=
  runChunker_cap c hpos input

/-- the side condition holds for the constant in the source, so the cap is 1 MiB there -/
theorem C15_gen_chunk_cap (input : List In) :
    ∀ b ∈ chunksL (writeFileChunks genCfg input).2.1, b.length ≤ Gen.schemaMaxBlobSize :=
  C15_chunk_cap genCfg (by decide) input

/-- a small configuration used by the examples: cap 8, first chunk 4, minimum 2 -/
def exCfg : Cfg := { maxBlobSize := 8, firstChunkSize := 4, tooSmallThreshold := 2 }
/-- 30 bytes; the rolling checksum "fires" at every third byte with varying strength -/
def exInput : List In :=
  (List.range 30).map (fun i => ⟨i, if i % 3 == 2 then some (13 + i % 5) else none, false⟩)

-- non-vacuity: the example input produces a nested tree (bytes blobs two levels deep) and 9 chunks
set_option maxRecDepth 10000 in
example : (chunksL (writeFileChunks exCfg exInput).2.1).length = 9 := by decide +kernel
set_option maxRecDepth 10000 in
example : (match writeFile exCfg exInput with | .ok (p, _) => depthL p | .error _ => 0) = 2 := by decide +kernel
example : 0 < exCfg.maxBlobSize := by decide

/-- `WriteFileFromReader` never fails in the tree builder (no "weird span" panic, no size mismatch in
`populateParts`), the parts of the file blob denote the input, are well-formed, and sum to its length. -/
theorem C15_write_parts_denote (c : Cfg) (input : List In) :
    ∃ parts objs, writeFile c input = .ok (parts, objs) ∧
      denoteL parts = input.map In.byte ∧ wfL parts = true ∧ sumPartsSize parts = input.length := by
  obtain ⟨parts, objs, h1, hok⟩ := writeFile_spec c input
  exact ⟨parts, objs, h1, hok.denote, hok.wf, hok.size⟩

/-- Every object handed to the blob server references only objects handed over before it, and the
file schema blob comes last (filewriter.go:178-186 waits for all of them). -/
theorem C15_all_referenced_stored (c : Cfg) (input : List In) (parts : List Part) (objs : List Obj)
    (h : writeFile c input = .ok (parts, objs)) :
    (∃ pre, objs = pre ++ [.file parts]) ∧
    ∀ pre o post, objs = pre ++ o :: post → ∀ r ∈ o.refs, r ∈ pre := by
  have hord := (writeFile_ok h).ordered
  refine ⟨(writeFile_ok h).last, fun pre o post he r hr => ?_⟩
  rw [he] at hord
  exact (Ordered_prefix pre _ o post hord r hr).elim False.elim id

-- non-vacuity: the example write hands over 9 chunks, 3 bytes schema blobs and the file blob
set_option maxRecDepth 10000 in
example : (match writeFile exCfg exInput with | .ok (_, o) => o.length | .error _ => 0) = 13 := by decide +kernel

/-- Over a blob server that may refuse blobs (`fails i` = the i-th upload fails, for EVERY such
assignment): if the write reports success, then no upload failed – every object of the list was
stored –, the list ends with the file blob and is closed under references (so everything the returned
file blob references, transitively, is stored), and the file reads back as the input. -/
theorem C15_success_all_stored (fails : Nat → Bool) (c : Cfg) (input : List In) (parts : List Part)
    (objs : List Obj) (h : writeFileF fails c input = .ok (parts, objs)) :
    (∀ i, i < objs.length → fails i = false) ∧
    (∃ pre, objs = pre ++ [.file parts]) ∧
    (∀ pre o post, objs = pre ++ o :: post → ∀ r ∈ o.refs, r ∈ pre) ∧
    denoteL parts = input.map In.byte ∧ wfL parts = true := by
  obtain ⟨hw, hf⟩ := writeFileF_ok fails c input parts objs h
  obtain ⟨h1, h2⟩ := C15_all_referenced_stored c input parts objs hw
  exact ⟨hf, h1, h2, (writeFile_ok hw).denote, (writeFile_ok hw).wf⟩

/-- the other direction: a refused blob – chunk, bytes schema blob or the file blob, whichever and
however many – always makes the write report an error. -/
theorem C15_failed_upload_reported (fails : Nat → Bool) (c : Cfg) (input : List In) (parts : List Part)
    (objs : List Obj) (hw : writeFile c input = .ok (parts, objs)) (i : Nat) (hi : i < objs.length)
    (hfail : fails i = true) : ∃ e, writeFileF fails c input = .error e := by
  cases hr : writeFileF fails c input with
  | error e => exact ⟨e, rfl⟩
  | ok po =>
    rcases po with ⟨p', o'⟩
    obtain ⟨hw', hf⟩ := writeFileF_ok fails c input p' o' hr
    rw [hw] at hw'
    injection hw' with hw'
    injection hw' with _ ho
    subst ho
    rw [hf i hi] at hfail
    cases hfail

-- non-vacuity: refusing the last chunk (upload 8 of 13) of the example write is reported …
set_option maxRecDepth 10000 in
example : (match writeFileF (fun i => i == 8) exCfg exInput with | .error .upload => true | _ => false) = true := by
  decide +kernel
-- … and with nothing refused the fallible writer succeeds
set_option maxRecDepth 10000 in
example : (match writeFileF (fun _ => false) exCfg exInput with | .ok (_, o) => o.length | _ => 0) = 13 := by
  decide +kernel

/-- `ReadAt` over ANY well-formed part tree (any depth; offsets, sub-ranges, holes, nested bytes)
returns exactly the requested slice of the bytes the tree denotes, with `io.EOF` at or past the end,
`io.ErrUnexpectedEOF` for a read that runs over the end and `nil` otherwise. -/
theorem C15_read_denotes (parts : List Part) (hwf : wfL parts = true) (off n : Nat) :
    readAt parts off n = (slice (denoteL parts) off n, readStatus (sumPartsSize parts) off n) :=
  readAtD_spec (depthL parts) parts hwf (Nat.le_refl _) off n

/-- the same through `Seek` + `Read` (io.SectionReader): never more than what is left -/
theorem C15_seek_read_denotes (parts : List Part) (hwf : wfL parts = true) (pos n : Nat) :
    seekRead parts pos n
      = (slice (denoteL parts) pos n, if sumPartsSize parts ≤ pos then .eof else .nil) := by
  rw [seekRead]
  split
  · rename_i h
    rw [slice_nil_of_le _ _ _ (by rw [denoteL_length parts hwf]; exact h)]
  · rename_i h
    rw [C15_read_denotes parts hwf]
    rw [← denoteL_length parts hwf] at h ⊢
    rw [slice_clamp, readStatus, if_neg h, if_neg (Nat.not_lt.mpr (Nat.add_le_of_le_sub' (Nat.le_of_not_le h) (Nat.min_le_right _ _)))]

/-- a tree with an offset part whose blob continues past it, a hole, and nested bytes with sub-ranges -/
def exTree : List Part :=
  [.blob [0, 1, 2, 3, 4, 5, 6, 7, 8, 9] 2 4,
   .bytes [.hole 2, .bytes [.blob [20, 21, 22, 23, 24] 1 3, .hole 1] 1 3, .blob [30, 31] 0 2] 1 5,
   .blob [10, 11, 12, 13] 0 3]

example : wfL exTree = true := by decide
example : depthL exTree = 2 := by decide
example : denoteL exTree = [2, 3, 4, 5, 0, 22, 23, 0, 30, 10, 11, 12] := by decide
example : readAt exTree 1 8 = ([3, 4, 5, 0, 22, 23, 0, 30], .nil) := by decide

/-- The code before the fix (`io.LimitReader(rsc, p0.Size)`): a read starting inside a part whose blob
continues past `offset+size` returns bytes from beyond the part instead of the next part's bytes. -/
theorem C15_read_old_counterexample :
    wfL [.blob [0, 1, 2, 3, 4, 5, 6, 7, 8, 9] 2 4, .blob [10, 11, 12, 13] 0 3] = true ∧
    (readAtD true 0 [.blob [0, 1, 2, 3, 4, 5, 6, 7, 8, 9] 2 4, .blob [10, 11, 12, 13] 0 3] 1 6).1
      = [3, 4, 5, 6, 11, 12] ∧
    slice (denoteL [.blob [0, 1, 2, 3, 4, 5, 6, 7, 8, 9] 2 4, .blob [10, 11, 12, 13] 0 3]) 1 6
      = [3, 4, 5, 10, 11, 12] := by decide +kernel

/-- `ForeachChunk` over a well-formed tree whose bytesRef parts cover their referents completely (what
the writer produces) visits, in order, chunks that spell the content. -/
theorem C15_foreach_chunk_denotes (parts : List Part) (hwf : wfL parts = true) (hfull : fullL parts = true) :
    (foreachChunk parts).2 = none ∧ denoteL (foreachChunk parts).1 = denoteL parts :=
  foreachChunk_spec parts hwf hfull

example : fullL [.bytes [.blob [1, 2] 0 2, .hole 1] 0 3, .blob [3] 0 1] = true := by decide

/-- Round trip: what `WriteFileFromReader` stores reads back, at every offset and length, as the
input – for every content, every split oracle, every EOF look-ahead. -/
theorem C15_write_then_read (c : Cfg) (input : List In) (parts : List Part) (objs : List Obj)
    (h : writeFile c input = .ok (parts, objs)) (off n : Nat) :
    readAt parts off n = (slice (input.map In.byte) off n, readStatus input.length off n) ∧
    denoteL (foreachChunk parts).1 = input.map In.byte := by
  have hok := writeFile_ok h
  exact ⟨by rw [C15_read_denotes parts hok.wf, hok.denote, hok.size],
    by rw [(foreachChunk_spec parts hok.wf hok.full).2, hok.denote]⟩

/-- Spreading any member list over static-set blobs and merging them back gives the original list,
and every subset a blob merges is among the returned `allSubsets` (so uploading what
`SetStaticSetMembers` returns is enough) – for every limit ≥ 3. -/
theorem C15_staticset_roundtrip (M : Nat) (hM : 3 ≤ M) (ms : List Nat) :
    ∃ top all, spread M ms = .ok (top, all) ∧ staticSet top = ms ∧
      ∀ s ∈ top :: all, ∀ c ∈ s.mergeSets, c ∈ all := by
  obtain ⟨t, a, h1, h2, h3, h4⟩ := setStatic_spec M hM (ms.length + 1) ms (Nat.lt_succ_self _)
  refine ⟨t, a, h1, h2, ?_⟩
  intro s hs
  rcases List.mem_cons.1 hs with rfl | hs
  · exact h3
  · exact h4 s hs

/-- the side condition on the limit in the source -/
theorem C15_gen_staticset_limit : 3 ≤ Gen.maxStaticSetMembers := by decide

example : (match spread 3 (List.range 11) with
    | .ok (t, a) => (staticSet t, a.length, t.mergeSets.length) | .error _ => ([], 0, 0))
    = (List.range 11, 7, 3) := by decide +kernel

/-- why the side condition is needed: with the limit lowered to 2 the recursion on 4 members calls
itself on the same 4 members (the model's fuel runs out); with 1 or 0 it divides by zero. -/
theorem C15_staticset_small_limit_counterexample :
    (match spread 2 [0, 1, 2, 3] with | .error .diverge => true | _ => false) = true ∧
    (match spread 1 [0, 1] with | .error .panic => true | _ => false) = true ∧
    (match spread 0 [0] with | .error .panic => true | _ => false) = true := by decide

end Pk.C15
