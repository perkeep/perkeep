import PkVerif.Lemmas.EncryptToy
import PkVerif.Lemmas.EncryptRefine
import PkVerif.Gen.C11
/-!
# C11 – the encrypting store leaks no plaintext, detects tampering, and is recoverable

Model: `PkVerif/Model/Encrypt.lean` (pkg/blobserver/encrypt/encrypt.go, meta.go).  The cipher is a
parameter: an `AEAD` structure whose laws (`dec_enc`, `integrity`) are hypothesis fields; the digest is a
parameter too.  The theorems are stated for ALL parameters, under the explicit idealisations `Ideal P`
(collision-free digest whose text is a ref; ciphertexts show their randomness).  `toyP`/`toy_ideal` show
these hypotheses are jointly satisfiable.  Of the two laws only `dec_enc` is used below: integrity of a Fetch
rests on the digest check of the plaintext alone.

**The claim is partial by construction.**  `C11_only_ciphertext_below` is a data-flow statement: every
byte string handed to the wrapped stores is `version ‖ A.enc key r t` and every name is the digest of
such a string.  That this reveals nothing about `t` is the secrecy of the cipher (age: X25519 +
ChaCha20-Poly1305), which Lean does not see – the toy cipher satisfies every law here and hides nothing.

Reachable states (`Reach`) are all interleavings of the micro-steps of the ReceiveBlob in flight and of
every running packer (`makePackedMetaBlob` goroutine), with a crash + restart possible between any two
micro-steps.  The ORDER of the micro-steps is read from the regenerated effect lists (`C11_gen_*`).
-/
namespace Pk.Encrypt
open Pk Pk.SMap

/-! ## facts regenerated from the source -/

/-- ReceiveBlob: encrypted blob to `s.blobs`, single meta blob to `s.meta`, recordMeta, index.Set – in
that order (encrypt.go:176-194) -/
theorem C11_gen_recv_order : recvSteps Gen.encryptReceiveEffects Gen.encryptRecvTargets = goodR := by decide

/-- makePackedMetaBlob uploads the packed meta blob BEFORE it removes the small ones (meta.go:146-156) -/
theorem C11_gen_pack_order : packSteps Gen.encryptPackEffects = goodP := by decide

/-- both the upload and the removal of makePackedMetaBlob go to the meta store -/
theorem C11_gen_pack_targets : Gen.encryptPackTargets = ["s.meta", "rm:s.meta"] := rfl

/-- processEncryptedMetaBlob sets index rows (in its loop) and then records the blob in the heap; it
uploads and removes nothing -/
theorem C11_gen_scan_order :
    Gen.encryptScanEffects.map (·.e) = [.indexSet, .recordMeta] := by decide

/-- the string literals that fix the meta format are the ones the model uses -/
theorem C11_gen_formats :
    Gen.encryptPackedHeader = headerLine ++ [10] ∧ Gen.encryptScanHeader = headerLine ++ [10] ∧
    Gen.encryptSingleFormat = headerLine ++ [10] ++ [37, 115, 47, 37, 100, 47, 37, 115, 10] ∧
    Gen.encryptIndexFormat = [37, 100, 47, 37, 115] ∧ Gen.encryptPackedSeps = [47, 10] :=
  ⟨rfl, rfl, rfl, rfl, rfl⟩

/-- the version byte and the compaction thresholds the driver runs with -/
theorem C11_gen_consts :
    Gen.encryptVersion = 2 ∧ 0 < Gen.encryptSmallMetaCountLimit ∧
    Gen.encryptSmallMetaCountLimit < Gen.encryptFullMetaBlobSize := by decide

/-! ## the format round-trips -/

/-- packIndexEntry / unpackIndexEntry -/
theorem C11_index_entry_roundtrip (P : Params) (I : Ideal P) (size : Nat) (hs : size < 4294967296) (c : Bytes) :
    unpackIndexEntry P (packIndexEntry size (P.digest c)) = some (size, P.digest c) :=
  unpack_pack I size hs c

example : unpackIndexEntry (toyP 100 10000) (packIndexEntry 17 (toyDigest [1, 2])) = some (17, toyDigest [1, 2]) :=
  C11_index_entry_roundtrip _ (toy_ideal _ _) 17 (by decide) _

/-- what makeSingleMetaBlob and makePackedMetaBlob write, processEncryptedMetaBlob reads back: every
line, in order -/
theorem C11_meta_format_roundtrip (P : Params) (r : Nat) (ls : List (Bytes × Bytes))
    (h : ∀ pv ∈ ls, GoodLine P pv) (idx : SMap Bytes) :
    processEncryptedMetaBlob P idx (encryptBlob P r (fmtMeta ls)) = (setAll ls idx, some (ls.map (·.1))) :=
  process_of_linesOf P idx _ ls (linesOf_encrypt P r ls h)

/-! ## data flow: only ciphertext below -/

/-- **Data flow.**  In every reachable state, every call ever made to the wrapped stores wrote
`version ‖ enc key r t` under the digest of exactly those bytes, or removed blobs named by such digests.
No plaintext byte string and no plaintext ref is handed down other than inside `enc`. -/
theorem C11_only_ciphertext_below (P : Params) (I : Ideal P) (recvEffs packEffs : List EffAt) (targets : List String)
    (hr : recvSteps recvEffs targets = goodR) (hp : packSteps packEffs = goodP)
    (s : St) (h : Reach P (recvSteps recvEffs targets) (packSteps packEffs) s) :
    ∀ c ∈ s.trace, match c with
      | .putBlobs n b => ∃ r t, b = P.version :: P.A.enc P.key r t ∧ n = P.digest b
      | .putMeta n b => ∃ r t, b = P.version :: P.A.enc P.key r t ∧ n = P.digest b
      | .rmMeta ns => ∀ n ∈ ns, ∃ r t, n = P.digest (P.version :: P.A.enc P.key r t) := by
  rw [hr, hp] at h
  intro c hc
  have := trace_reach I h c hc
  cases c <;> exact this

/-- the data-flow statement (`C11_only_ciphertext_below`) with the order of effects found in the source -/
theorem C11_only_ciphertext_below_gen (P : Params) (I : Ideal P) (s : St)
    (h : Reach P (recvSteps Gen.encryptReceiveEffects Gen.encryptRecvTargets) (packSteps Gen.encryptPackEffects) s) :
    TraceOK P s := by
  rw [C11_gen_recv_order, C11_gen_pack_order] at h
  exact trace_reach I h

/-- the blobs and meta blobs lying in the wrapped stores of a reachable state are ciphertext named by
their digest -/
theorem C11_stored_meta_is_ciphertext (P : Params) (I : Ideal P) (s : St) (h : Reach P goodR goodP s)
    (n c : Bytes) (hg : get s.metas n = some c) :
    n = P.digest c ∧ ∃ r t, c = P.version :: P.A.enc P.key r t := by
  obtain ⟨d1, ⟨r, t, _, hc⟩, _⟩ := (inv_reach I h).dec n c hg
  exact ⟨d1, r, t, hc⟩

/-! ### non-vacuity: a reachable state with two receives, a compaction under way -/

example : demo2.index.length = 2 ∧ demo2.metas.length = 2 ∧ demo2.jobs.length = 1 ∧ demo2.trace.length = 4 := by
  decide +kernel

example : TraceOK (toyP 1 10) demo2 := trace_reach (toy_ideal 1 10) demo2_reach

/-! ## integrity: exactly the original plaintext, or failure -/

/-- **Integrity.**  In ANY state whatsoever – any index, any content of the wrapped stores, hence after
every tampering function – a Fetch that succeeds returns bytes whose digest is the ref asked for, and
their true size.  (This is the behaviour after /repo commit 9855f85; see `C11_fetchOld_counterexample`.) -/
theorem C11_fetch_exact_or_fail (P : Params) (s : St) (ref plain : Bytes) (size : Nat)
    (h : fetch P s ref = .bytes plain size) : P.digest plain = ref ∧ plain.length = size := by
  rcases fetch_cases P s ref with h' | h' | h' | ⟨plain', hd, h'⟩ <;> rw [h'] at h <;> cases h
  exact ⟨hd, rfl⟩

/-- the same, spelled out for tampering: take any reachable state, replace the contents of BOTH wrapped
stores by arbitrary functions of them, optionally crash and restart (index wiped or not, any arrival
order, successful or not): a Fetch of `digest orig` returns exactly `orig`, or an error -/
theorem C11_fetch_after_tampering (P : Params) (I : Ideal P) (s : St) (tb tm : SMap Bytes → SMap Bytes)
    (restarted wipe : Bool) (order : List Bytes) (psteps : List PStep) (orig : Bytes) :
    let s1 := { s with blobs := tb s.blobs, metas := tm s.metas }
    let s2 := if restarted then (restart P psteps wipe order s1).1 else s1
    match fetch P s2 (P.digest orig) with
    | .bytes plain size => plain = orig ∧ size = orig.length
    | .refs _ => False
    | .sized _ => False
    | _ => True := by
  intro s1 s2
  cases hf : fetch P s2 (P.digest orig) with
  | bytes plain size =>
    obtain ⟨h1, h2⟩ := C11_fetch_exact_or_fail P s2 _ plain size hf
    have := I.digest_inj _ _ h1
    subst this
    exact ⟨rfl, h2.symm⟩
  | refs l => exact fetch_not_refs P s2 _ l hf
  | sized n => exact fetch_not_sized P s2 _ n hf
  | notExist => trivial
  | corrupt => trivial
  | err => trivial

/-- in an untampered reachable state a Fetch of a ref the index knows succeeds (so the theorem above is
not about a Fetch that always fails) -/
theorem C11_fetch_succeeds (P : Params) (I : Ideal P) (s : St) (h : Reach P goodR goodP s) (p v : Bytes)
    (hg : get s.index p = some v) : ∃ plain, p = P.digest plain ∧ fetch P s p = .bytes plain plain.length := by
  obtain ⟨plain, r, h1, h2, h3, h4⟩ := fetchMeta_row I (inv_reach I h) hg
  subst h1
  refine ⟨plain, rfl, ?_⟩
  simp only [fetch, h4, h3, decrypt_encrypt, ne_eq, not_true_eq_false, if_false, or_self]

example : fetch (toyP 1 10) demo2 (toyDigest [4, 5]) = .bytes [4, 5] 2 := by decide +kernel

/-! ### the behaviour before the fix: a meta blob look-alike redirects a ref -/

/-- **Counterexample for the code before commit 9855f85.**  After a restart with an empty index, the old
Fetch (which trusted the index and did not look at the plaintext) answers the victim's ref with the other
blob's bytes; no cipher law is violated: every stored string is an honest encryption. -/
theorem C11_fetchOld_counterexample :
    let P := toyP 100 10000
    let s := (restart P goodP true (attackState.metas.map (·.1)) attackState).1
    fetchOld P s (toyDigest [86, 86, 86]) = .bytes [87, 87, 87, 87] 3 ∧
    fetch P s (toyDigest [86, 86, 86]) = .corrupt := by decide +kernel

/-! ## recoverability -/

/-- **Recoverability.**  For every reachable state – any interleaving of the receive in flight and the
packers, crashed between any two effects, mid-compaction included – and for every arrival order of the
meta blobs, the start-up scan over the meta store ALONE (index wiped) succeeds and rebuilds exactly the
mapping the store stood for: every row of the lost index with the same `size/encref`, plus at most the row
of a receive that had already written its meta blob.  Uses the effect ORDER of the source through the
hypotheses `hr`, `hp` (discharged on the generated lists in `C11_index_recoverable_gen`). -/
theorem C11_index_recoverable (P : Params) (I : Ideal P) (recvEffs packEffs : List EffAt) (targets : List String)
    (hr : recvSteps recvEffs targets = goodR) (hp : packSteps packEffs = goodP)
    (s : St) (h : Reach P (recvSteps recvEffs targets) (packSteps packEffs) s)
    (wipe : Bool) (order : List Bytes) (hord : ∀ n, n ∈ order ↔ has s.metas n = true) :
    let r := restart P (packSteps packEffs) wipe order s
    r.2 = true ∧
    (∀ p v, get s.index p = some v → get r.1.index p = some v) ∧
    (∀ p, get r.1.index p = truth s p) ∧
    (s.recv = none → r.1.index = s.index) := by
  rw [hr, hp] at h
  rw [hp]
  have hinv := inv_reach I h
  obtain ⟨r1, r2, r3⟩ := restart_spec hinv wipe order hord
  refine ⟨r1, fun p v hg => by rw [r2 p]; exact truth_of_index hg, r2, ?_⟩
  intro h0
  apply SMap.ext r3.kI hinv.kI
  intro k
  rw [r2 k]
  unfold truth
  cases get s.index k with
  | some v => rfl
  | none => simp [h0]

theorem C11_index_recoverable_gen (P : Params) (I : Ideal P) (s : St)
    (h : Reach P (recvSteps Gen.encryptReceiveEffects Gen.encryptRecvTargets) (packSteps Gen.encryptPackEffects) s)
    (order : List Bytes) (hord : ∀ n, n ∈ order ↔ has s.metas n = true) :
    let r := restart P (packSteps Gen.encryptPackEffects) true order s
    r.2 = true ∧ (∀ p v, get s.index p = some v → get r.1.index p = some v) ∧
    (s.recv = none → r.1.index = s.index) := by
  obtain ⟨a, b, _, d⟩ := C11_index_recoverable P I Gen.encryptReceiveEffects Gen.encryptPackEffects
    Gen.encryptRecvTargets C11_gen_recv_order C11_gen_pack_order s h true order hord
  exact ⟨a, b, d⟩

/-- after the restart the store is again in a state all of the above applies to -/
theorem C11_restart_reachable (P : Params) (s : St) (h : Reach P goodR goodP s) (wipe : Bool) (order : List Bytes)
    (hord : ∀ n, n ∈ order ↔ has s.metas n = true) : Reach P goodR goodP (restart P goodP wipe order s).1 :=
  .step _ _ h (.restart s wipe order hord)

/-- every blob the index knows is still served after the index was lost and rebuilt -/
theorem C11_fetch_after_recovery (P : Params) (I : Ideal P) (s : St) (h : Reach P goodR goodP s) (p v : Bytes)
    (hg : get s.index p = some v) (order : List Bytes) (hord : ∀ n, n ∈ order ↔ has s.metas n = true) :
    ∃ plain, p = P.digest plain ∧
      fetch P (restart P goodP true order s).1 p = .bytes plain plain.length := by
  obtain ⟨_, r2, _⟩ := restart_spec (inv_reach I h) true order hord
  exact C11_fetch_succeeds P I _ (C11_restart_reachable P s h true order hord) p v
    (by rw [r2 p]; exact truth_of_index hg)

/-- **Acknowledged ⇒ recoverable, also when wrapped stores fail.**  `Reach` includes the environment step
`arm` (the k-th next ReceiveBlob of `blobs` / `meta` fails once; the failing ReceiveBlob returns the error,
a failing packer gives up).  Whenever the ReceiveBlob in flight has run to its end without such an error –
it is about to acknowledge – the index has its row, and a restart with a wiped index finds the same row in
the meta store.  (The duplicate fast path acknowledges only what the index already has, which
`C11_index_recoverable` covers.)  With `index.Set` before the meta write this is false: the harness
finds it with `fault M 1; recv b; recv b; restart wipe`. -/
theorem C11_ack_recoverable (P : Params) (I : Ideal P) (s : St) (h : Reach P goodR goodP s)
    (x : Recv) (hx : s.recv = some x) (hdone : x.rest = []) (hok : s.lastFailed = false)
    (order : List Bytes) (hord : ∀ n, n ∈ order ↔ has s.metas n = true) :
    ∃ v, get s.index x.plainBR = some v ∧
      (restart P goodP true order s).2 = true ∧
      get (restart P goodP true order s).1.index x.plainBR = some v := by
  obtain ⟨v, hv⟩ := ack_reach I h x hx hdone hok
  obtain ⟨r1, r2, _⟩ := restart_spec (inv_reach I h) true order hord
  exact ⟨v, hv, r1, by rw [r2]; exact truth_of_index hv⟩

/-- a faulted history: the meta write of the second receive fails (nothing acknowledged, the ciphertext is
an orphan), the retry is acknowledged, and the wiped index is rebuilt in full -/
example :
    let P := toyP 100 10000
    let s1 := (receiveBlob P goodR goodP false {} (toyDigest [1]) [1]).1
    let f := receiveBlob P goodR goodP false { s1 with failMeta := 1 } (toyDigest [2, 2]) [2, 2]
    let r := receiveBlob P goodR goodP false f.1 (toyDigest [2, 2]) [2, 2]
    f.2 = .err ∧ f.1.index.length = 1 ∧ f.1.blobs.length = 2 ∧ f.1.metas.length = 1 ∧
    r.2 = .sized 2 ∧ r.1.blobs.length = 3 ∧
    (restart P goodP true (r.1.metas.map (·.1)) r.1).1.index = r.1.index := by decide +kernel

example : demo2mid.metas.length = 3 ∧ (demo2mid.jobs.map (·.rest)) = [[.record, .remove]] := by decide +kernel

example : Reach (toyP 1 10) goodR goodP demo2mid := .step _ _ demo2_reach (.jobStep demo2 0)

example : (restart (toyP 1 10) goodP true (demo2mid.metas.map (·.1)) demo2mid).1.index = demo2mid.index := by
  decide +kernel

/-- **The order matters.**  With the removal before the upload (a packer program `remove, upload, record`),
a crash between the two loses every row: the rebuilt index is empty although the index knew two blobs. -/
theorem C11_remove_before_upload_counterexample :
    let P := toyP 1 10
    let bad : List PStep := [.remove, .upload, .record]
    let s := recvStep P bad (recvStep P bad (recvStep P bad (recvStep P bad (recvStep P bad
      (recvBegin P goodR (recvAll P {} [1, 2, 3]) (toyDigest [4, 5]) [4, 5]).1))))
    let crashed := stepJob P bad s 0
    s.index.length = 2 ∧ crashed.metas = [] ∧
    (restart P bad true [] crashed) = ({ crashed with index := [], jobs := [], heap := [], recv := none }, true) := by
  decide +kernel

/-! ## refinement of the reference map -/

/-- **Refinement.**  Under the driver's schedule (the packers a receive starts run to their end before the
next call), the encrypt store answers every history of well-keyed ReceiveBlob / Fetch / StatBlobs /
EnumerateBlobs calls – whatever compactions happen on the way – exactly as the reference
content-addressed map of C01 does.  (`RemoveBlobs` is not implemented by the store; histories with `rm`
are excluded by `OpOK`.) -/
theorem C11_refines_refmap (P : Params) (I : Ideal P) (content : Bytes → Bytes) (ops : List RefMap.Op)
    (hops : ∀ op ∈ ops, OpOK P content op) :
    (encImpl P).run {} ops = RefMap.run [] ops :=
  refines_refmap I content ops hops {} (sim_init content)

/-- three receives with `small = 1` (two compactions on the way), a duplicate, then reads -/
example :
    (encImpl (toyP 1 10)).run {}
      [.recv (toyDigest [1]) [1], .recv (toyDigest [2, 2]) [2, 2], .recv (toyDigest [3]) [3],
       .recv (toyDigest [1]) [1], .fetch (toyDigest [2, 2]), .stat (toyDigest [3]), .fetch (toyDigest [9]),
       .enum [] 2] =
    [.sized 1, .sized 2, .sized 1, .sized 1, .bytes [2, 2], .sized 1, .notExist,
     .refs [(toyDigest [1], 1), (toyDigest [2, 2], 2)]] := by decide +kernel

end Pk.Encrypt
