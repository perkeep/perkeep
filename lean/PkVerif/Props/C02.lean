import PkVerif.Lemmas.Receive
import PkVerif.Props.C01
import PkVerif.Gen.Facts
/-!
# C02 – only bytes matching their blobref, within the size cap, are ever accepted

`Pk.Recv.receive` models `blobserver.receive` (size-capping reader + hash-checking reader in front of
a destination that commits on EOF only).  The hash is a parameter; `max` is a parameter, instantiated
by the regenerated `Pk.Gen.maxBlobSize`.
-/
namespace Pk.Recv
open Pk Pk.RefMap

/-- what the consumer sees depends only on the concatenation of the fragments and on how the source
ends – never on the fragmentation -/
theorem pump_spec (remain : Nat) (acc : Bytes) (frags : List Bytes) (fin : End) :
    pump remain acc frags fin =
      if frags.flatten.length ≤ remain then
        (match fin with | .eof => .eof (acc ++ frags.flatten) | .err => .err (acc ++ frags.flatten))
      else .tooBig (acc ++ frags.flatten.take remain) := by
  induction frags generalizing remain acc with
  | nil => cases fin <;> simp [pump]
  | cons f fs ih =>
    simp only [pump, List.flatten_cons, List.length_append]
    by_cases hf : f.length ≤ remain
    · simp only [hf, if_true, ih]
      by_cases hr : fs.flatten.length ≤ remain - f.length
      · have : f.length + fs.flatten.length ≤ remain := Nat.add_le_of_le_sub' hf hr
        simp only [hr, this, if_true, List.append_assoc]
      · have : ¬ f.length + fs.flatten.length ≤ remain := fun h => hr (Nat.le_sub_of_add_le' h)
        simp only [hr, this, if_false, List.append_assoc]
        congr 2
        rw [List.take_append]
        have : List.take remain f = f := List.take_of_length_le hf
        rw [this]
    · have : ¬ f.length + fs.flatten.length ≤ remain :=
        fun h => hf (Nat.le_trans (Nat.le_add_right ..) h)
      simp only [hf, this, if_false]
      congr 2
      rw [List.take_append, Nat.sub_eq_zero_of_le (Nat.le_of_not_le hf), List.take_zero, List.append_nil]

/-- `receive` in closed form -/
theorem receive_eq (max : Nat) (supported : Bool) (m : Bytes → Bool) (src : Src) :
    receive max supported m src =
      if supported = false then .badHash
      else if src.total.length ≤ max then
        (match src.fin with
         | .eof => if m src.total = true then .accepted src.total else .corrupt
         | .err => .srcErr)
      else .tooBig := by
  unfold receive
  rw [pump_spec]
  cases supported
  · rfl
  · simp only [Bool.not_true, Bool.false_eq_true, if_false, List.nil_append]
    by_cases hl : src.total.length ≤ max
    · have hl' : src.frags.flatten.length ≤ max := hl
      rw [if_pos hl', if_pos hl]
      cases src.fin <;> rfl
    · have hl' : ¬ src.frags.flatten.length ≤ max := hl
      rw [if_neg hl', if_neg hl]
      rfl

/-- **acceptance**: a blob is accepted exactly when the ref's hash is supported, the source ended
with EOF (no mid-stream error), it delivered no more than `max` bytes in total and those bytes hash to
the ref – for every fragmentation. What is stored is exactly those bytes. -/
theorem C02_accept_iff (max : Nat) (supported : Bool) (m : Bytes → Bool) (src : Src) (stored : Bytes) :
    receive max supported m src = .accepted stored ↔
      supported = true ∧ src.fin = .eof ∧ src.total.length ≤ max ∧ m src.total = true ∧ stored = src.total := by
  rw [receive_eq]
  cases supported
  · simp
  · simp only [Bool.true_eq_false, if_false, true_and]
    by_cases hl : src.total.length ≤ max
    · rw [if_pos hl]
      cases hfin : src.fin with
      | eof =>
        by_cases hm : m src.total = true
        · simp [hm, hl, eq_comm]
        · simp [hm]
      | err => simp
    · rw [if_neg hl]; simp [hl]

/-- everything else is a rejection with the documented class -/
theorem C02_reject_classes (max : Nat) (supported : Bool) (m : Bytes → Bool) (src : Src) :
    (supported = false → receive max supported m src = .badHash) ∧
    (supported = true → src.total.length > max → receive max supported m src = .tooBig) ∧
    (supported = true → src.total.length ≤ max → src.fin = .eof → m src.total = false →
      receive max supported m src = .corrupt) ∧
    (supported = true → src.total.length ≤ max → src.fin = .err → receive max supported m src = .srcErr) := by
  rw [receive_eq]
  refine ⟨?_, ?_, ?_, ?_⟩
  · intro h; simp [h]
  · intro h hl
    have : ¬ src.total.length ≤ max := by omega
    rw [if_neg (by simp [h]), if_neg this]
  · intro h hl hf hm
    rw [if_neg (by simp [h]), if_pos hl, hf]; simp [hm]
  · intro h hl hf
    rw [if_neg (by simp [h]), if_pos hl, hf]

/-- the answer does not depend on how the source fragments its data -/
theorem C02_fragmentation_independent (max : Nat) (supported : Bool) (m : Bytes → Bool) (a b : Src)
    (ht : a.total = b.total) (hf : a.fin = b.fin) :
    receive max supported m a = receive max supported m b := by
  rw [receive_eq, receive_eq, ht, hf]

/-- **a rejected upload leaves no trace**: the store is not touched and the hub is not notified -/
theorem C02_reject_no_trace (I : Impl) (max : Nat) (supported : Bool) (m : Bytes → Bool)
    (s : I.σ) (k : Bytes) (src : Src) (h : (receive max supported m src).isAccepted = false) :
    (receiveInto I max supported m s k src).state = s ∧ (receiveInto I max supported m s k src).hub = [] := by
  rw [receiveInto_rejected I max supported m s k src h]
  exact ⟨rfl, rfl⟩

/-- an accepted upload on a store that refines the reference map stores exactly the offered bytes
under the ref and notifies the hub once -/
theorem C02_accept_stores_exactly {content : Bytes → Bytes} {I : Impl} (R : Refines content I)
    (max : Nat) (supported : Bool) (m : Bytes → Bool) (s : I.σ) (hs : R.Inv s) (k : Bytes) (src : Src)
    (stored : Bytes) (h : receive max supported m src = .accepted stored)
    (hwk : stored = content k ∧ k ≠ []) :
    stored = src.total ∧ stored.length ≤ max ∧
    R.abs (receiveInto I max supported m s k src).state = next (R.abs s) (.recv k stored) ∧
    (receiveInto I max supported m s k src).hub = [k] := by
  obtain ⟨_, _, hl, _, hst⟩ := (C02_accept_iff max supported m src stored).mp h
  obtain ⟨ho, ha, _⟩ := R.step_ok s (.recv k stored) hs hwk
  obtain ⟨e1, e2⟩ := receiveInto_accepted I max supported m s k src stored h
  exact ⟨hst, hst ▸ hl, by rw [e1]; exact ha, e2 ho⟩

/-- PUT answers 204 only for an accepted blob; a declared length over the cap, an unparsable or
unsupported ref and a digest mismatch are 400s -/
theorem C02_put_204_iff (max : Nat) (isPut : Bool) (cl : Option Nat) (parses supported : Bool)
    (m : Bytes → Bool) (src : Src) :
    (putDecision max isPut cl parses supported m src).1 = .noContent204 ↔
      isPut = true ∧ (∀ n, cl = some n → n ≤ max) ∧ parses = true ∧ supported = true ∧
      (receive max true m src).isAccepted = true := by
  -- each refusal before the receive is `if c then (400, _) else …`
  have ite400 (c : Prop) [Decidable c] (r : Res) (x : Http × Res) :
      (if c then (Http.badRequest400, r) else x).1 = .noContent204 ↔ ¬ c ∧ x.1 = .noContent204 := by
    by_cases h : c
    · rw [if_pos h]; exact ⟨nofun, fun h' => absurd h h'.1⟩
    · rw [if_neg h]; exact ⟨fun h' => ⟨h, h'⟩, (·.2)⟩
  unfold putDecision
  rw [ite400, ite400, ite400, ite400]
  refine and_congr (by cases isPut <;> decide) (and_congr ?_
    (and_congr (by cases parses <;> decide) (and_congr (by cases supported <;> decide) ?_)))
  · cases cl with
    | none => exact ⟨fun _ => nofun, fun _ => nofun⟩
    | some n => exact ⟨fun h k hk => Option.some.inj hk ▸ Nat.not_lt.mp fun h' => h (decide_eq_true h'),
        fun h h' => Nat.not_le.mpr (of_decide_eq_true h') (h n rfl)⟩
  · cases receive max true m src with
    | accepted d => exact ⟨fun _ => rfl, fun _ => rfl⟩
    | _ => exact ⟨nofun, nofun⟩

/-- the multipart response lists only parts that were accepted, with their true sizes -/
theorem C02_multipart_lists_only_accepted (max : Nat) (parts : List Part) :
    ∀ e ∈ multipart max parts, ∃ p ∈ parts, p.parses = true ∧ p.key = e.1 ∧
      ∃ d, receive max p.supported p.matches_ p.src = .accepted d ∧ d.length = e.2 := by
  induction parts with
  | nil => exact fun e he => nomatch he
  | cons p ps ih =>
    intro e he
    have later : e ∈ multipart max ps → ∃ q ∈ p :: ps, q.parses = true ∧ q.key = e.1 ∧
        ∃ d, receive max q.supported q.matches_ q.src = .accepted d ∧ d.length = e.2 :=
      fun he => (ih e he).imp fun q h => ⟨List.mem_cons_of_mem _ h.1, h.2⟩
    cases hp : p.parses with
    | false => rw [multipart_skip max p ps hp] at he; exact later he
    | true =>
      rcases (receive max p.supported p.matches_ p.src).accepted_or with ⟨d, hr⟩ | hr
      · rw [multipart_accepted max p ps d hp hr] at he
        rcases List.mem_cons.mp he with rfl | he
        · exact ⟨p, List.mem_cons_self .., hp, rfl, d, hr, rfl⟩
        · exact later he
      · rw [multipart_rejected max p ps hp hr] at he; cases he

/-- completeness of the multipart response: when every part has a parsable name and is accepted,
every part is listed, in request order, with the size of what was stored -/
theorem C02_multipart_all_accepted (max : Nat) (parts : List Part)
    (h : ∀ p ∈ parts, p.parses = true ∧ (receive max p.supported p.matches_ p.src).isAccepted = true) :
    multipart max parts = parts.map (fun p => (p.key, p.src.total.length)) := by
  induction parts with
  | nil => rfl
  | cons p ps ih =>
    obtain ⟨hp, ha⟩ := h p (List.mem_cons_self ..)
    rcases (receive max p.supported p.matches_ p.src).accepted_or with ⟨d, hr⟩ | hr
    · rw [multipart_accepted max p ps d hp hr, ih fun q hq => h q (List.mem_cons_of_mem _ hq),
        ((C02_accept_iff max p.supported p.matches_ p.src d).mp hr).2.2.2.2]
      rfl
    · rw [hr] at ha; cases ha

/-- the handler stops at the first failing part: nothing after it is received or listed -/
theorem C02_multipart_stops_at_first_failure (max : Nat) (pre : List Part) (bad : Part) (post : List Part)
    (hpre : ∀ p ∈ pre, p.parses = true ∧ (receive max p.supported p.matches_ p.src).isAccepted = true)
    (hbad : bad.parses = true ∧ (receive max bad.supported bad.matches_ bad.src).isAccepted = false) :
    multipart max (pre ++ bad :: post) = pre.map (fun p => (p.key, p.src.total.length)) := by
  induction pre with
  | nil => exact multipart_rejected max bad post hbad.1 hbad.2
  | cons p ps ih =>
    obtain ⟨hp, ha⟩ := hpre p (List.mem_cons_self ..)
    rcases (receive max p.supported p.matches_ p.src).accepted_or with ⟨d, hr⟩ | hr
    · rw [List.cons_append, multipart_accepted max p _ d hp hr,
        ih fun q hq => hpre q (List.mem_cons_of_mem _ hq),
        ((C02_accept_iff max p.supported p.matches_ p.src d).mp hr).2.2.2.2]
      rfl
    · rw [hr] at ha; cases ha

/-- the cap in the source is the documented 16 MiB -/
theorem C02_gen_max_is_16MiB : Gen.maxBlobSize = 16 * 1024 * 1024 := by decide

/-! ## every history: the invariant over any sequence of uploads and removals -/

/-- an event at a store's ingest side: a verified upload offered under ref `k` (hash supported or
not, any source), or a removal -/
inductive Ev where
  | upload (k : Bytes) (supported : Bool) (src : Src)
  | remove (k : Bytes)

/-- the effect of one event on the reference map (what `receiveInto` does to the abstraction of any
refining store, `C02_accept_stores_exactly` / `C02_reject_no_trace`); `m k` = "hashes to ref `k`" -/
def applyEv (max : Nat) (m : Bytes → Bytes → Bool) (st : SMap Bytes) : Ev → SMap Bytes
  | .upload k sup src =>
    match receive max sup (m k) src with
    | .accepted d => next st (.recv k d)
    | _ => st
  | .remove k => next st (.rm k)

/-- every stored blob hashes to its ref and is within the cap -/
def Clean (max : Nat) (m : Bytes → Bytes → Bool) (st : SMap Bytes) : Prop :=
  ∀ k v, SMap.get st k = some v → m k v = true ∧ v.length ≤ max

theorem applyEv_clean (max : Nat) (m : Bytes → Bytes → Bool) (st : SMap Bytes) (hk : SMap.KAsc st)
    (hc : Clean max m st) (e : Ev) :
    SMap.KAsc (applyEv max m st e) ∧ Clean max m (applyEv max m st e) := by
  cases e with
  | upload k sup src =>
    cases hr : receive max sup (m k) src with
    | accepted d =>
      obtain ⟨_, _, hl, hm, hst⟩ := (C02_accept_iff max sup (m k) src d).mp hr
      simp only [applyEv, hr, next]
      split
      · exact ⟨hk, hc⟩
      · refine ⟨SMap.kasc_ins k d hk, fun k' v' h => ?_⟩
        rw [SMap.get_ins] at h
        split at h
        · next hkk => cases h; subst hkk hst; exact ⟨hm, hl⟩
        · exact hc _ _ h
    | corrupt | tooBig | srcErr | badHash => simp only [applyEv, hr]; exact ⟨hk, hc⟩
  | remove k =>
    refine ⟨SMap.kasc_del k hk, fun k' v' h => ?_⟩
    simp only [applyEv, next] at h
    rw [SMap.get_del k hk] at h
    split at h
    · cases h
    · exact hc _ _ h

/-- **every history**: whatever sequence of uploads (any ref, any hash, any source, any
fragmentation, any ending) and removals a store has seen, every blob it holds hashes to its ref
under the ref's own function and is no larger than the cap – by induction over the history, no
bound on its length -/
theorem C02_history_only_matching_within_cap (max : Nat) (m : Bytes → Bytes → Bool) (evs : List Ev)
    (st : SMap Bytes) (hk : SMap.KAsc st) (hc : Clean max m st) :
    Clean max m (evs.foldl (applyEv max m) st) := by
  induction evs generalizing st with
  | nil => exact hc
  | cons e es ih =>
    obtain ⟨hk', hc'⟩ := applyEv_clean max m st hk hc e
    exact ih _ hk' hc'

/-- from the empty store -/
theorem C02_history_from_empty (max : Nat) (m : Bytes → Bytes → Bool) (evs : List Ev) :
    Clean max m (evs.foldl (applyEv max m) []) :=
  C02_history_only_matching_within_cap max m evs [] SMap.kasc_nil
    (by intro k v h; simp [SMap.get] at h)

/-- with the regenerated cap: no stored blob ever exceeds 16 MiB -/
theorem C02_history_gen_cap (m : Bytes → Bytes → Bool) (evs : List Ev) (k v : Bytes)
    (h : SMap.get (evs.foldl (applyEv Gen.maxBlobSize m) []) k = some v) :
    m k v = true ∧ v.length ≤ 16 * 1024 * 1024 := by
  have := C02_history_from_empty Gen.maxBlobSize m evs k v h
  rw [C02_gen_max_is_16MiB] at this
  exact this

/-- the same events on an implementation model: uploads go through `receiveInto`, removals through
the store's own step -/
def applyEvImpl (I : Impl) (max : Nat) (m : Bytes → Bytes → Bool) (s : I.σ) : Ev → I.σ
  | .upload k sup src => (receiveInto I max sup (m k) s k src).state
  | .remove k => (I.step s (.rm k)).1

theorem receiveInto_state_accepted (I : Impl) (max : Nat) (sup : Bool) (mk : Bytes → Bool) (s : I.σ)
    (k : Bytes) (src : Src) (d : Bytes) (hr : receive max sup mk src = .accepted d) :
    (receiveInto I max sup mk s k src).state = (I.step s (.recv k d)).1 :=
  (receiveInto_accepted I max sup mk s k src d hr).1

/-- **every history, every store**: on any storage model that refines the reference map (every
backend and every nesting of combinators of C01), the store's abstraction after any history of
uploads and removals is the reference map after the same history – so, with
`C02_history_only_matching_within_cap`, it only ever holds blobs that hash to their refs within the
cap. `hcf` is collision freedom: only the content a ref denotes hashes to it. -/
theorem C02_history_on_any_store {content : Bytes → Bytes} {I : Impl} (R : Refines content I)
    (max : Nat) (m : Bytes → Bytes → Bool) (hcf : ∀ k d, m k d = true → d = content k ∧ k ≠ [])
    (evs : List Ev) (s : I.σ) (hs : R.Inv s) :
    R.Inv (evs.foldl (applyEvImpl I max m) s) ∧
    R.abs (evs.foldl (applyEvImpl I max m) s) = evs.foldl (applyEv max m) (R.abs s) := by
  induction evs generalizing s with
  | nil => exact ⟨hs, rfl⟩
  | cons e es ih =>
    rw [List.foldl_cons, List.foldl_cons]
    cases e with
    | upload k sup src =>
      rcases (receive max sup (m k) src).accepted_or with ⟨d, hr⟩ | hr
      · obtain ⟨_, _, _, hm, hst⟩ := (C02_accept_iff max sup (m k) src d).mp hr
        obtain ⟨_, ha, hi⟩ := R.step_ok s (.recv k d) hs (hcf k d (hst ▸ hm))
        have h1 : applyEvImpl I max m s (.upload k sup src) = (I.step s (.recv k d)).1 :=
          (receiveInto_accepted I max sup (m k) s k src d hr).1
        rw [h1, show applyEv max m (R.abs s) (.upload k sup src) = next (R.abs s) (.recv k d) by
          simp only [applyEv, hr], ← ha]
        exact ih _ hi
      · have h1 : applyEvImpl I max m s (.upload k sup src) = s :=
          (C02_reject_no_trace I max sup (m k) s k src hr).1
        have h2 : applyEv max m (R.abs s) (.upload k sup src) = R.abs s := by
          rw [applyEv]
          cases hx : receive max sup (m k) src with
          | accepted d => rw [hx] at hr; cases hr
          | corrupt | tooBig | srcErr | badHash => rfl
        rw [h1, h2]
        exact ih _ hs
    | remove k =>
      obtain ⟨_, ha, hi⟩ := R.step_ok s (.rm k) hs trivial
      rw [show applyEvImpl I max m s (.remove k) = (I.step s (.rm k)).1 from rfl,
        show applyEv max m (R.abs s) (.remove k) = next (R.abs s) (.rm k) from rfl, ← ha]
      exact ih _ hi

/-- corollary from the initial state of any refining store -/
theorem C02_any_store_holds_only_matching {content : Bytes → Bytes} {I : Impl} (R : Refines content I)
    (max : Nat) (m : Bytes → Bytes → Bool) (hcf : ∀ k d, m k d = true → d = content k ∧ k ≠ [])
    (evs : List Ev) (k v : Bytes)
    (h : SMap.get (R.abs (evs.foldl (applyEvImpl I max m) I.init)) k = some v) :
    m k v = true ∧ v.length ≤ max := by
  rw [(C02_history_on_any_store R max m hcf evs I.init R.init_inv).2, R.init_abs] at h
  exact C02_history_from_empty max m evs k v h

/-- **every history, every nesting of backends**: for every configuration tree the C01 refinement
covers (any depth; namespace, proxycache, overlay, shard, replica, cond over memory leaves), every shard
routing function and schema predicate, after any history of verified uploads and removals the store
holds only blobs that hash to their refs and are within the cap -/
theorem C02_all_nestings_hold_only_matching (content : Bytes → Bytes) (route isSchema : Bytes → Bool)
    (c : Stores.Cfg) (hc : c.WF = true) (max : Nat) (m : Bytes → Bytes → Bool)
    (hcf : ∀ k d, m k d = true → d = content k ∧ k ≠ []) (evs : List Ev) (k v : Bytes)
    (h : SMap.get ((Stores.interpRefines content route isSchema c hc).abs
      (evs.foldl (applyEvImpl (Stores.interp route isSchema c) max m) (Stores.interp route isSchema c).init)) k
        = some v) :
    m k v = true ∧ v.length ≤ max :=
  C02_any_store_holds_only_matching (Stores.interpRefines content route isSchema c hc) max m hcf evs k v h

/-- non-vacuity: a history with a corrupt, an oversized and a good upload and a removal ends with
exactly the good blob -/
example :
    ([Ev.upload [7] true ⟨[[1], [2]], .eof⟩, .upload [8] true ⟨[[9, 9, 9, 9, 9]], .eof⟩,
      .upload [9] true ⟨[[3], [], [4]], .eof⟩, .upload [5] true ⟨[[5]], .eof⟩, .remove [5]].foldl
      (applyEv 4 (fun k v => (k, v) == ([9], [3, 4]) || (k, v) == ([5], [5]))) []) = [([9], [3, 4])] := by
  decide +kernel

/-- the defect repaired in /repo (F-C02-1): with a *truncating* reader (`io.LimitReader`, the code before
the fix) a source longer than the cap whose first `max` bytes match is accepted. Modelled by replacing
`tooBig` with EOF after `max` bytes. -/
def receiveTruncating (max : Nat) (m : Bytes → Bool) (src : Src) : Res :=
  if m (src.total.take max) then .accepted (src.total.take max) else .corrupt

theorem C02_truncating_receive_counterexample :
    ∃ (max : Nat) (m : Bytes → Bool) (src : Src),
      (receiveTruncating max m src).isAccepted = true ∧ src.total.length > max ∧
      (receive max true m src) = .tooBig :=
  ⟨2, fun b => b == [1, 2], ⟨[[1], [2, 3]], .eof⟩, by decide, by decide, by decide⟩

/-- non-vacuity: a fragmented, matching, in-limit source is accepted -/
example : receive 4 true (fun b => b == [1, 2, 3]) ⟨[[1], [], [2, 3]], .eof⟩ = .accepted [1, 2, 3] := by decide

end Pk.Recv
