import PkVerif.Lemmas.RefNs
import PkVerif.Lemmas.RefMerge
import PkVerif.Lemmas.RefProxy
import PkVerif.Lemmas.RefOverlay
import PkVerif.Lemmas.RefFiles
import PkVerif.Lemmas.RefDiskPacked
import PkVerif.Lemmas.RefNsK
import PkVerif.Lemmas.RefMergeK
import PkVerif.Lemmas.RefProxyK
import PkVerif.Lemmas.RefNary
import PkVerif.Base.Order
/-!
# C01 – every storage backend behaves as a content-addressed map

`Pk.RefMap` is the reference map (`next`/`out`); `Pk.RefMap.Refines content I` packages the proof that
an implementation model `I` answers every well-keyed history exactly as the reference map does
(`Refines.run_eq`).  Storage combinators are functions on `Impl`s with matching functions on
`Refines`, so a configuration tree denotes a model (`Pk.Stores.interp`) and "for all nestings" is
structural induction over the tree.
-/
namespace Pk.Stores
open Pk Pk.SMap Pk.RefMap

/-- **the refinement theorem**: from any state satisfying its invariant, a refining store answers
every finite well-keyed history of receive/fetch/stat/enumerate/remove exactly like the reference map -/
theorem C01_refines_run {content : Bytes → Bytes} {I : Impl} (R : Refines content I) (s : I.σ)
    (h : R.Inv s) (ops : List Op) (hops : ∀ op ∈ ops, op.WK content) :
    I.run s ops = RefMap.run (R.abs s) ops := R.run_eq s h ops hops

/-- memory is the reference map -/
theorem C01_memory (content : Bytes → Bytes) (ops : List Op) (hops : ∀ op ∈ ops, op.WK content) :
    memImpl.run memImpl.init ops = RefMap.run [] ops := (memRefines content).run_init ops hops

/-- namespace over any refining master refines the map (inventory KV + shared master; the inclusive
`Find` with the skip-equal rule is an exclusive cursor for ANY cursor string) -/
theorem C01_namespace {content : Bytes → Bytes} {master : Impl} (R : Refines content master)
    (ops : List Op) (hops : ∀ op ∈ ops, op.WK content) :
    (nsImpl master).run (nsImpl master).init ops = RefMap.run [] ops := (nsRefines R).run_init ops hops

/-- the refinement proof of a configuration tree, by structural recursion over the tree: every
combinator maps refinement proofs of its sub-stores to a refinement proof of itself.  `route` (shard
routing) and `isSchema` (cond's sniffing) are arbitrary functions. -/
def interpRefines (content : Bytes → Bytes) (route isSchema : Bytes → Bool) :
    (c : Cfg) → c.WF = true → Refines content (interp route isSchema c)
  | .mem, _ => memRefines content
  | .memCache _, h => by simp [Cfg.WF] at h
  | .ns m, h => nsRefines (interpRefines content route isSchema m (by simpa [Cfg.WF] using h))
  -- `Cfg.WF` matches `.proxy o (.memCache _) _` before `.proxy o c _`, so it does not reduce for a
  -- variable cache `c`: one case per constructor of the cache
  | .proxy o (.memCache cm) max, h =>
    proxyRefines (interpRefines content route isSchema o (by simpa [Cfg.WF] using h))
      (memCacheCaches content cm) max
  | .proxy o .mem max, h =>
    proxyRefines (interpRefines content route isSchema o (by simp [Cfg.WF] at h; exact h))
      (memRefines content).toCaches max
  | .proxy o (.ns x) max, h =>
    proxyRefines (interpRefines content route isSchema o (by simp [Cfg.WF] at h; exact h.1))
      (interpRefines content route isSchema (.ns x) (by simp [Cfg.WF] at h; simpa [Cfg.WF] using h.2)).toCaches max
  | .proxy o (.proxy a b m) max, h =>
    proxyRefines (interpRefines content route isSchema o (by simp only [Cfg.WF, Bool.and_eq_true] at h; exact h.1))
      (interpRefines content route isSchema (.proxy a b m) (by simp only [Cfg.WF, Bool.and_eq_true] at h; exact h.2)).toCaches max
  | .proxy o (.overlay a b) max, h =>
    proxyRefines (interpRefines content route isSchema o (by simp only [Cfg.WF, Bool.and_eq_true] at h; exact h.1))
      (interpRefines content route isSchema (.overlay a b) (by simp only [Cfg.WF, Bool.and_eq_true] at h ⊢; exact h.2)).toCaches max
  | .proxy o (.shard2 a b) max, h =>
    proxyRefines (interpRefines content route isSchema o (by simp only [Cfg.WF, Bool.and_eq_true] at h; exact h.1))
      (interpRefines content route isSchema (.shard2 a b) (by simp only [Cfg.WF, Bool.and_eq_true] at h ⊢; exact h.2)).toCaches max
  | .proxy o (.shardBy r a b) max, h =>
    proxyRefines (interpRefines content route isSchema o (by simp only [Cfg.WF, Bool.and_eq_true] at h; exact h.1))
      (interpRefines content route isSchema (.shardBy r a b) (by simp only [Cfg.WF, Bool.and_eq_true] at h ⊢; exact h.2)).toCaches max
  | .proxy o (.replica2 a b) max, h =>
    proxyRefines (interpRefines content route isSchema o (by simp only [Cfg.WF, Bool.and_eq_true] at h; exact h.1))
      (interpRefines content route isSchema (.replica2 a b) (by simp only [Cfg.WF, Bool.and_eq_true] at h ⊢; exact h.2)).toCaches max
  | .proxy o (.cond2 a b) max, h =>
    proxyRefines (interpRefines content route isSchema o (by simp only [Cfg.WF, Bool.and_eq_true] at h; exact h.1))
      (interpRefines content route isSchema (.cond2 a b) (by simp only [Cfg.WF, Bool.and_eq_true] at h ⊢; exact h.2)).toCaches max
  | .proxy _ (.faulty _ _) _, h => by simp [Cfg.WF] at h
  | .faulty _ _, h => by simp [Cfg.WF] at h
  | .proxy _ (.leaf _) _, h => by simp [Cfg.WF] at h
  | .leaf _, h => by simp [Cfg.WF] at h
  | .overlay l u, h =>
    overlayRefines (interpRefines content route isSchema l (by simp [Cfg.WF] at h; exact h.1))
      (interpRefines content route isSchema u (by simp [Cfg.WF] at h; exact h.2))
  | .shard2 a b, h =>
    shard2Refines route (interpRefines content route isSchema a (by simp [Cfg.WF] at h; exact h.1))
      (interpRefines content route isSchema b (by simp [Cfg.WF] at h; exact h.2))
  | .shardBy r a b, h =>
    shard2Refines r (interpRefines content route isSchema a (by simp [Cfg.WF] at h; exact h.1))
      (interpRefines content route isSchema b (by simp [Cfg.WF] at h; exact h.2))
  | .replica2 a b, h =>
    replica2Refines (interpRefines content route isSchema a (by simp [Cfg.WF] at h; exact h.1))
      (interpRefines content route isSchema b (by simp [Cfg.WF] at h; exact h.2))
  | .cond2 a b, h =>
    cond2Refines isSchema (interpRefines content route isSchema a (by simp [Cfg.WF] at h; exact h.1))
      (interpRefines content route isSchema b (by simp [Cfg.WF] at h; exact h.2))

/-- **every supported nesting of backends is observationally the reference map**: for every
configuration tree (any depth; namespace, proxycache over any store or over an evicting cache of any
size, overlay, shard, replica, cond), every shard routing function and every schema predicate, every
finite well-keyed history of receive / fetch / stat / enumerate (any cursor string, any limit) /
remove from the initial state is answered exactly as the reference map answers it. -/
theorem C01_all_nestings (content : Bytes → Bytes) (route isSchema : Bytes → Bool) (c : Cfg)
    (hc : c.WF = true) (ops : List Op) (hops : ∀ op ∈ ops, op.WK content) :
    (interp route isSchema c).run (interp route isSchema c).init ops = RefMap.run [] ops :=
  (interpRefines content route isSchema c hc).run_init ops hops

/-- the same from any state the invariant admits – in particular an overlay whose lower layer is
already populated and has tombstones -/
theorem C01_all_nestings_from (content : Bytes → Bytes) (route isSchema : Bytes → Bool) (c : Cfg)
    (hc : c.WF = true) (s : (interp route isSchema c).σ)
    (hs : (interpRefines content route isSchema c hc).Inv s) (ops : List Op)
    (hops : ∀ op ∈ ops, op.WK content) :
    (interp route isSchema c).run s ops =
      RefMap.run ((interpRefines content route isSchema c hc).abs s) ops :=
  (interpRefines content route isSchema c hc).run_eq s hs ops hops

/-- overlay: upper-then-lower reads, tombstones, and the refill loop of its enumeration refine the map
for ARBITRARY lower contents and tombstones -/
theorem C01_overlay {content : Bytes → Bytes} {lower upper : Impl} (Rl : Refines content lower)
    (Ru : Refines content upper) (s : (overlayImpl lower upper).σ)
    (hs : Rl.Inv s.1 ∧ Ru.Inv s.2.1 ∧ KAsc s.2.2) (ops : List Op) (hops : ∀ op ∈ ops, op.WK content) :
    (overlayImpl lower upper).run s ops =
      RefMap.run ((union (Ru.abs s.2.1) (Rl.abs s.1)).filter (fun p => !has s.2.2 p.1)) ops :=
  (overlayRefines Rl Ru).run_eq s hs ops hops

/-- an overlay put on top of a store that already holds blobs (any history `seeds` of the lower
store alone) behaves as the reference map that starts with exactly those blobs -/
theorem C01_overlay_over_populated_lower {content : Bytes → Bytes} {lower upper : Impl}
    (Rl : Refines content lower) (Ru : Refines content upper) (seeds ops : List Op)
    (hseeds : ∀ op ∈ seeds, op.WK content) (hops : ∀ op ∈ ops, op.WK content) :
    (overlayImpl lower upper).run (lower.runState lower.init seeds, upper.init, []) ops =
      RefMap.run (RefMap.runState [] seeds) ops := by
  obtain ⟨hi, ha⟩ := Rl.reach lower.init Rl.init_inv seeds hseeds
  have h := C01_overlay Rl Ru (lower.runState lower.init seeds, upper.init, [])
    ⟨hi, Ru.init_inv, kasc_nil⟩ ops hops
  rw [h]
  congr 1
  simp only [ha, Rl.init_abs, Ru.init_abs]
  have hg := (Rl.reach lower.init Rl.init_inv seeds hseeds).1
  have hgood := Rl.good _ hg
  rw [ha, Rl.init_abs] at hgood
  apply SMap.ext (kasc_filter _ (kasc_union _ hgood.1)) hgood.1
  intro k
  rw [get_filter_key (fun x => !has ([] : SMap Unit) x)]
  simp [has, SMap.get, get_union]

/-- **the file-per-blob store (localdisk)**: with the directory layout `hash/xx/yy/hash-digest.dat`
and the recursive, cursor-pruned directory walk of files/enumerate.go as its enumeration, it answers
every history whose received refs are of supported hashes exactly like the reference map – for ANY
enumerate cursor string and any limit (`Pk.Files.walk_eq`: pruning never drops an entry after the
cursor, directory order is ref-text order, the shared countdown is `take`) -/
theorem C01_files (content : Bytes → Bytes) (ops : List Op) (hwk : ∀ op ∈ ops, op.WK content)
    (hk : ∀ op ∈ ops, Pk.Files.KeyOK Pk.Ref.gtbl op) :
    (Pk.Files.filesImpl Pk.Ref.gtbl).run (Pk.Files.filesImpl Pk.Ref.gtbl).init ops = RefMap.run [] ops :=
  Pk.Files.files_run_eq content ops hwk hk

/-- **the append-only packed disk store (diskpacked)**: pack files as byte strings with `[ref size]`
headers, an index of (pack, offset, size) rows, roll-over to a new pack for ANY maxFileSize (also one so
small that every append rolls over), duplicate receive as a no-op, removal by overwriting the blob's
own header and body, and enumeration as the index range scan with the skip-equal rule: it answers every
history exactly like the reference map (byte arithmetic of offsets and extents proved, not assumed).
`KeyOK`: received refs contain a `-` with no space after it (every real ref text does). -/
theorem C01_diskpacked (max : Nat) (content : Bytes → Bytes) (ops : List Op)
    (hwk : ∀ op ∈ ops, op.WK content) (hk : ∀ op ∈ ops, Pk.DiskPacked.KeyOK op) :
    (Pk.DiskPacked.diskpackedImpl max).run (Pk.DiskPacked.diskpackedImpl max).init ops = RefMap.run [] ops :=
  Pk.DiskPacked.diskpacked_run_eq max content ops hwk hk

/-! ### nestings over ALL modelled leaves: memory, localdisk/files, diskpacked -/

/-- the cache of a proxycache: an evicting memory cache or a plain memory store -/
inductive CacheCfg where
  | memCache (max : Nat)
  | mem

/-- configuration trees whose leaves are memory, the file-per-blob store or the packed disk store -/
inductive LCfg where
  | mem
  | files
  | diskpacked (maxFileSize : Nat)
  | ns (master : LCfg)
  | proxy (origin : LCfg) (cache : CacheCfg) (max : Nat)
  | overlay (lower upper : LCfg)
  | shard2 (a b : LCfg)
  | shardBy (r : Bytes → Bool) (a b : LCfg)
  | replica2 (a b : LCfg)
  | cond2 (t e : LCfg)

def CacheCfg.toCfg : CacheCfg → Cfg
  | .memCache m => .memCache m
  | .mem => .mem

/-- the same tree as a `Cfg` (disk leaves are given by their layout models) -/
def LCfg.toCfg (t : Pk.Ref.Tbl) : LCfg → Cfg
  | .mem => .mem
  | .files => .leaf (Pk.Files.filesImpl t)
  | .diskpacked m => .leaf (Pk.DiskPacked.diskpackedImpl m)
  | .ns m => .ns (m.toCfg t)
  | .proxy o c max => .proxy (o.toCfg t) c.toCfg max
  | .overlay l u => .overlay (l.toCfg t) (u.toCfg t)
  | .shard2 a b => .shard2 (a.toCfg t) (b.toCfg t)
  | .shardBy r a b => .shardBy r (a.toCfg t) (b.toCfg t)
  | .replica2 a b => .replica2 (a.toCfg t) (b.toCfg t)
  | .cond2 a b => .cond2 (a.toCfg t) (b.toCfg t)

def cacheCaches (content : Bytes → Bytes) (route isSchema : Bytes → Bool) :
    (c : CacheCfg) → Caches content (interp route isSchema c.toCfg)
  | .memCache m => memCacheCaches content m
  | .mem => (memRefines content).toCaches

/-- the refinement proof of a tree with disk leaves, for histories whose received keys are texts of
supported-hash refs (`SupK t`): every combinator maps `RefinesK` proofs of its sub-stores to a
`RefinesK` proof of itself -/
def interpRefinesK (t : Pk.Ref.Tbl) (ht : Pk.Files.TblOK t) (content : Bytes → Bytes)
    (route isSchema : Bytes → Bool) :
    (c : LCfg) → RefinesK content (Pk.Files.SupK t) (interp route isSchema (c.toCfg t))
  | .mem => (memRefines content).toK _
  | .files => Pk.Files.filesRefinesK t ht content
  | .diskpacked m =>
    Pk.DiskPacked.diskpackedRefinesK m content (Pk.Files.SupK t) (fun _ h => Pk.Files.supK_keyForm ht h)
  | .ns m => nsRefinesK (interpRefinesK t ht content route isSchema m)
  | .proxy o c max =>
    proxyRefinesK (interpRefinesK t ht content route isSchema o) (cacheCaches content route isSchema c) max
  | .overlay l u =>
    overlayRefinesK (interpRefinesK t ht content route isSchema l) (interpRefinesK t ht content route isSchema u)
  | .shard2 a b =>
    shard2RefinesK route (interpRefinesK t ht content route isSchema a) (interpRefinesK t ht content route isSchema b)
  | .shardBy r a b =>
    shard2RefinesK r (interpRefinesK t ht content route isSchema a) (interpRefinesK t ht content route isSchema b)
  | .replica2 a b =>
    replica2RefinesK (interpRefinesK t ht content route isSchema a) (interpRefinesK t ht content route isSchema b)
  | .cond2 a b =>
    cond2RefinesK isSchema (interpRefinesK t ht content route isSchema a) (interpRefinesK t ht content route isSchema b)

/-- **every nesting of combinators over memory, localdisk and diskpacked leaves is observationally
the reference map**: for every such tree (any depth, any maxFileSize, any cache size), every routing
function and schema predicate, every finite well-keyed history whose received refs are texts of
supported-hash refs (as regenerated from the source: sha1/sha224/sha256) is answered – receive, fetch,
stat, enumerate with ANY cursor string and limit, remove – exactly as the reference map answers it.
The leaves are the layout models (directory tree + pruned walk; pack bytes + index rows). -/
theorem C01_all_nestings_with_disk_leaves (content : Bytes → Bytes) (route isSchema : Bytes → Bool)
    (c : LCfg) (ops : List Op) (hops : ∀ op ∈ ops, op.WK content)
    (hk : ∀ op ∈ ops, op.KOK (Pk.Files.SupK Pk.Ref.gtbl)) :
    (interp route isSchema (c.toCfg Pk.Ref.gtbl)).run (interp route isSchema (c.toCfg Pk.Ref.gtbl)).init ops
      = RefMap.run [] ops :=
  (interpRefinesK Pk.Ref.gtbl Pk.Files.gtbl_ok content route isSchema c).run_init ops hops hk

/-- a three-level nesting satisfies the hypotheses (non-vacuity) -/
example : (Cfg.overlay (.shard2 .mem (.ns .mem)) (.proxy (.cond2 .mem .mem) (.memCache 100) 50)).WF = true := by decide

/-! ### shard and replica over ANY number of sub-stores

shard.go and replica.go keep a slice of sub-stores: point operations index it (`Sum32(ref) % n`) or
loop over it, and enumerate hands the whole slice to ONE call of `MergedEnumerateStorage`.
`shardNImpl` / `replicaNImpl` (Model/Stores.lean) are those loops.  A configuration tree has two-way
nodes only; the drivers build an n-way node as the right-nested tree `Cfg.shardNest` /
`Cfg.replicaNest`.  The theorems below tie the two: the n-way merge IS the nested two-way merge, both
n-way models refine the reference map whenever every sub-store does, and on every well-keyed history
they answer exactly like the nested trees. -/

/-- **the n-way merged enumeration of mergedenum.go is the nested two-way one**: for strictly
ascending sources, merging `x` with all the others in one call sends exactly what merging `x` with
the (merged, cut at `limit`) enumeration of the others sends -/
theorem C01_merged_nway_is_nested (limit : Nat) (x : List MergedEnum.SR) (rest : List (List MergedEnum.SR))
    (h : MergedEnum.AllAsc (x :: rest)) :
    MergedEnum.mergedEnumerate limit (x :: rest) =
      MergedEnum.mergedEnumerate limit [x, MergedEnum.mergedEnumerate limit rest] :=
  MergedEnum.merged_cons_nest limit x rest h

/-- **shard over any number of sub-stores** (the slice indexed by `route k % n`, ONE n-way merged
enumeration) refines the reference map whenever every sub-store does, for every routing function -/
theorem C01_shardN {content : Bytes → Bytes} (route : Bytes → Nat) (k : Impl) (r : List Impl)
    (Rk : Refines content k) (Rr : RKids content r) (ops : List Op) (hops : ∀ op ∈ ops, op.WK content) :
    (shardNImpl route (k :: r)).run (shardNImpl route (k :: r)).init ops = RefMap.run [] ops :=
  shardN_run_eq route k r Rk Rr ops hops

/-- **replica over any number of sub-stores** (receive / stat / remove on all of them, fetch from the
first that has the blob, ONE n-way merged enumeration; `minWritesForSuccess` = their number) refines
the reference map whenever every sub-store does -/
theorem C01_replicaN {content : Bytes → Bytes} (k : Impl) (r : List Impl) (R : RKids content (k :: r))
    (ops : List Op) (hops : ∀ op ∈ ops, op.WK content) :
    (replicaNImpl (k :: r)).run (replicaNImpl (k :: r)).init ops = RefMap.run [] ops :=
  (replicaNRefines k r R).run_init ops hops

/-- the refinement proofs of a list of supported configurations -/
def rkidsOf (content : Bytes → Bytes) (route isSchema : Bytes → Bool) :
    (r : List Cfg) → (∀ c ∈ r, c.WF = true) → RKids content (r.map (interp route isSchema))
  | [], _ => ()
  | c :: r, h => (interpRefines content route isSchema c (h c (by simp)),
      rkidsOf content route isSchema r (fun c' hc => h c' (by simp [hc])))

/-- **the tree the drivers build for an n-way shard is the n-way shard**: over any supported
sub-configurations, the slice model and the right-nested tree of two-way shards (sub-store `i`
against the rest, routing `sum k % n`) answer every well-keyed history alike – both like the
reference map -/
theorem C01_shardN_tree (content : Bytes → Bytes) (route isSchema : Bytes → Bool) (sum : Bytes → Nat)
    (k : Cfg) (r : List Cfg) (hk : k.WF = true) (hr : ∀ c ∈ r, c.WF = true) (ops : List Op)
    (hops : ∀ op ∈ ops, op.WK content) :
    let tree := interp route isSchema (Cfg.shardNest sum (r.length + 1) 0 k r)
    let slice := shardNImpl sum (interp route isSchema k :: r.map (interp route isSchema))
    slice.run slice.init ops = tree.run tree.init ops ∧ tree.run tree.init ops = RefMap.run [] ops := by
  intro tree slice
  have h1 : slice.run slice.init ops = RefMap.run [] ops :=
    shardN_run_eq sum _ _ (interpRefines content route isSchema k hk)
      (rkidsOf content route isSchema r hr) ops hops
  have h2 : tree.run tree.init ops = RefMap.run [] ops :=
    C01_all_nestings content route isSchema _ (wf_shardNest sum _ r k 0 hk hr) ops hops
  exact ⟨h1.trans h2.symm, h2⟩

/-- the same for replica -/
theorem C01_replicaN_tree (content : Bytes → Bytes) (route isSchema : Bytes → Bool)
    (k : Cfg) (r : List Cfg) (hk : k.WF = true) (hr : ∀ c ∈ r, c.WF = true) (ops : List Op)
    (hops : ∀ op ∈ ops, op.WK content) :
    let tree := interp route isSchema (Cfg.replicaNest k r)
    let slice := replicaNImpl (interp route isSchema k :: r.map (interp route isSchema))
    slice.run slice.init ops = tree.run tree.init ops ∧ tree.run tree.init ops = RefMap.run [] ops := by
  intro tree slice
  have h1 : slice.run slice.init ops = RefMap.run [] ops :=
    (replicaNRefines _ _ (interpRefines content route isSchema k hk,
      rkidsOf content route isSchema r hr)).run_init ops hops
  have h2 : tree.run tree.init ops = RefMap.run [] ops :=
    C01_all_nestings content route isSchema _ (wf_replicaNest r k hk hr) ops hops
  exact ⟨h1.trans h2.symm, h2⟩

/-- the tree of an n-way shard denotes the nested model level by level (`shard2Impl` with the
routing predicate "not sub-store `i`") -/
theorem C01_shardN_tree_model (route isSchema : Bytes → Bool) (sum : Bytes → Nat) (n : Nat) (k : Cfg)
    (r : List Cfg) :
    interp route isSchema (Cfg.shardNest sum n 0 k r) =
      shardNestImpl sum n 0 (interp route isSchema k) (r.map (interp route isSchema)) :=
  interp_shardNest route isSchema sum n r k 0

/-- non-vacuity: a four-way shard of supported sub-trees, one of them a three-way replica -/
example : (Cfg.shardNest (fun k => k.length) 4 0 .mem
    [.ns .mem, Cfg.replicaNest .mem [.overlay .mem .mem, .mem], .proxy .mem (.memCache 10) 5]).WF = true := by
  decide
example : ((shardNImpl (fun k => k.length) [memImpl, memImpl, memImpl]).run
    (shardNImpl (fun k => k.length) [memImpl, memImpl, memImpl]).init
    [.recv [1] [7], .recv [1, 2] [8], .recv [1, 2, 3] [9, 9], .enum [] 2, .fetch [1, 2], .rm [1], .enum [] 5]) =
    [.sized 1, .sized 1, .sized 2, .refs [([1], 1), ([1, 2], 1)], .bytes [8], .ok,
     .refs [([1, 2], 1), ([1, 2, 3], 2)]] := by decide +kernel
example : ((replicaNImpl [memImpl, memImpl, memImpl]).run (replicaNImpl [memImpl, memImpl, memImpl]).init
    [.recv [1] [7], .recv [2] [8], .stat [1], .enum [] 1, .rm [1], .fetch [1], .enum [] 5]) =
    [.sized 1, .sized 1, .sized 1, .refs [([1], 1)], .ok, .notExist, .refs [([2], 1)]] := by decide +kernel

/-! ### the enumeration contract of the reference map (hence of everything that refines it) -/

theorem keys_enumOf_sublist (m : SMap Bytes) (after : Bytes) (limit : Nat) :
    ((enumOf m after limit).map (·.1)).Sublist (m.map (·.1)) := by
  unfold enumOf sizes
  rw [List.map_take, List.map_map]
  have h1 : (List.map ((fun x => x.1) ∘ fun p : Bytes × Bytes => (p.1, p.2.length))
      (m.filter (fun p => ltB after p.1))) = (m.filter (fun p => ltB after p.1)).map (·.1) := by
    apply List.map_congr_left; intro a _; rfl
  rw [h1]
  exact (List.take_sublist _ _).trans (List.Sublist.map _ List.filter_sublist)

/-- enumerate answers: at most `limit` entries, ascending by ref text (so each ref at most once),
every entry strictly after the cursor – for ANY cursor string – and with the blob's true size -/
theorem C01_enumerate_contract (content : Bytes → Bytes) (m : SMap Bytes) (hm : Good content m)
    (after : Bytes) (limit : Nat) :
    (enumOf m after limit).length ≤ limit ∧
    (enumOf m after limit).Pairwise (fun a b => ltB a.1 b.1 = true) ∧
    (∀ e ∈ enumOf m after limit, ltB after e.1 = true ∧ SMap.get m e.1 = some (content e.1) ∧
      e.2 = (content e.1).length) := by
  refine ⟨by simp [enumOf, List.length_take]; omega, ?_, ?_⟩
  · exact List.Pairwise.sublist (List.take_sublist _ _) (pw_sizes (kasc_filter _ hm.1))
  · intro e he
    unfold enumOf sizes at he
    have he' := List.mem_of_mem_take he
    rw [List.mem_map] at he'
    obtain ⟨p, hp, rfl⟩ := he'
    obtain ⟨hpm, hlt⟩ := List.mem_filter.mp hp
    obtain ⟨k, v⟩ := p
    have hg := mem_get hm.1 hpm
    have := (hm.2 k v hg).1
    subst this
    exact ⟨hlt, hg, rfl⟩

/-- nothing present and after the cursor is skipped: enumerate is exactly the first `limit` entries of
the (ascending) contents that lie after the cursor -/
theorem C01_enumerate_complete (m : SMap Bytes) (after : Bytes) (limit : Nat) :
    enumOf m after limit = (sizes (m.filter (fun p => ltB after p.1))).take limit := rfl

/-- **paging**: following "cursor = last ref of the previous page" with any page size ≥ 1 visits every
blob exactly once, in order (instance of `Pk.pages_suffix` for the byte order on ref texts).  This is
about the ascending key list and `Pk.enumerate` (Base/Order), not about a store's `enum` answers: no
lemma here connects `Pk.pages` to `RefMap.enumOf` -/
theorem C01_paging (keys : List Bytes) (hk : Asc ltB keys) (limit : Nat) (hl : 0 < limit)
    (pre r : List Bytes) (c : Bytes) (hsplit : keys = pre ++ c :: r) (fuel : Nat) (hf : r.length < fuel) :
    pages ltB keys limit fuel (some c) = r := by
  subst hsplit
  exact pages_suffix ltB ⟨ltB_irrefl, ltB_trans, ltB_total⟩ limit hl fuel pre r c hk hf

/-- hypotheses are satisfiable: a two-level nesting from its initial state -/
example (content : Bytes → Bytes) : (nsRefines (nsRefines (memRefines content))).Inv
    (nsImpl (nsImpl memImpl)).init := (nsRefines (nsRefines (memRefines content))).init_inv

end Pk.Stores
