import PkVerif.Lemmas.Search
import PkVerif.Lemmas.SearchMatcher
import PkVerif.Gen.Facts
import PkVerif.Gen.C08
/-!
# C08 – a search returns exactly the matching blobs, however it is planned

`Pk.Search` (Model/Search.lean) holds both readings of a constraint – the
documented meaning `matchesC` (the spec) and the matcher the code compiles, `matchC`, with the
planner, the candidate enumerations, the callback, the post-sort and the truncation of
`Handler.Query` around it (`query`) – and the specification of a query, `specResult`.

Where the code does not satisfy the property the theorem is `_partial` (with the decidable guard
that excludes the defect) and a `_counterexample` shows the defect on a concrete small world.
Two planner defects were repaired in /repo (`or` with an untyped branch; one enumeration pass per
listed node type): for those the theorem holds at full strength and an `_oldcode_counterexample`
records what the old code did.

Modelled constraints: logical and/or/xor/not; anything, camliType, anyCamliType, blobRefPrefix,
blobSize; permanode at / attr / value / valueMatches (equals, contains, hasPrefix, hasSuffix, empty,
byteLength, caseInsensitive on ASCII) / valueMatchesInt / numValue / valueAll / valueInSet / skipHidden / modTime / time /
relation (parent, child; any, all; edgeType); file fileName / fileSize / mimeType / time / modTime /
wholeRef / parentDir; dir fileName / blobRefPrefix / parentDir / topFileCount / contains /
recursiveContains.
-/
namespace Pk.Search
open Pk

/-- the hash table of pkg/blob/ref.go, built from the regenerated `Gen.*` tables -/
def gtbl : Pk.Ref.Tbl := ⟨Gen.refSizes, Gen.testRefTypes, Gen.maxOtherDigestLen⟩

/-! ## obligations on the regenerated facts (lean/PkVerif/Gen/C08.lean, from /repo's working tree) -/

/-- sha224 is a supported hash with a 28 byte digest -/
theorem C08_gen_sha224 : gtbl.size? sha224Name = some 28 := by decide

/-- the conditions of Constraint.genMatcher in the order they are added – the order in which `matchC`
evaluates them (each only while everything before it matched) -/
theorem C08_gen_matcher_order :
    Gen.genMatcherConds =
      [[99, 46, 76, 111, 103, 105, 99, 97, 108, 32, 33, 61, 32, 110, 105, 108],  -- c.Logical != nil
       [99, 46, 65, 110, 121, 116, 104, 105, 110, 103],  -- c.Anything
       [99, 46, 67, 97, 109, 108, 105, 84, 121, 112, 101, 32, 33, 61, 32, 34, 34],  -- c.CamliType != ""
       [99, 46, 65, 110, 121, 67, 97, 109, 108, 105, 84, 121, 112, 101],  -- c.AnyCamliType
       [99, 46, 80, 101, 114, 109, 97, 110, 111, 100, 101, 32, 33, 61, 32, 110, 105, 108],  -- c.Permanode != nil
       [99, 46, 70, 105, 108, 101, 32, 33, 61, 32, 110, 105, 108],  -- c.File != nil
       [99, 46, 68, 105, 114, 32, 33, 61, 32, 110, 105, 108],  -- c.Dir != nil
       [98, 115, 32, 58, 61, 32, 99, 46, 66, 108, 111, 98, 83, 105, 122, 101, 59, 32, 98, 115, 32, 33, 61, 32, 110, 105, 108],  -- bs := c.BlobSize; bs != nil
       [112, 102, 120, 32, 58, 61, 32, 99, 46, 66, 108, 111, 98, 82, 101, 102, 80, 114, 101, 102, 105, 120, 59, 32, 112, 102, 120, 32, 33, 61, 32, 34, 34]  -- pfx := c.BlobRefPrefix; pfx != ""
      ] := rfl

/-- the candidate sources of pickCandidateSource, in source order: the names `Src.name` prints -/
theorem C08_gen_source_names :
    Gen.candSourceNames =
      [[99, 111, 114, 112, 117, 115, 95, 112, 101, 114, 109, 97, 110, 111, 100, 101, 95, 108, 97, 115, 116, 109, 111, 100],  -- corpus_permanode_lastmod
       [99, 111, 114, 112, 117, 115, 95, 112, 101, 114, 109, 97, 110, 111, 100, 101, 95, 99, 114, 101, 97, 116, 101, 100],  -- corpus_permanode_created
       [99, 111, 114, 112, 117, 115, 95, 112, 101, 114, 109, 97, 110, 111, 100, 101, 95, 116, 121, 112, 101, 115],  -- corpus_permanode_types
       [111, 110, 101, 95, 98, 108, 111, 98],  -- one_blob
       [99, 111, 114, 112, 117, 115, 95, 102, 105, 108, 101, 95, 109, 101, 116, 97],  -- corpus_file_meta
       [99, 111, 114, 112, 117, 115, 95, 98, 108, 111, 98, 95, 109, 101, 116, 97],  -- corpus_blob_meta
       [105, 110, 100, 101, 120, 95, 98, 108, 111, 98, 95, 109, 101, 116, 97]  -- index_blob_meta
      ] := rfl

example : [Src.lastmod, .created, .types [], .oneBlob [], .fileMeta, .blobMeta [], .all].map Src.name =
    ["corpus_permanode_lastmod", "corpus_permanode_created", "corpus_permanode_types", "one_blob", "corpus_file_meta",
     "corpus_blob_meta", "index_blob_meta"] := rfl

/-- the string literals of matchesPermanodeTypes, matchesAtMostOneBlob, onlyMatchesPermanode and
matchesFileByWholeRef: the attribute `camliNodeType`, and the only operators the planner looks through
(`and` everywhere, `or` in matchesPermanodeTypes only) -/
theorem C08_gen_planner_strings :
    Gen.plannerStrings =
      [[sCamliNodeType, [], [97, 110, 100], [111, 114]], [[], [97, 110, 100]], [[97, 110, 100]], [[97, 110, 100]]] := rfl

/-- plannedQuery replaces a zero limit by this default -/
theorem C08_gen_default_limit (c : Cons) (s : SortT) : (⟨c, s, 0⟩ : Query).plannedLimit = (Gen.defaultLimit : Int) := by
  simp [Query.plannedLimit, Gen.defaultLimit]

/-- the SortType constants in iota order (the constructors of `SortT` in the same order) -/
theorem C08_gen_sort_types :
    Gen.sortTypeNames =
      [[85, 110, 115, 112, 101, 99, 105, 102, 105, 101, 100, 83, 111, 114, 116],  -- UnspecifiedSort
       [85, 110, 115, 111, 114, 116, 101, 100],  -- Unsorted
       [76, 97, 115, 116, 77, 111, 100, 105, 102, 105, 101, 100, 68, 101, 115, 99],  -- LastModifiedDesc
       [76, 97, 115, 116, 77, 111, 100, 105, 102, 105, 101, 100, 65, 115, 99],  -- LastModifiedAsc
       [67, 114, 101, 97, 116, 101, 100, 68, 101, 115, 99],  -- CreatedDesc
       [67, 114, 101, 97, 116, 101, 100, 65, 115, 99],  -- CreatedAsc
       [66, 108, 111, 98, 82, 101, 102, 65, 115, 99],  -- BlobRefAsc
       [77, 97, 112, 83, 111, 114, 116],  -- MapSort
       [109, 97, 120, 83, 111, 114, 116, 84, 121, 112, 101]  -- maxSortType
      ] := rfl

/-- the error of a failed query -/
def errOf {α : Type} : Except Err α → Option Err
  | .error e => some e
  | .ok _ => none

/-! ## small worlds for the examples and counterexamples -/

def mkRef (n : Nat) : Ref := sha224Name ++ [45] ++ List.replicate 55 48 ++ [48 + n]
def sTag : Str := [116, 97, 103]
def sX : Str := [120]
def sTa : Str := [116, 97]
def sTb : Str := [116, 98]
def sATxt : Str := [97, 46, 116, 120, 116]
def sTop : Str := [116, 111, 112]
def sSub : Str := [115, 117, 98]
def pnBlob (n : Nat) : BlobMeta := ⟨mkRef n, sPermanode, 100⟩
def noFlat : Flat := ⟨false, [], false, [], none⟩
def noP : PFlat := ⟨0, [], false, none, false, [], none, none, none, none⟩
def noF : FFlat := ⟨none, none, none, none, none, []⟩
def noD : DFlat := ⟨none, [], none⟩
def strEq (s : Str) : StrC := ⟨false, s, [], [], [], none, false⟩
/-- `{permanode: {attr, value}}` -/
def attrIs (a v : Str) : Cons := .mk .none .nil .nil noFlat (.mk { noP with attr := a, value := v } .nil none .nil .nil) .nil .nil
/-- `{camliType: "permanode"}` -/
def isPermanode : Cons := .mk .none .nil .nil { noFlat with camliType := sPermanode } .nil .nil .nil
def logicalC (op : Op) (a b : Cons) : Cons := .mk op a b noFlat .nil .nil .nil

/-- p1 has the members p2 and p3; p2 has the tags y, z; p3 has the tag x -/
def wMembers : World :=
  { blobs := [pnBlob 1, pnBlob 2, pnBlob 3],
    claims := [⟨mkRef 1, .add, sCamliMember, mkRef 2, 10, false⟩, ⟨mkRef 1, .add, sCamliMember, mkRef 3, 11, false⟩,
               ⟨mkRef 2, .add, sTag, [121], 12, false⟩, ⟨mkRef 2, .add, sTag, [122], 13, false⟩, ⟨mkRef 3, .add, sTag, sX, 14, false⟩],
    deleted := [], ctime := [], files := [], dirs := [] }

/-- `{permanode: {attr: camliMember, valueInSet: {permanode: {attr: tag, value: x}}}}` -/
def cMemberTaggedX : Cons :=
  .mk .none .nil .nil noFlat (.mk { noP with attr := sCamliMember } (attrIs sTag sX) none .nil .nil) .nil .nil

/-- `{permanode: {attr: camliMember, valueInSet: {camliType: permanode}}}`: no nested attribute -/
def cMemberIsPermanode : Cons :=
  .mk .none .nil .nil noFlat (.mk { noP with attr := sCamliMember } isPermanode none .nil .nil) .nil .nil

/-- p1 has a member that is no blob of the world; p2 has the member p1 -/
def wDangling : World :=
  { blobs := [pnBlob 1, pnBlob 2],
    claims := [⟨mkRef 1, .add, sCamliMember, mkRef 9, 10, false⟩, ⟨mkRef 2, .add, sCamliMember, mkRef 1, 11, false⟩],
    deleted := [], ctime := [], files := [], dirs := [] }

/-- `{permanode: {relation: {relation: child, any: {camliType: permanode}}}}` -/
def cHasPermanodeChild : Cons :=
  .mk .none .nil .nil noFlat (.mk noP .nil (some ⟨sChild, []⟩) isPermanode .nil) .nil .nil

/-- directory `top` contains directory `sub` contains file `a.txt` -/
def wDirs : World :=
  { blobs := [⟨mkRef 1, sFile, 50⟩, ⟨mkRef 2, sDirectory, 60⟩, ⟨mkRef 3, sDirectory, 60⟩],
    claims := [], deleted := [], ctime := [],
    files := [⟨mkRef 1, sATxt, 11, [], 0, 0, []⟩, ⟨mkRef 2, sSub, 0, [], 0, 0, []⟩, ⟨mkRef 3, sTop, 0, [], 0, 0, []⟩],
    dirs := [(mkRef 2, [mkRef 1]), (mkRef 3, [mkRef 2])] }

def fileNamed (s : Str) : Cons := .mk .none .nil .nil noFlat .nil (.mk { noF with name := some (strEq s) } .nil) .nil
/-- `{dir: {fileName: top, recursiveContains: {file: {fileName: a.txt}}}}` -/
def cTopWithATxtBelow : Cons :=
  .mk .none .nil .nil noFlat .nil .nil (.mk { noD with name := some (strEq sTop) } .nil (fileNamed sATxt) .nil)
/-- `{dir: {recursiveContains: {file: {fileName: a.txt}}}}` -/
def cATxtBelow : Cons := .mk .none .nil .nil noFlat .nil .nil (.mk noD .nil (fileNamed sATxt) .nil)

/-- p1 has a claim; p2 has no claim at all; p3 has a claim and is deleted -/
def wDeleted : World :=
  { blobs := [pnBlob 1, pnBlob 2, pnBlob 3],
    claims := [⟨mkRef 1, .add, sTag, sX, 10, false⟩, ⟨mkRef 3, .add, sTag, sX, 11, false⟩, ⟨mkRef 3, .delete, [], [], 12, false⟩],
    deleted := [mkRef 3], ctime := [], files := [], dirs := [] }

/-- p1 has tag x and no node type; p2 has node type tb; p3 had node type ta and now has tb -/
def wTypes : World :=
  { blobs := [pnBlob 1, pnBlob 2, pnBlob 3],
    claims := [⟨mkRef 1, .add, sTag, sX, 10, false⟩, ⟨mkRef 2, .set, sCamliNodeType, sTb, 11, false⟩,
               ⟨mkRef 3, .set, sCamliNodeType, sTa, 12, false⟩, ⟨mkRef 3, .set, sCamliNodeType, sTb, 13, false⟩],
    deleted := [], ctime := [], files := [], dirs := [] }

/-- p1 was of type ta from :20 to :40; p2 is of type ta for its owner – the del-attribute is somebody
else's; p3's only type claim is somebody else's -/
def wChurn : World :=
  { blobs := [pnBlob 1, pnBlob 2, pnBlob 3],
    claims := [⟨mkRef 1, .set, sCamliNodeType, sTa, 20, false⟩, ⟨mkRef 1, .del, sCamliNodeType, sTa, 40, false⟩,
               ⟨mkRef 2, .set, sCamliNodeType, sTa, 50, false⟩, ⟨mkRef 2, .del, sCamliNodeType, sTa, 60, true⟩,
               ⟨mkRef 3, .set, sCamliNodeType, sTa, 70, true⟩],
    deleted := [], ctime := [], files := [], dirs := [] }

/-- `{permanode: {attr: camliNodeType, value: ta, at: <t>}}` -/
def typeTaAt (t : Time) : Cons :=
  .mk .none .nil .nil noFlat (.mk { noP with attr := sCamliNodeType, value := sTa, atT := t } .nil none .nil .nil) .nil .nil

/-- `and(camliType=permanode, or(tag=x, camliNodeType=tb))` -/
def cTaggedOrTyped : Cons := logicalC .and isPermanode (logicalC .or (attrIs sTag sX) (attrIs sCamliNodeType sTb))


/-- **planner soundness** for the candidate sources that are not pre-sorted (node types, one
blob, files, by camliType, everything): every blob of the world that matches under the documented
meaning is enumerated.  Full strength: all worlds of sha224 refs, all constraints, all sorts. -/
theorem C08_planner_sound_unsorted (w : World) (hw : w.refsSha224 = true) (c : Cons) (sort : SortT) (b : BlobMeta)
    (hb : b ∈ w.blobs) (hm : matchesC gtbl w c b = true) (hs : (pickSource gtbl c sort).sorted = false) :
    b ∈ candidates w (pickSource gtbl c sort) :=
  planner_sound_unsorted gtbl w (prefixExact_of_refsSha224 gtbl C08_gen_sha224 w hw) c sort b hb hm hs

example : wTypes.refsSha224 = true ∧ pnBlob 1 ∈ wTypes.blobs ∧ matchesC gtbl wTypes cTaggedOrTyped (pnBlob 1) = true ∧
    (pickSource gtbl cTaggedOrTyped .unsorted).sorted = false := by decide +kernel

/-- the node-type source must offer a permanode that HAD the type at the time asked about, and one
whose type only somebody else removed: asked at :30, p1 (type deleted at :40) matches; asked now, p2
matches and p1, p3 do not; the source picked for an unsorted search is the per-type set, and it has
all of them -/
example : matchesC gtbl wChurn (typeTaAt 30) (pnBlob 1) = true ∧ matchesC gtbl wChurn (typeTaAt 0) (pnBlob 1) = false ∧
    matchesC gtbl wChurn (typeTaAt 0) (pnBlob 2) = true ∧ matchesC gtbl wChurn (typeTaAt 0) (pnBlob 3) = false ∧
    pickSource gtbl (typeTaAt 30) .unsorted = .types [sTa] ∧
    candidates wChurn (.types [sTa]) = [pnBlob 1, pnBlob 2, pnBlob 3] ∧
    (query gtbl wChurn ⟨typeTaAt 30, .unsorted, -1⟩).toOption = some (.types [sTa], [pnBlob 1]) ∧
    (query gtbl wChurn ⟨typeTaAt 0, .blobRefAsc, -1⟩).toOption = some (.types [sTa], [pnBlob 2]) ∧
    (query gtbl wChurn ⟨typeTaAt 45, .createdAsc, -1⟩).toOption = some (.types [sTa], []) := by decide +kernel

/-- what the sorted permanode enumerations know of a blob: it has claims, is not deleted and has
the time they sort by (corpus.go:1053-1059) -/
def knownToSorted (w : World) (src : Src) (b : BlobMeta) : Bool :=
  match src with
  | .lastmod => w.hasClaims b.ref && !w.isDeleted b.ref && w.modTime b.ref != 0
  | .created => w.hasClaims b.ref && !w.isDeleted b.ref && w.anyTime b.ref != 0
  | _ => true

/-- **planner soundness, all sources**: a matching blob is enumerated provided, when the source is
a pre-sorted permanode enumeration, that enumeration knows the blob -/
theorem C08_planner_sound_partial (w : World) (hw : w.refsSha224 = true) (c : Cons) (sort : SortT) (b : BlobMeta)
    (hb : b ∈ w.blobs) (hm : matchesC gtbl w c b = true)
    (hg : knownToSorted w (pickSource gtbl c sort) b = true) :
    b ∈ candidates w (pickSource gtbl c sort) := by
  cases hs : (pickSource gtbl c sort).sorted with
  | false => exact C08_planner_sound_unsorted w hw c sort b hb hm hs
  | true =>
    obtain ⟨_, hcase⟩ := pickSource_sorted gtbl c sort hs
    rcases hcase with ⟨_, h⟩ | ⟨_, h⟩ <;> rw [h] at hg ⊢ <;>
      exact mem_sortedPermanodes w b hb _ hg

example : knownToSorted wDeleted (pickSource gtbl isPermanode .createdDesc) (pnBlob 1) = true ∧
    (pickSource gtbl isPermanode .createdDesc).sorted = true := by decide +kernel

/-- the guard is needed: sorted by creation time, `camliType = permanode` is planned on the
pre-sorted enumeration, which has neither the permanode without claims nor the deleted one – both
match -/
theorem C08_planner_sound_counterexample :
    pickSource gtbl isPermanode .createdDesc = .created ∧
    matchesC gtbl wDeleted isPermanode (pnBlob 2) = true ∧ pnBlob 2 ∉ candidates wDeleted .created ∧
    matchesC gtbl wDeleted isPermanode (pnBlob 3) = true ∧ pnBlob 3 ∉ candidates wDeleted .created := by decide +kernel

/-- before the repair (query.go:368 `append(sa, sb...)`), `or(tag=x, camliNodeType=tb)` was planned
on the permanodes that ever had type tb: p1 (tag x, no type) matches and was not enumerated; the
repaired predicate does not restrict an `or` with an untyped branch -/
theorem C08_planner_or_untyped_oldcode_counterexample :
    matchesPermanodeTypesOld cTaggedOrTyped = [sTb] ∧
    matchesC gtbl wTypes cTaggedOrTyped (pnBlob 1) = true ∧ pnBlob 1 ∉ candidates wTypes (.types [sTb]) ∧
    matchesPermanodeTypes cTaggedOrTyped = [] := by decide +kernel


/-- **no blob is returned twice**, whatever the constraint, the sort, the limit and the matcher's
outcome (all worlds whose blobs have distinct refs) -/
theorem C08_no_duplicates (w : World) (hw : (w.blobs.map (·.ref)).Nodup) (q : Query) (src : Src) (res : List BlobMeta)
    (h : query gtbl w q = .ok (src, res)) : (res.map (·.ref)).Nodup :=
  query_nodup gtbl w q hw src res h

example : (wTypes.blobs.map (·.ref)).Nodup ∧
    (query gtbl wTypes ⟨cTaggedOrTyped, .blobRefAsc, -1⟩).toOption.map (fun p => p.2.length) = some 3 := by decide +kernel

/-- before the repair EnumeratePermanodesByNodeTypes made one pass per listed type (corpus.go:1110):
p3, which had type ta and has type tb, was sent twice for `or(type=ta, type=tb)`, and every
permanode of a type listed twice was sent twice -/
theorem C08_no_duplicates_oldcode_counterexample :
    candidatesTypesOld wTypes [sTa, sTb] = [pnBlob 3, pnBlob 2, pnBlob 3] ∧
    candidatesTypesOld wTypes [sTb, sTb] = [pnBlob 2, pnBlob 3, pnBlob 2, pnBlob 3] ∧
    candidates wTypes (.types [sTa, sTb]) = [pnBlob 2, pnBlob 3] := by decide +kernel


/-- **the compiled matcher computes the documented meaning** on every blob and from every scratch
state, for every constraint tree that
* dereferences no nil pointer (`deepValid`: checkValid only inspects the top struct),
* never iterates attribute values with a ValueInSet sub-constraint that asks for attribute values
  itself (`scratchSafe`: the scratch-slice defect),
* uses Contains / RecursiveContains in a documented shape, RecursiveContains alone in its
  DirConstraint (`dirSafe`: the recursiveContains defect),
in every world without dangling claim targets (`noDangling`: the relation defect) whose directories
have a FileInfo. -/
theorem C08_matcher_eq_matches_partial (w : World) (hd : w.noDangling gtbl = true) (hi : w.dirsHaveInfo = true)
    (c : Cons) (hn : c.isNil = false) (hv : deepValid c = true) (hs : scratchSafe c = true) (hds : dirSafe c = true)
    (b : BlobMeta) (st : St) : ∃ st', matchC gtbl w c b st = .ok (matchesC gtbl w c b, st') :=
  matcher_ok gtbl w hd hi c hn hv hs hds b st

example : wMembers.noDangling gtbl = true ∧ wMembers.dirsHaveInfo = true ∧ cMemberIsPermanode.isNil = false ∧
    deepValid cMemberIsPermanode = true ∧ scratchSafe cMemberIsPermanode = true ∧ dirSafe cMemberIsPermanode = true ∧
    matchesC gtbl wMembers cMemberIsPermanode (pnBlob 1) = true := by decide +kernel

example : wDirs.noDangling gtbl = true ∧ wDirs.dirsHaveInfo = true ∧ deepValid cATxtBelow = true ∧
    scratchSafe cATxtBelow = true ∧ dirSafe cATxtBelow = true ∧
    matchesC gtbl wDirs cATxtBelow ⟨mkRef 3, sDirectory, 60⟩ = true := by decide +kernel

/-- the scratch slice: p1's second member p3 has tag x, so p1 matches `camliMember valueInSet
tag=x`; but matching the first member p2 (two tags) overwrote the slice that holds p1's members,
the second value read is "z", and the matcher answers no (query.go:1733, :1853, :1901) -/
theorem C08_matcher_scratch_counterexample :
    scratchSafe cMemberTaggedX = false ∧
    matchesC gtbl wMembers cMemberTaggedX (pnBlob 1) = true ∧
    (matchC gtbl wMembers cMemberTaggedX (pnBlob 1) St.init).toOption.map (·.1) = some false := by decide +kernel

/-- a dangling relation target: p2 has the permanode p1 as a child and matches; evaluating p1, whose
only member is not a blob of the world, makes the whole query fail (query.go:912-915) -/
theorem C08_matcher_relation_dangling_counterexample :
    wDangling.noDangling gtbl = false ∧
    matchesC gtbl wDangling cHasPermanodeChild (pnBlob 2) = true ∧
    matchesC gtbl wDangling cHasPermanodeChild (pnBlob 1) = false ∧
    errOf (matchC gtbl wDangling cHasPermanodeChild (pnBlob 1) St.init) = some .relNotExist ∧
    errOf (query gtbl wDangling ⟨cHasPermanodeChild, .unsorted, -1⟩) = some .relNotExist ∧
    specResult gtbl wDangling ⟨cHasPermanodeChild, .unsorted, -1⟩ = [pnBlob 2] := by decide +kernel

/-- recursiveContains: `top` has a.txt two levels down and is named top, so it matches; the
recursion re-applies the whole DirConstraint – fileName = top – to the intermediate directory
`sub`, and the matcher answers no (query.go:2194) -/
theorem C08_matcher_recursiveContains_counterexample :
    dirSafe cTopWithATxtBelow = false ∧
    matchesC gtbl wDirs cTopWithATxtBelow ⟨mkRef 3, sDirectory, 60⟩ = true ∧
    (matchC gtbl wDirs cTopWithATxtBelow ⟨mkRef 3, sDirectory, 60⟩ St.init).toOption.map (·.1) = some false := by decide +kernel


/-- the guards of the matcher theorem, together -/
structure MatcherGuards (w : World) (c : Cons) : Prop where
  noDangling : w.noDangling gtbl = true
  dirsHaveInfo : w.dirsHaveInfo = true
  deepValid : deepValid c = true
  scratchSafe : scratchSafe c = true
  dirSafe : dirSafe c = true

/-- **a query returns the first `limit` of all matching blobs, in the order of the sort**:
`query w q = take limit (sortBy q.sort (filter (matches w q.c) allBlobs))`, for all worlds of
sha224 refs, all valid constraints, all supported sort/constraint combinations and all limits –
under the guards of the matcher theorem and, when the sort is by time, when every matching blob is
a permanode the sorted enumerations know (`timedOK`: the sorted-source defect and the CreatedAsc
error) -/
theorem C08_query_eq_spec_partial (w : World) (hw : w.refsSha224 = true) (q : Query)
    (hvalid : validC q.c = true) (hnil : q.c.isNil = false) (hg : MatcherGuards w q.c)
    (hsup : q.supported = true) (htimed : q.timeSorted = true → timedOK gtbl w q.c = true) :
    query gtbl w q = .ok (pickSource gtbl q.c q.plannedSort, specResult gtbl w q) :=
  query_eq_spec gtbl w q (prefixExact_of_refsSha224 gtbl C08_gen_sha224 w hw) hvalid hnil
    (matcher_ok gtbl w hg.noDangling hg.dirsHaveInfo q.c hnil hg.deepValid hg.scratchSafe hg.dirSafe) hsup htimed

example : wTypes.refsSha224 = true ∧ validC cTaggedOrTyped = true ∧
    (⟨cTaggedOrTyped, .createdDesc, 2⟩ : Query).supported = true ∧ timedOK gtbl wTypes cTaggedOrTyped = true ∧
    wTypes.noDangling gtbl = true ∧ wTypes.dirsHaveInfo = true ∧ deepValid cTaggedOrTyped = true ∧
    scratchSafe cTaggedOrTyped = true ∧ dirSafe cTaggedOrTyped = true ∧
    specResult gtbl wTypes ⟨cTaggedOrTyped, .createdDesc, 2⟩ = [pnBlob 3, pnBlob 2] := by decide +kernel

/-- the time guard is needed: of the three permanodes that match `camliType = permanode` the query
sorted by creation time returns one (the pre-sorted enumeration has neither the permanode without
claims nor the deleted one), and sorted oldest-first it fails: "no ctime or modtime found" -/
theorem C08_query_eq_spec_counterexample :
    timedOK gtbl wDeleted isPermanode = false ∧
    specResult gtbl wDeleted ⟨isPermanode, .createdDesc, -1⟩ = [pnBlob 3, pnBlob 1, pnBlob 2] ∧
    (query gtbl wDeleted ⟨isPermanode, .createdDesc, -1⟩).toOption = some (.created, [pnBlob 1]) ∧
    (query gtbl wDeleted ⟨isPermanode, .lastModDesc, -1⟩).toOption = some (.lastmod, [pnBlob 1]) ∧
    errOf (query gtbl wDeleted ⟨isPermanode, .createdAsc, -1⟩) = some .noTime := by decide +kernel

/-- **the result set does not depend on the sort**: without a limit, two supported sorts give
permutations of the same result (same guards) -/
theorem C08_sort_independent_partial (w : World) (hw : w.refsSha224 = true) (c : Cons) (s1 s2 : SortT)
    (hvalid : validC c = true) (hnil : c.isNil = false) (hg : MatcherGuards w c)
    (h1 : (⟨c, s1, -1⟩ : Query).supported = true) (h2 : (⟨c, s2, -1⟩ : Query).supported = true)
    (htimed : timedOK gtbl w c = true) :
    ∃ src1 src2 r1 r2, query gtbl w ⟨c, s1, -1⟩ = .ok (src1, r1) ∧ query gtbl w ⟨c, s2, -1⟩ = .ok (src2, r2) ∧
      r1.Perm r2 := by
  have e1 := C08_query_eq_spec_partial w hw ⟨c, s1, -1⟩ hvalid hnil hg h1 (fun _ => htimed)
  have e2 := C08_query_eq_spec_partial w hw ⟨c, s2, -1⟩ hvalid hnil hg h2 (fun _ => htimed)
  refine ⟨_, _, _, _, e1, e2, ?_⟩
  have hl : ∀ s : SortT, ¬ ((⟨c, s, -1⟩ : Query).plannedLimit > 0) := by intro s; simp [Query.plannedLimit]
  simp only [specResult, hl, decide_false, Bool.and_false, Bool.false_eq_true, if_false]
  exact (isort_perm _ _).trans (isort_perm _ _).symm

/-- the sort decides what is found: unsorted, `camliType = permanode` returns three permanodes;
sorted by creation or modification time, one -/
theorem C08_sort_independent_counterexample :
    (query gtbl wDeleted ⟨isPermanode, .unsorted, -1⟩).toOption.map (fun p => p.2.length) = some 3 ∧
    (query gtbl wDeleted ⟨isPermanode, .unspec, -1⟩).toOption.map (fun p => p.2.length) = some 1 ∧
    (query gtbl wDeleted ⟨isPermanode, .lastModDesc, -1⟩).toOption.map (fun p => p.2.length) = some 1 := by decide +kernel

/-- **the result is the first N of the full ordered result**, said without reference to how ties
are broken: together with some `rest` the result is a permutation of all matching blobs, nothing
in `result ++ rest` comes strictly before something earlier, and `rest` is empty unless the limit
was reached.  This is about `specResult` alone: combine it with `C08_query_eq_spec_partial`. -/
theorem C08_result_first_n (w : World) (q : Query) :
    ∃ rest, (specResult gtbl w q ++ rest).Perm (w.blobs.filter (matchesC gtbl w q.c)) ∧
      SortedBy (specLt w q.plannedSort) (specResult gtbl w q ++ rest) ∧
      (rest ≠ [] → q.plannedSort ≠ .map ∧ q.plannedLimit > 0 ∧ (specResult gtbl w q).length = q.plannedLimit.toNat) := by
  have hp := isort_perm (specLt w q.plannedSort) (w.blobs.filter (matchesC gtbl w q.c))
  have hs := isort_sorted (sw_specLt w q.plannedSort) (w.blobs.filter (matchesC gtbl w q.c))
  unfold specResult
  dsimp only
  generalize isort _ _ = all at hp hs ⊢
  split
  · rename_i hc
    simp only [Bool.and_eq_true, bne_iff_ne, ne_eq, decide_eq_true_eq] at hc
    refine ⟨all.drop q.plannedLimit.toNat, by rwa [List.take_append_drop], by rwa [List.take_append_drop],
      fun hne => ⟨hc.1, hc.2, ?_⟩⟩
    rw [List.length_take, Nat.min_eq_left]
    exact Nat.le_of_lt (Nat.lt_of_not_le fun hle => hne (List.drop_eq_nil_of_le hle))
  · exact ⟨[], by rwa [List.append_nil], by rwa [List.append_nil], fun h => absurd rfl h⟩

end Pk.Search
