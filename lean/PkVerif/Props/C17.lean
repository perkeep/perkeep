import PkVerif.Lemmas.Share
import PkVerif.Gen.C17
/-!
# C17 – without credentials, blobs are reachable only through a valid share chain

`Pk.Share.handleGetViaSharing` / `bytesHaveSchemaLink` model
pkg/server/share.go (after the repair of F-C17-1), `Pk.Share.ValidChain` / `Link`
(PkVerif/Spec/Share.lean) are the specification.  All theorems of the first part hold for **every**
store (any graph, cyclic or dangling ones included), every deletion lookup, every clock, and every
request chain of any length.  The second part is about the regenerated guard tables of
pkg/serverinit/serverinit.go (`Pk.Gen`, group C17).
-/
namespace Pk.Share

/-! ## a concrete world for the non-vacuity examples -/

/-- `1` transitive share of directory `2`; `2` directory with entries `3`; `3` a large static set
whose members live in the sub-set `4` (`mergeSets`); `4` static set with member `5`; `5` file with
parts `6` (a raw blob that mentions `9`); `7` non-transitive share of `5`; `8` expired share;
`9` a secret raw blob; `10` a claim that merely mentions `9`; `11` transitive share of `10` -/
def exStore : Store := fun r =>
  match r with
  | 1 => some ⟨.share (some 2) true none, []⟩
  | 2 => some ⟨.directory 3, [9]⟩
  | 3 => some ⟨.staticSet [] [4], []⟩
  | 4 => some ⟨.staticSet [5] [], []⟩
  | 5 => some ⟨.file [6], []⟩
  | 6 => some ⟨.raw [9], []⟩
  | 7 => some ⟨.share (some 5) false (some 2000), []⟩
  | 8 => some ⟨.share (some 5) true (some 500), []⟩
  | 9 => some ⟨.raw [], []⟩
  | 10 => some ⟨.other [9], []⟩
  | 11 => some ⟨.share (some 10) true none, []⟩
  | _ => none

/-- nothing deleted except share `12` (which does not even exist) -/
def exEnv : Env := ⟨exStore, fun r => r == 12, 1000⟩

/-! ## soundness: whatever is served was asked for through a valid chain -/

/-- **Soundness.** If a request to the share handler obtains the contents of a blob `r` (plain or
assembled), then the method was GET/HEAD, every `via` element was a well-formed ref, `r` is the
requested blob, and the request's chain `via ++ [blobRef]` is a `ValidChain`: it starts at an
existing, undeleted, unexpired share claim and asks for the claim itself, or hops to exactly its
target and (transitive shares only) continues through genuine schema links. -/
theorem C17_sound (e : Env) (isGet : Bool) (via : List (Option Ref)) (blobRef : Ref)
    (assemble : Bool) (r : Ref)
    (h : (handleGetViaSharing e isGet via blobRef assemble).served = some r) :
    isGet = true ∧ r = blobRef ∧
      ∃ vb, via = vb.map some ∧ ValidChain e (vb ++ [blobRef]) := by
  have ⟨hg, hr, vb, hvia, hv, _⟩ :=
    handleWith_sound _ (fun s t => (bytesHaveSchemaLink_iff s t).1) e isGet via blobRef assemble r h
  exact ⟨hg, hr, vb, hvia, hv⟩

example : (handleGetViaSharing exEnv true [some 1, some 2, some 3, some 4, some 5] 6 false).served = some 6 := by
  decide

/-- an assembled file (`assemble=1`, served by the download handler, which reads the blobs the file
links to) is only served for a chain that starts at a *transitive* share … -/
theorem C17_assemble_sound (e : Env) (isGet : Bool) (via : List (Option Ref)) (blobRef r : Ref)
    (h : handleGetViaSharing e isGet via blobRef true = .serveFile r) :
    ∃ vb, via = vb.map some ∧ ValidChain e (vb ++ [blobRef]) ∧ StartsTransitive e (vb ++ [blobRef]) := by
  have ⟨_, _, vb, hvia, hv, ht⟩ := handleWith_sound _ (fun s t => (bytesHaveSchemaLink_iff s t).1)
    e isGet via blobRef true r (congrArg Outcome.served h)
  exact ⟨vb, hvia, hv, ht rfl⟩

example : handleGetViaSharing exEnv true [some 1, some 2, some 3, some 4] 5 true = .serveFile 5 := by decide

/-- … and everything such a file links to is itself reachable by a valid chain: a valid chain of
length ≥ 2 from a transitive share extends along every genuine link of its last blob -/
theorem C17_transitive_extends (e : Env) (c0 c1 : Ref) (more : List Ref) (b : Ref)
    (hv : ValidChain e (c0 :: c1 :: more)) (ht : StartsTransitive e (c0 :: c1 :: more))
    (hl : Link e.store ((c1 :: more).getLast (by simp)) b) :
    ValidChain e (c0 :: c1 :: (more ++ [b])) := by
  obtain ⟨s0, tgt, exp, hs, hb⟩ := ht
  obtain ⟨hd, hu, h | ⟨_, _, h, htgt, hm⟩⟩ := validChain_head hv hs hb <;> cases h
  refine ⟨s0, tgt, true, exp, hs, hb, hd, hu, .inr ⟨c1, more ++ [b], rfl, htgt, .inr ⟨rfl, ?_⟩⟩⟩
  rw [linkPath_append]
  exact ⟨hm.elim (fun e => by simp [e, LinkPath]) And.right, hl⟩

/-! ## completeness: every blob reachable through a valid chain is served -/

/-- **Completeness.** Every GET/HEAD request whose chain is a `ValidChain` is handed to
`ServeBlobRef` for the requested blob – for chains of any length and any kind of genuine link,
`mergeSets` sub-sets of large static sets included (that hop was refused before the repair:
`C17_old_mergeSets_counterexample`). -/
theorem C17_complete (e : Env) (vb : List Ref) (blobRef : Ref)
    (h : ValidChain e (vb ++ [blobRef])) :
    handleGetViaSharing e true (vb.map some) blobRef false = .serveBlob blobRef := by
  rw [chain_split] at h
  obtain ⟨tr, hvf⟩ := (validChain_iff_validFrom e _ _).1 h
  have hv := validateWith_ok_complete bytesHaveSchemaLink (fun s t => (bytesHaveSchemaLink_iff s t).2) e _ _ tr hvf
  unfold handleGetViaSharing handleWith
  simp [parseVia_map_some, hv, finish]

/-- the hypothesis of `C17_complete` is satisfiable by a five-hop chain through a directory, a
merge set, a static set and a file -/
example : ValidChain exEnv ([1, 2, 3, 4, 5] ++ [6]) :=
  validChain_of_validateWith (fun s t => (bytesHaveSchemaLink_iff s t).1)
    (c0 := 1) (rest := [2, 3, 4, 5, 6]) (tr := true) rfl

/-- completeness for assembled downloads: a valid chain from a transitive share -/
theorem C17_complete_assemble (e : Env) (vb : List Ref) (blobRef : Ref)
    (h : ValidChain e (vb ++ [blobRef])) (ht : StartsTransitive e (vb ++ [blobRef])) :
    handleGetViaSharing e true (vb.map some) blobRef true = .serveFile blobRef := by
  rw [chain_split] at h ht
  obtain ⟨s0, tgt, exp, hs, hb⟩ := ht
  have hv := validateWith_ok_complete bytesHaveSchemaLink (fun s t => (bytesHaveSchemaLink_iff s t).2) e _ _ true
    ⟨s0, tgt, exp, hs, hb, validChain_head h hs hb⟩
  unfold handleGetViaSharing handleWith
  simp [parseVia_map_some, hv, finish]

/-- **The HTTP view of both directions.** A request that is not an `assemble` request is answered
`200` (by `ServeBlobRef`, with the bytes of the requested blob) if and only if it is a GET/HEAD
whose path and via elements are well-formed refs, whose chain is valid and whose requested blob
exists in the store. -/
theorem C17_status_200_iff (e : Env) (isGet : Bool) (path : Option Ref) (via : List (Option Ref)) :
    httpStatus e.store (serveHTTP e isGet path via false) = some 200 ↔
      isGet = true ∧ ∃ r vb, path = some r ∧ via = vb.map some ∧
        ValidChain e (vb ++ [r]) ∧ (e.store r).isSome = true := by
  constructor
  · intro h
    cases path with
    | none => simp [serveHTTP, httpStatus, ErrorCode.status] at h
    | some r =>
      simp only [serveHTTP] at h
      cases ho : handleGetViaSharing e isGet via r false with
      | refused c => rw [ho] at h; cases c <;> cases h
      | serveFile r' => rw [ho] at h; cases h
      | serveBlob r' =>
        obtain ⟨hg, rfl, vb, hvia, hvalid⟩ := C17_sound e isGet via r false r' (by rw [ho]; rfl)
        refine ⟨hg, r', vb, rfl, hvia, hvalid, ?_⟩
        simp only [ho, httpStatus] at h
        split at h
        · assumption
        · cases h
  · rintro ⟨rfl, r, vb, rfl, rfl, hvalid, hex⟩
    simp [serveHTTP, C17_complete e vb r hvalid, httpStatus, hex]

example : httpStatus exEnv.store (serveHTTP exEnv true (some 5) [some 7] false) = some 200 := by decide

/-- a refusal is a 400 or a 401 and never serves anything -/
theorem C17_refused_status (st : Store) (c : ErrorCode) :
    httpStatus st (.refused c) = some 400 ∨ httpStatus st (.refused c) = some 401 := by
  cases c <;> simp [httpStatus, ErrorCode.status]


/-- a deleted share claim at the head of the chain: `shareDeleted`, whatever follows -/
theorem C17_deleted_share_refused (e : Env) (vb : List Ref) (blobRef : Ref) (assemble : Bool)
    (hd : e.deleted (chainHead vb blobRef) = true) :
    handleGetViaSharing e true (vb.map some) blobRef assemble = .refused .shareDeleted := by
  unfold handleGetViaSharing handleWith
  simp [parseVia_map_some, validateWith, hd]

example : handleGetViaSharing exEnv true ([12].map some) 5 false = .refused .shareDeleted := by decide

/-- an expired share serves nothing, not even itself -/
theorem C17_expired_share_refused (e : Env) (vb : List Ref) (blobRef : Ref) (assemble : Bool)
    (s0 : Stored) (tgt : Option Ref) (tr : Bool) (t : Nat)
    (hs : e.store (chainHead vb blobRef) = some s0) (hb : s0.blob = .share tgt tr (some t))
    (hexp : t < e.now) :
    (handleGetViaSharing e true (vb.map some) blobRef assemble).served = none := by
  cases hd : e.deleted (chainHead vb blobRef) <;>
    simp [handleGetViaSharing, handleWith, parseVia_map_some, validateWith, hd, hs, hb, isExpired, hexp,
      Outcome.served]

example : (handleGetViaSharing exEnv true [some 8] 5 false) = .refused .shareExpired := by decide

/-- a non-transitive share gives its target and nothing behind it -/
theorem C17_nontransitive_no_second_hop (e : Env) (c0 c1 c2 : Ref) (more : List Ref)
    (s0 : Stored) (tgt : Option Ref) (exp : Option Nat)
    (hs : e.store c0 = some s0) (hb : s0.blob = .share tgt false exp) :
    ¬ ValidChain e (c0 :: c1 :: c2 :: more) := by
  intro hv
  obtain ⟨_, _, h | ⟨_, _, h, _, hm | ⟨htr, _⟩⟩⟩ := validChain_head hv hs hb
  · cases h
  · cases h; cases hm
  · cases htr

example : handleGetViaSharing exEnv true [some 7, some 5] 6 false = .refused .shareNotTransitive := by decide

/-- a blob that merely mentions a ref (a claim's value, a raw blob's text, a share's target, a
non-link field) does not link to it: no valid chain hops out of such a blob -/
theorem C17_mention_is_not_link (st : Store) (a b : Ref) (s : Stored) (hs : st a = some s)
    (hk : (∃ ms, s.blob = .other ms) ∨ (∃ ms, s.blob = .raw ms) ∨ (∃ t tr ex, s.blob = .share t tr ex)) :
    ¬ Link st a b := by
  rintro ⟨s', hs', hm⟩
  rw [hs] at hs'; cases hs'
  rcases hk with ⟨ms, h⟩ | ⟨ms, h⟩ | ⟨t, tr, ex, h⟩ <;> simp [h, links] at hm

/-- … e.g. the transitive share `11` of claim `10`, which mentions the secret `9`; and directory `2`
that names `9` outside its `entries` -/
example : handleGetViaSharing exEnv true [some 11, some 10] 9 false = .refused .viaChainInvalidLink := by decide
example : handleGetViaSharing exEnv true [some 1, some 2] 9 false = .refused .viaChainInvalidLink := by decide

/-! ## the defect that was repaired (F-C17-1) -/

/-- before the repair `bytesHaveSchemaLink` looked at `members` of a static set only: the valid chain
share → directory → large static set → its sub-set was refused (401), i.e. a shared directory with
more than `maxStaticSetMembers` entries could not be fetched -/
theorem C17_old_mergeSets_counterexample :
    ValidChain exEnv ([1, 2, 3] ++ [4]) ∧
    handleGetViaSharingOld exEnv true ([1, 2, 3].map some) 4 false = .refused .viaChainInvalidLink ∧
    handleGetViaSharing exEnv true ([1, 2, 3].map some) 4 false = .serveBlob 4 := by
  refine ⟨?_, by decide, by decide⟩
  exact validChain_of_validateWith (fun s t => (bytesHaveSchemaLink_iff s t).1)
    (c0 := 1) (rest := [2, 3, 4]) (tr := true) rfl

/-- the old check was still sound: whatever it served was asked for through a valid chain -/
theorem C17_old_sound (e : Env) (isGet : Bool) (via : List (Option Ref)) (blobRef : Ref)
    (assemble : Bool) (r : Ref)
    (h : (handleGetViaSharingOld e isGet via blobRef assemble).served = some r) :
    ∃ vb, via = vb.map some ∧ ValidChain e (vb ++ [blobRef]) := by
  have ⟨_, _, vb, hvia, hv, _⟩ :=
    handleWith_sound _ bytesHaveSchemaLinkOld_sound e isGet via blobRef assemble r h
  exact ⟨vb, hvia, hv⟩

/-! ## every other endpoint refuses unauthenticated requests -/

/-- handler types that `handlerTypeWantsAuth` deliberately leaves to guard themselves:
* `share` – the subject of the first part: serves only valid share chains;
* `root`  – pkg/server/root.go: discovery is served only if `auth.Allowed(r, OpDiscovery)`, everything
  else is a static landing page / redirect / 404 that reads no blob and no status;
* `app`   – pkg/server/app: a reverse proxy to an app process that enforces its own auth mode
  (`auth.AddMode(ap.AuthMode())`); its config / master-query / search endpoints check `a.auth`. -/
def selfGuarded : List String := ["share", "root", "app"]

/-- the hypothesis on the tables: every configurable handler type wants auth or is self-guarded -/
def TableCovers (authTypes handlerTypes : List String) : Prop :=
  ∀ t ∈ handlerTypes, t ∈ authTypes ∨ t ∈ selfGuarded

/-- whatever the configuration: for every storage and for every handler type of the table other than
the self-guarded ones, internal or not, a request without credentials does not get past what
`setupHandler` installs in front of it (401) -/
theorem C17_endpoints_guarded (authTypes handlerTypes : List String)
    (hc : TableCovers authTypes handlerTypes) (t : HType) (internal : Bool)
    (ht : match t with
          | .storage _ => True
          | .handler h => h ∈ handlerTypes ∧ h ∉ selfGuarded) :
    guardPasses (installedGuard authTypes t internal) false = some false := by
  cases t with
  | storage s => cases internal <;> simp [installedGuard, guardPasses]
  | handler h =>
    obtain ⟨hm, hn⟩ := ht
    have : h ∈ authTypes := (hc h hm).resolve_right hn
    cases internal <;> simp [installedGuard, guardPasses, this]

example : guardPasses (installedGuard Gen.authHandlerTypes (.handler "search") false) false = some false := by decide

/-- obligation on the regenerated tables: `handlerTypeWantsAuth` covers every registered handler type
except `share`, `root`, `app` -/
theorem C17_gen_table_covers : TableCovers Gen.authHandlerTypes Gen.handlerTypes := by
  unfold TableCovers; decide +kernel

/-- the guard that the running code installs, on the tables as they are in /repo -/
theorem C17_gen_endpoints_guarded (t : HType) (internal : Bool)
    (ht : match t with
          | .storage _ => True
          | .handler h => h ∈ Gen.handlerTypes ∧ h ∉ selfGuarded) :
    guardPasses (installedGuard Gen.authHandlerTypes t internal) false = some false :=
  C17_endpoints_guarded _ _ C17_gen_table_covers t internal ht

/-- the shape of `setupHandler` that `installedGuard` models: storages get `unauthorizedHandler{}`
(internal) or only `prefix+"camli/"` = `makeCamliHandler`; other handlers get
`unauthorizedHandler{}` (internal), else the `PrefixHandler`, wrapped in `auth.Handler` exactly
when `handlerTypeWantsAuth(h.htype)` -/
theorem C17_gen_setup_shape :
    Gen.storageTypePrefix = "storage-" ∧
    Gen.setupInstalls = [
      (["after, ok0 := strings.CutPrefix(h.htype, \"storage-\"); ok0", "h.internal"], "prefix", "unauthorizedHandler{}"),
      (["after, ok0 := strings.CutPrefix(h.htype, \"storage-\"); ok0", "!(h.internal)"], "prefix + \"camli/\"",
        "makeCamliHandler(prefix, hl.baseURL, pstorage, hl)"),
      ([], "prefix", "wrappedHandler")] ∧
    Gen.setupWrapAssigns = [
      (["h.internal"], "unauthorizedHandler{}"),
      (["!(h.internal)"], "&httputil.PrefixHandler{Prefix: prefix, Handler: hh}"),
      (["!(h.internal)", "handlerTypeWantsAuth(h.htype)"], "auth.Handler{Handler: wrappedHandler}")] :=
  ⟨rfl, rfl, rfl⟩

/-- every request that `makeCamliHandler` answers goes through `auth.RequireAuth`, except the
`unsupportedHandler` answer (400, touches no storage) for a path without `/camli/` -/
theorem C17_gen_camli_guarded :
    ∀ c ∈ Gen.camliServeCalls, c.2 = true ∨ c.1 = "unsupportedHandler" := by decide +kernel

/-- every fixed endpoint that `InstallHandlers` adds (`/debug/…`: expvar status, profiles, goroutine
dumps, the configuration, logs) is wrapped in `auth.RequireAuth` (F-C17-2 repaired: `/debug/vars`
and `/debug/pprof/` were not) -/
theorem C17_gen_fixed_endpoints_guarded : ∀ p ∈ Gen.fixedEndpoints, p.2 = true := by decide

example : Gen.fixedEndpoints ≠ [] := by decide

end Pk.Share
