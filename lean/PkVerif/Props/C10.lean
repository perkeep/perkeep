import PkVerif.Lemmas.SortedBuffer
import PkVerif.Gen.Facts
/-!
# C10 – every sorted key/value store is a byte-ordered map with atomic batches

* `Pk.SortedKV` (Spec/SortedKV.lean) is the contract: a strictly ascending association list over
  byte strings with `get / set / erase / batch / find[start,end)`; the size limits are the regenerated
  `Pk.Gen.maxKeySize / maxValueSize` (`glim`), every law is proved for arbitrary limits.
* `Pk.SortedBuffer` (Model/SortedBuffer.lean) models pkg/sorted/buffer/buffer.go over two such
  stores, the two-way merge iterator step by step.  `C10_buffer_refines` is the refinement theorem at
  full strength (all histories, all keys including the empty one, every `maxBuffer`); it holds for
  the code after `fix:` a9fb580 (and 35f9fac, which is invisible to the map semantics) – the iterator as it was before is kept as `Iter.nextOld` and refuted
  by the two `…_counterexample` theorems.
* memory / leveldb / kvfile / sqlite have no internal model: the harness compares them with
  `specStep` through the line protocol (translation validation, not proof), including close/reopen.
-/
namespace Pk.SortedKV
open Pk Pk.SortedBuffer

/-- the regenerated `MaxKeySize` / `MaxValueSize` -/
def glim : Limits := ⟨Gen.maxKeySize, Gen.maxValueSize⟩

/-! ## the contract -/

/-- every operation keeps the keys strictly ascending (so a store never holds a key twice) -/
theorem C10_wf_preserved (L : Limits) (m : KV) (hw : WF m) (o : Op) : WF (specStep L m o).1 :=
  wf_specStep L hw o

example : WF [([], [1]), ([0], []), ([97], [2]), ([97, 0], [3]), ([255], [])] := by decide

/-- strictly ascending in the sense of Base/Order.lean -/
theorem C10_wf_is_asc (m : KV) : WF m ↔ Asc ltB (keys m) := wf_iff_asc m

/-- a well-formed store is determined by what `get` answers: equality of stores below is
observational equality -/
theorem C10_store_determined_by_get (a b : KV) (ha : WF a) (hb : WF b)
    (h : ∀ k, get a k = get b k) : a = b := ext_get ha hb h

/-- get-after-set: the value just set, unless the pair is over the limits, in which case nothing
changed; other keys are untouched -/
theorem C10_get_after_set (L : Limits) (m : KV) (k v x : Bytes) :
    get (set L m k v) x = if okSizes L k v = true ∧ k = x then some v else get m x :=
  get_set L m k v x

example : get (set glim [([97], [1])] [97] [2]) [97] = some [2] := by decide

/-- get-after-delete: not found; other keys are untouched -/
theorem C10_get_after_delete (m : KV) (k x : Bytes) :
    get (erase k m) x = if k = x then none else get m x := get_erase k m x

/-- a key or value over the limits is silently skipped by `Set` -/
theorem C10_oversize_set_skipped (L : Limits) (m : KV) (k v : Bytes)
    (h : L.maxKey < k.length ∨ L.maxVal < v.length) : set L m k v = m := by
  have : okSizes L k v = false := by
    simp only [okSizes, Bool.and_eq_false_iff, decide_eq_false_iff_not]
    rcases h with h | h
    · exact Or.inl (by omega)
    · exact Or.inr (by omega)
  simp [set, this]

example : (2 : Nat) < ([1, 2, 3] : Bytes).length ∨ (0 : Nat) < ([] : Bytes).length := by decide

/-- the size guard is sharp: exactly `maxKey` / `maxVal` bytes are stored -/
theorem C10_size_boundary (L : Limits) (m : KV) (k v : Bytes)
    (hk : k.length = L.maxKey) (hv : v.length = L.maxVal) : get (set L m k v) k = some v := by
  rw [get_set]; simp [okSizes, hk, hv]

/-- on the regenerated limits: a key of `MaxKeySize` bytes with a value of `MaxValueSize` bytes is
stored, one byte more of either is skipped -/
theorem C10_gen_limits_boundary (m : KV) (a b : Nat) :
    get (set glim m (List.replicate Gen.maxKeySize a) (List.replicate Gen.maxValueSize b))
        (List.replicate Gen.maxKeySize a) = some (List.replicate Gen.maxValueSize b) ∧
    set glim m (List.replicate (Gen.maxKeySize + 1) a) [] = m ∧
    set glim m [a] (List.replicate (Gen.maxValueSize + 1) b) = m := by
  refine ⟨C10_size_boundary glim m _ _ (by simp [glim]) (by simp [glim]), ?_, ?_⟩
  · exact C10_oversize_set_skipped glim m _ _ (Or.inl (by simp [glim]))
  · exact C10_oversize_set_skipped glim m _ _ (Or.inr (by simp [glim]))

/-- the generated limits are usable (a zero limit would make every non-empty key oversize) -/
theorem C10_gen_limits_positive : 0 < glim.maxKey ∧ 0 < glim.maxVal := by decide

/-- a committed batch is the in-order fold of its mutations -/
theorem C10_batch_is_fold (L : Limits) (m : KV) (ms : List Mut) :
    batch L m ms = ms.foldl (applyMut L) m := batch_eq_foldl L m ms

/-- a committed batch being the in-order fold of its mutations, for every key the last mutation of the batch
that touches it decides (a set over the limits touches nothing), and untouched keys keep their value -/
theorem C10_batch_last_write_wins (L : Limits) (m : KV) (ms : List Mut) (x : Bytes) :
    get (batch L m ms) x = match lastWrite L ms x with
      | some r => r
      | none => get m x := get_batch L ms m x

example : get (batch glim [([98], [9])] [.set [97] [1], .del [97], .set [97] [2], .del [98]]) [97] = some [2] ∧
    get (batch glim [([98], [9])] [.set [97] [1], .del [97], .set [97] [2], .del [98]]) [98] = none := by decide

/-- an oversize set inside a batch is skipped, the rest of the batch is applied -/
theorem C10_oversize_in_batch_skipped (L : Limits) (m : KV) (pre post : List Mut) (k v : Bytes)
    (h : L.maxKey < k.length ∨ L.maxVal < v.length) :
    batch L m (pre ++ Mut.set k v :: post) = batch L m (pre ++ post) := by
  rw [batch_append, batch_append]
  simp only [batch, applyMut]
  rw [C10_oversize_set_skipped L _ k v h]

/-- a range scan returns exactly the rows whose key is in `[start, end)` (`end = ""`: unbounded),
with their current values -/
theorem C10_find_exact (m : KV) (hw : WF m) (s e k v : Bytes) :
    (k, v) ∈ find m s e ↔
      get m k = some v ∧ ltB k s = false ∧ (e = [] ∨ ltB k e = true) := by
  rw [mem_iff_get (wf_find hw s e), get_find]
  cases hr : inRange s e k with
  | true =>
    simp only [if_true]
    simp only [inRange, Bool.and_eq_true, Bool.not_eq_true', Bool.or_eq_true, List.isEmpty_iff] at hr
    exact ⟨fun h => ⟨h, hr.1, hr.2⟩, fun h => h.1⟩
  | false =>
    simp only [Bool.false_eq_true, if_false]
    constructor
    · intro h; cases h
    · intro ⟨_, h1, h2⟩
      have : inRange s e k = true := by
        simp only [inRange, Bool.and_eq_true, Bool.not_eq_true', Bool.or_eq_true, List.isEmpty_iff]
        exact ⟨h1, h2⟩
      rw [hr] at this; cases this

/-- a range scan returns its rows in strictly ascending byte order (hence each key once) -/
theorem C10_find_ascending (m : KV) (hw : WF m) (s e : Bytes) : Asc ltB (keys (find m s e)) :=
  (wf_iff_asc _).mp (wf_find hw s e)

example : find [([], [1]), ([97], [2]), ([97, 0], [3]), ([97, 255], [4]), ([98], [5])] [97] [97, 255]
    = [([97], [2]), ([97, 0], [3])] := by decide

/-- flush and close/reopen are no-ops of the contract (that the engines really keep their contents
across Close/reopen is checked on the real code by the correspondence, not proved) -/
theorem C10_reopen_flush_keep_contents (L : Limits) (m : KV) :
    (specStep L m .reopen).1 = m ∧ (specStep L m .flush).1 = m := ⟨rfl, rfl⟩

/-! ## the write buffer (pkg/sorted/buffer) -/

/-- the merge iterator, run as `for it.Next() {…}`, yields exactly the two-way merge of what the two
underlying iterators yield (buffer side first on equal keys) – for any rows, any fuel that is at
least the number of rows plus one -/
theorem C10_buffer_iter_is_merge (A B : KV) (n : Nat) (hn : A.length + B.length + 1 ≤ n) :
    (Iter.start A B).collect n = merge A B := collect_start A B n hn

/-- the fuel of `Buf.find` is a modelling device only: more fuel never yields more rows -/
theorem C10_buffer_find_fuel (A B : KV) (n : Nat) (hn : A.length + B.length + 1 ≤ n) :
    (Iter.start A B).collect n = (Iter.start A B).collect (A.length + B.length + 1) := by
  rw [collect_start A B n hn, collect_start A B _ (Nat.le_refl _)]

/-- the merge of two well-formed row lists is well-formed and looks a key up in the buffer side first -/
theorem C10_buffer_merge_shadows (A B : KV) (hA : WF A) (hB : WF B) :
    WF (merge A B) ∧ ∀ x, get (merge A B) x = (get A x).or (get B x) :=
  ⟨wf_merge hA hB, get_merge hA⟩

example : (Iter.start [([], [1]), ([98], [2])] [([97], [3]), ([98], [4])]).collect 5
    = [([], [1]), ([97], [3]), ([98], [2])] := by decide

/-- the iterator never calls `Next` again on an underlying iterator that has returned false
(kvfile's iterator panics on that) -/
theorem C10_buffer_iter_no_overrun (A B : KV) (n : Nat) :
    (Iter.finalWith Iter.next n (Iter.start A B)).buf.overrun = false ∧
    (Iter.finalWith Iter.next n (Iter.start A B)).back.overrun = false := by
  cases n with
  | zero => exact ⟨rfl, rfl⟩
  | succ n =>
    obtain ⟨hp, _⟩ := start_pos A B
    have key : ∃ A' B', Pos (Iter.finalWith Iter.next (n + 1) (Iter.start A B)) A' B' := by
      unfold Iter.finalWith
      split
      · exact final_pos n hp
      · exact ⟨A, B, hp⟩
    obtain ⟨A', B', h⟩ := key
    exact ⟨h.buf.1, h.back.1⟩

/-- **refinement**: a buffer whose two stores are related to a map `m` (`m` = backing store overlaid
with the buffer) answers every history of get/set/delete/batch/find/flush/reopen exactly as the map
does – for every key including the empty one, every `maxBuffer`, every flush pattern -/
theorem C10_buffer_refines (L : Limits) (b : Buf) (m : KV) (h : Rel L b.buf b.back m)
    (ops : List Op) : runBuf L b ops = runSpec L m ops := rel_run ops h

/-- the refinement holds in particular from `buffer.New` over two empty stores: every history is answered as
the empty map answers it -/
theorem C10_buffer_refines_from_new (L : Limits) (maxBuffer : Int) (ops : List Op) :
    runBuf L (Buf.new maxBuffer) ops = runSpec L [] ops := rel_run ops (rel_empty L)

/-- every state reached from `buffer.New` satisfies the simulation relation -/
theorem C10_buffer_reachable_related (L : Limits) (maxBuffer : Int) (ops : List Op) :
    Rel L (bufAfter L (Buf.new maxBuffer) ops).buf (bufAfter L (Buf.new maxBuffer) ops).back
      (specAfter L [] ops) := rel_after ops (rel_empty L)

/-- the hypothesis of `C10_buffer_refines` is met by a state with rows on both sides, a shadowed key
and the empty key: reached by the history below -/
example : ∃ b : Buf, ∃ m : KV, Rel glim b.buf b.back m ∧
    b.buf = [([], [7]), ([97], [2])] ∧ b.back = [([97], [1]), ([98], [3])] := by
  refine ⟨bufAfter glim (Buf.new 100) [.set [97] [1], .set [98] [3], .flush, .set [97] [2], .set [] [7]],
    specAfter glim [] [.set [97] [1], .set [98] [3], .flush, .set [97] [2], .set [] [7]],
    C10_buffer_reachable_related glim 100 _, ?_, ?_⟩ <;> decide +kernel

/-- flush is invisible: flushing at any moment changes no later answer -/
theorem C10_buffer_flush_invisible (L : Limits) (b : Buf) (m : KV) (h : Rel L b.buf b.back m)
    (ops : List Op) : runBuf L (b.flush L) ops = runBuf L b ops := by
  rw [rel_run ops (rel_flush h), rel_run ops h]

/-- `Flush` commits every batch it begins on the backing store (a begun, never committed batch keeps
a sqlkv transaction and its gate slot: every later operation blocks) -/
theorem C10_buffer_flush_commits_what_it_begins (b : Buf) :
    b.flushBatchCalls.1 = b.flushBatchCalls.2 := by
  unfold Buf.flushBatchCalls; split <;> rfl

/-- before fix 35f9fac a `Flush` of an empty buffer began a batch it never committed -/
theorem C10_buffer_old_flush_leaks_batch_counterexample :
    (Buf.new 100).flushBatchCallsOld = (1, 0) := by decide

/-- before fix a9fb580 the iterator lost a row: buffer `{"" ↦ 2}` over backing `{"a" ↦ 1}` scanned
as `{"" ↦ 2}` only (the empty cached key was taken for "not started yet") -/
theorem C10_buffer_old_iter_loses_row_counterexample :
    (Iter.start [([], [2])] [([97], [1])]).collectOld 3 = [([], [2])] ∧
    merge [([], [2])] [([97], [1])] = [([], [2]), ([97], [1])] := by
  refine ⟨by decide, ?_⟩
  rw [merge_cons_cons]; simp [ltB, merge_nil_left]

/-- before fix a9fb580 the iterator called `Next` again on the exhausted backing iterator: two
buffered rows over an empty backing store (kvfile panics there) -/
theorem C10_buffer_old_iter_overrun_counterexample :
    (Iter.finalWith Iter.nextOld 3 (Iter.start [([97], [1]), ([98], [2])] [])).back.overrun = true := by
  decide

end Pk.SortedKV
