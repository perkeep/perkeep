import PkVerif.Lemmas.JsonSign
import PkVerif.Gen.Facts
import PkVerif.Gen.C16
/-!
# C16 – signed schema blobs verify, and only untampered ones do

`Pk.JsonSign.*` models pkg/jsonsign (sign.go, verify.go) and the part of
encoding/json it relies on; OpenPGP is the abstract `Scheme` below: its correctness and
unforgeability are hypothesis FIELDS of the structure (never axioms), so every theorem reads
"for every signature scheme with these properties, for every environment, for every document …".

* `C16_gen_*`                        the literals of the source are those of the model, and VerifySignature
                                     rejects on ANY library error (regenerated facts)
* `C16_last_separator_is_the_appended_one`, `C16_split_signed`, `C16_sign_then_split`
                                     BP/BPJ/BS of a signed document are exactly what was signed, for ALL payloads
* `C16_signed_doc_is_json_with_original_fields`, `C16_signed_doc_lookup`
                                     the signed document is JSON: the original members, then camliSig
* `C16_sign_succeeds`, `C16_sign_brace_check_redundant`
                                     Sign succeeds on every valid object; its `}` test never fires
* `C16_sign_then_verify` (+ `C16_unversioned_signed_doc_rejected`: why its guard is needed)
* `C16_verify_sound`                 acceptance ⇒ the named key signed exactly BP
* `C16_payload_or_signer_change_rejected`, `C16_accepted_payload_is_the_signed_one`
* `C16_witness_*` and the `example`s the hypotheses are satisfiable: a concrete scheme, environment and
                                     documents (with a separator look-alike inside the payload)

No defect of perkeep was found for this property: nothing here is `_partial`.
-/
namespace Pk.JsonSign
open Pk

/-- The OpenPGP library as jsonsign uses it.
* `signArmored sk t` – `openpgp.ArmoredDetachSign` of the bytes `t` (sign.go:199);
* `check pk bp armored` – `armor.Decode`, `packet.Read`, the hash/type tests and
  `PublicKey.VerifySignature` of `VerifySignature` (verify.go:156-186): `none` = good signature;
* `Signed pk t` – ghost: the holder of `pk` has signed exactly the bytes `t`. -/
structure Scheme where
  PubKey : Type
  SecKey : Type
  pub : SecKey → PubKey
  signArmored : SecKey → Bytes → Bytes
  check : PubKey → Bytes → Bytes → Option Nat
  Signed : PubKey → Bytes → Prop
  /-- the armor body is base64 with `=` (RFC 4880 §6) -/
  armor_b64 : ∀ sk t sig, stripArmor (signArmored sk t) = .ok sig → ∀ c ∈ sig, isB64 c = true
  /-- correctness: what the key signs, re-armored by `reArmor`, is accepted for the same bytes -/
  correct : ∀ sk t sig, stripArmor (signArmored sk t) = .ok sig → check (pub sk) t (reArmor sig) = none
  /-- unforgeability (idealised EUF-CMA): a signature is only accepted for bytes the key signed -/
  unforgeable : ∀ pk t a, check pk t a = none → Signed pk t

/-- the environment of a `SignRequest` / `VerifyRequest`: the blobref table of pkg/blob, the
public-key fetcher (by the text of `camliSigner`) and the `EntityFetcher` -/
structure Env (S : Scheme) where
  tbl : Ref.Tbl
  fetch : Bytes → KeyRes S.PubKey
  secret : S.PubKey → Option S.SecKey
  /-- the EntityFetcher returns the secret key OF the fingerprint it is asked for -/
  secret_pub : ∀ pk sk, secret pk = some sk → S.pub sk = pk

variable {S : Scheme}

/-- `(*SignRequest).Sign` in the environment -/
def Env.sign (E : Env S) (unsigned : Bytes) : Except SignErr Bytes :=
  Pk.JsonSign.sign E.tbl E.fetch E.secret S.signArmored unsigned

/-- `NewVerificationRequest(doc).Verify()` in the environment -/
def Env.verify (E : Env S) (doc : Bytes) : VResult :=
  Pk.JsonSign.verify E.tbl E.fetch S.check doc

/-! ## obligations on the regenerated facts (the literals of the source are those of the model) -/

theorem C16_gen_separator :
    Gen.sigSeparator = sigSeparator ∧
    Gen.signFormatParts = [[], sigSeparator, sigSuffix] ∧
    Gen.signArmorMarks = [[10, 10], [10, 45, 45, 45, 45, 45]] := ⟨rfl, rfl, rfl⟩

theorem C16_gen_reArmor :
    Gen.reArmorStrings = [[61], [], armorBegin, [37, 115, 10], 37 :: 115 :: armorEnd] ∧
    Gen.reArmorInts = [1, 0, 0, 60, 0] := ⟨rfl, rfl⟩

/-- the model treats EVERY error of the OpenPGP library in `VerifySignature` as a rejection
(`check … = some cls`, whatever `cls`): in the source, each error-returning library call of
`VerifySignature` (`packet.Read`, `PublicKey.VerifySignature`) assigns `err` and is directly followed
by `if err != nil { return vr.fail(…) }` – no error kind (e.g. the `InvalidArgumentError` for a
signature of another public-key algorithm than the named key's) can fall through to `return true`. -/
theorem C16_gen_verify_rejects_any_library_error :
    Gen.verifySigErrGuards =
      [([82, 101, 97, 100], true),
       ([86, 101, 114, 105, 102, 121, 83, 105, 103, 110, 97, 116, 117, 114, 101], true)] := rfl

/-- the side condition of the split theorem, on the separator as it is in the source: its first byte
occurs neither in its remainder, nor in the `"}\n` that Sign appends, nor in the armor alphabet -/
theorem C16_gen_separator_shape :
    ∃ c p, Gen.sigSeparator = c :: p ∧ c ∉ p ∧ c ∉ sigSuffix ∧ isB64 c = false :=
  ⟨44, [34, 99, 97, 109, 108, 105, 83, 105, 103, 34, 58, 34], by decide, by decide, by decide, by decide⟩

/-! ## the payload the verifier extracts is the payload that was signed -/

/-- **last separator**: for EVERY payload `t` – also one that itself contains `,"camliSig":"`
any number of times – and every signature text without a comma, `bytes.LastIndex` of the
separator in the signed document is `len(t)`. -/
theorem C16_last_separator_is_the_appended_one (t sig : Bytes) (hs : 44 ∉ sig) :
    lastIndex sigSeparator (assemble t sig) = some t.length := by
  have h := lastIndex_payload_sep 44 (34 :: sepRest) t (sig ++ sigSuffix) (by decide)
    (by simp [hs, sigSuffix])
  simpa [assemble, sigSeparator_eq, List.append_assoc] using h

example : lastIndex sigSeparator (assemble (sigSeparator ++ [120] ++ sigSeparator) [65, 61, 61]) = some 27 := by
  decide

/-- **split exactness** (BP / BPJ / BS of verify.go:188-212 on a document assembled by Sign):
BP is exactly `t`, BPJ is `t}` and BS is `{"camliSig":"<sig>"}\n`. -/
theorem C16_split_signed (t sig : Bytes) (hs : 44 ∉ sig) :
    newVerificationRequest (assemble t sig) =
      some ⟨t.length, t, t ++ [125], signedBS sig⟩ := by
  have h := newVerificationRequest_appended t (sig ++ sigSuffix) (by simp [hs, sigSuffix])
  simpa only [assemble, signedBS, List.append_assoc] using h

/-- a look-alike in the payload: the payload is `{"a":1,"camliSig":"x"`, the verifier still takes
all of it -/
example :
    (newVerificationRequest (assemble [123, 34, 97, 34, 58, 49, 44, 34, 99, 97, 109, 108, 105, 83, 105, 103, 34, 58, 34, 120, 34] [65, 66])).map (·.sigIndex) = some 21 := by
  rw [C16_split_signed _ _ (by decide)]; rfl

/-- **sign, then split**: whenever `Sign` returns a document,
it is `t ++ ,"camliSig":"<sig>"}\n` where `t}` is the input with trailing white space removed and
`sig` is the armor body of the library's signature of exactly `t`; and the verifier's BP, BPJ, BS of
that document are `t`, the trimmed input, and the one-member signature object. -/
theorem C16_sign_then_split (E : Env S) (unsigned doc : Bytes) (h : E.sign unsigned = .ok doc) :
    ∃ (t sig : Bytes) (sk : S.SecKey),
      doc = assemble t sig ∧
      t ++ [125] = trimRightSpace unsigned ∧
      stripArmor (S.signArmored sk t) = .ok sig ∧
      newVerificationRequest doc = some ⟨t.length, t, trimRightSpace unsigned, signedBS sig⟩ := by
  obtain ⟨m, s, ref, pk, sk, t, sig, ok, rfl⟩ := sign_ok h
  refine ⟨t, sig, sk, rfl, ok.trimmed, ok.armor, ?_⟩
  have ⟨hc, _⟩ := b64_shape (S.armor_b64 sk t sig ok.armor)
  rw [C16_split_signed t sig hc, ok.trimmed]

/-! ## the signed document is still JSON and exposes the original fields -/

/-- **valid JSON, original fields**: the document returned by `Sign` unmarshals (as
`json.Unmarshal` into `map[string]any` does) to the members of the unsigned object, in order,
followed by the member `camliSig` holding the signature text. -/
theorem C16_signed_doc_is_json_with_original_fields (E : Env S) (unsigned doc : Bytes)
    (h : E.sign unsigned = .ok doc) :
    ∃ (m : List (Bytes × JV)) (sig : Bytes),
      unmarshalMap (trimRightSpace unsigned) = some m ∧
      unmarshalMap doc = some (m ++ [(kCamliSig, .str sig)]) := by
  obtain ⟨m, s, ref, pk, sk, t, sig, ok, rfl⟩ := sign_ok h
  refine ⟨m, sig, ok.parsed, ?_⟩
  have hne : m ≠ [] := fun e => by have := ok.signer; rw [e] at this; cases this
  have ⟨_, hp⟩ := b64_shape (S.armor_b64 sk t sig ok.armor)
  have hj := parseJSON_of_lookup ok.parsed ok.signer
  rw [← ok.trimmed] at hj
  unfold unmarshalMap
  rw [parse_signed t sig m hp hne hj]

/-- … so every field of the unsigned object reads the same from the signed one, and `camliSig`
reads the signature (Go map semantics: the last member with a key wins) -/
theorem C16_signed_doc_lookup (m : List (Bytes × JV)) (sig k : Bytes) :
    lookup k (m ++ [(kCamliSig, .str sig)]) = if kCamliSig = k then some (.str sig) else lookup k m :=
  lookup_append_single k kCamliSig (.str sig) m

/-! ## the explicit `}` test of Sign is redundant, as its comment says -/

/-- sign.go:171 ("This check should be redundant if the above JSON parse succeeded, but for
explicitness..."): it IS redundant – for every input and environment `Sign` never fails with
"json parameter lacks trailing '}'". A trimmed text that unmarshals to an object with a
`camliSigner` member always ends in `}`. -/
theorem C16_sign_brace_check_redundant (E : Env S) (unsigned : Bytes) :
    E.sign unsigned ≠ .error .nobrace := by
  obtain ⟨e, h, he⟩ | ⟨_, _, _, _, _, _, _, _, h⟩ :=
    sign_cases E.tbl E.fetch E.secret S.signArmored unsigned _ rfl <;> rw [Env.sign, h]
  · exact fun h' => he (Except.error.inj h')
  · nofun

/-- **Sign succeeds on every valid object**: if the trimmed input is a JSON object whose
`camliSigner` is a blobref string, the fetcher has that public key, the EntityFetcher its secret key
and the library's armored signature has the usual shape, `Sign` returns the assembled document –
no other condition on the object (any further keys, nesting, unicode, white space, look-alikes). -/
theorem C16_sign_succeeds (E : Env S) (unsigned : Bytes) (m : List (Bytes × JV)) (s sig : Bytes)
    (ref : Ref.Ref) (pk : S.PubKey) (sk : S.SecKey)
    (hm : unmarshalMap (trimRightSpace unsigned) = some m)
    (hs : lookup kCamliSigner m = some (.str s))
    (hr : Ref.parse E.tbl s true = some ref)
    (hf : E.fetch (Ref.toText ref) = .key pk)
    (hsk : E.secret pk = some sk)
    (hsig : stripArmor (S.signArmored sk (trimRightSpace unsigned).dropLast) = .ok sig) :
    E.sign unsigned = .ok (assemble (trimRightSpace unsigned).dropLast sig) := by
  have hlast := trimmed_obj_last unsigned m (parseJSON_of_lookup hm hs)
  simp only [kCamliSigner] at hs
  unfold Env.sign Pk.JsonSign.sign
  simp [hm, hs, strOf, hr, hf, hlast, hsk, hsig]

/-- **sign-then-verify succeeds**: a document returned by `Sign` for an object that has a
`camliVersion` member is accepted by `Verify` in the same environment; the accepted payload is the
signed one, the signer is the one the object names, `vr.CamliSig` is the signature text. -/
theorem C16_sign_then_verify (E : Env S) (unsigned doc : Bytes) (h : E.sign unsigned = .ok doc)
    (hv : ∃ m, unmarshalMap (trimRightSpace unsigned) = some m ∧ (lookup kCamliVersion m).isSome) :
    ∃ (t sig signer : Bytes),
      t ++ [125] = trimRightSpace unsigned ∧
      parsePayloadMap E.tbl (trimRightSpace unsigned) = .ok signer ∧
      E.verify doc = ⟨none, some t.length, sig, some signer⟩ := by
  obtain ⟨m, s, ref, pk, sk, t, sig, ok, rfl⟩ := sign_ok h
  obtain ⟨m', hm', hver⟩ := hv
  obtain rfl : m = m' := Option.some.inj (ok.parsed.symm.trans hm')
  have ⟨hc, hp⟩ := b64_shape (S.armor_b64 sk t sig ok.armor)
  have hpm : parsePayloadMap E.tbl (trimRightSpace unsigned) = .ok (Ref.toText ref) :=
    (parsePayloadMap_ok_iff _ _ _).2 ⟨m, s, ref, hm', hver, ok.signer, ok.ref_ok, rfl⟩
  have hchk : S.check pk t (reArmor sig) = none := by
    rw [← E.secret_pub pk sk ok.secret_key]; exact S.correct sk t sig ok.armor
  refine ⟨t, sig, Ref.toText ref, ok.trimmed, hpm, ?_⟩
  rw [Env.verify, verify_of_parts _ _ _ _ _ sig _ pk (C16_split_signed t sig hc)
    (parseSigMap_signedBS sig hp) (ok.trimmed ▸ hpm) ok.key, hchk]
  rfl

/-- the guard `camliVersion` of `C16_sign_then_verify` is needed: `Sign` does not look at
`camliVersion` (sign.go:132-222), `Verify` insists on it (verify.go:117) – an object without it is
signed into a document that is always rejected.  (The property quantifies over objects WITH
camliVersion, so this is not a violation; it is what the guard excludes.) -/
theorem C16_unversioned_signed_doc_rejected (E : Env S) (unsigned doc : Bytes) (h : E.sign unsigned = .ok doc)
    (hv : ∃ m, unmarshalMap (trimRightSpace unsigned) = some m ∧ lookup kCamliVersion m = none) :
    (E.verify doc).err = some .noversion := by
  obtain ⟨m, s, ref, pk, sk, t, sig, ok, rfl⟩ := sign_ok h
  obtain ⟨m', hm', hver⟩ := hv
  obtain rfl : m = m' := Option.some.inj (ok.parsed.symm.trans hm')
  have ⟨hc, hp⟩ := b64_shape (S.armor_b64 sk t sig ok.armor)
  have hpm : parsePayloadMap E.tbl (trimRightSpace unsigned) = .error .noversion := by
    unfold parsePayloadMap
    rw [hm']; simp [hver]
  unfold Env.verify Pk.JsonSign.verify
  rw [C16_split_signed t sig hc]
  simp only [parseSigMap_signedBS sig hp, ok.trimmed, hpm]

/-- **acceptance implies a signature by the named key over the accepted bytes**: if `Verify`
accepts `doc`, then `doc` has a last separator at some `i`; BP = `doc[:i]`; `BP}` is a JSON object
with `camliVersion` whose `camliSigner` is a blobref, with text `signer`; the fetcher has a public
key `pk` under that ref; and the holder of `pk` signed exactly BP. -/
theorem C16_verify_sound (E : Env S) (doc : Bytes) (h : (E.verify doc).err = none) :
    ∃ (i : Nat) (signer : Bytes) (pk : S.PubKey),
      lastIndex sigSeparator doc = some i ∧
      parsePayloadMap E.tbl (doc.take i ++ [125]) = .ok signer ∧
      E.fetch signer = .key pk ∧
      S.Signed pk (doc.take i) ∧
      (E.verify doc).signer = some signer ∧ (E.verify doc).sigIndex = some i := by
  unfold Env.verify Pk.JsonSign.verify newVerificationRequest at h ⊢
  cases hl : lastIndex sigSeparator doc with
  | none => simp [hl] at h
  | some i =>
    simp only [hl] at h ⊢
    cases hsm : parseSigMap (123 :: List.drop (i + 1) doc) with
    | error e => simp [hsm] at h
    | ok sig =>
      simp only [hsm] at h ⊢
      cases hpm : parsePayloadMap E.tbl (List.take i doc ++ [125]) with
      | error e => simp [hpm] at h
      | ok signer =>
        simp only [hpm] at h ⊢
        cases hf : E.fetch signer with
        | missing => simp [hf] at h
        | notkey => simp [hf] at h
        | key pk =>
          simp only [hf] at h ⊢
          cases hc : S.check pk (List.take i doc) (reArmor sig) with
          | some cls => simp [hc] at h
          | none =>
            exact ⟨i, signer, pk, rfl, hpm, hf, S.unforgeable pk _ _ hc, by simp, by simp⟩

/-- what the verifier treats as (signer key, payload) of a document, if it gets that far -/
def claimOf (E : Env S) (doc : Bytes) : Option (S.PubKey × Bytes) :=
  match lastIndex sigSeparator doc with
  | none => none
  | some i =>
    match parsePayloadMap E.tbl (doc.take i ++ [125]) with
    | .error _ => none
    | .ok signer =>
      match E.fetch signer with
      | .key pk => some (pk, doc.take i)
      | _ => none

/-- **any change to the payload or to the signer is rejected**: let `Log` contain every (key,
payload) pair that was ever signed.  A document whose (named key, BP) is not in `Log` – BP differs
from every payload that key signed, or the named key is another one – is rejected, and so is a
document that names no usable key or has no separator. -/
theorem C16_payload_or_signer_change_rejected (E : Env S) (Log : S.PubKey → Bytes → Prop)
    (hlog : ∀ pk t, S.Signed pk t → Log pk t) (doc : Bytes)
    (hnot : ∀ pk bp, claimOf E doc = some (pk, bp) → ¬ Log pk bp) :
    (E.verify doc).err ≠ none := by
  intro h
  obtain ⟨i, signer, pk, hl, hpm, hf, hs, _, _⟩ := C16_verify_sound E doc h
  exact hnot pk (doc.take i) (by simp [claimOf, hl, hpm, hf]) (hlog pk _ hs)

/-- the same, for a single honest signature: if the key `pk` signed only `t`, every accepted
document that names `pk` has BP = `t` – byte for byte -/
theorem C16_accepted_payload_is_the_signed_one (E : Env S) (doc t : Bytes) (pk : S.PubKey)
    (honly : ∀ t', S.Signed pk t' → t' = t) (h : (E.verify doc).err = none)
    (hk : ∀ pk' bp, claimOf E doc = some (pk', bp) → pk' = pk) :
    ∃ i, lastIndex sigSeparator doc = some i ∧ doc.take i = t := by
  obtain ⟨i, signer, pk', hl, hpm, hf, hs, _, _⟩ := C16_verify_sound E doc h
  have : pk' = pk := hk pk' (doc.take i) (by simp [claimOf, hl, hpm, hf])
  subst this
  exact ⟨i, hl, honly _ hs⟩

/-! ## non-vacuity: a concrete scheme, environment and documents

`toy` is a scheme whose single key holder (key 1) signs exactly the payloads in `toyLog`, always with
the same armor; `check` accepts that signature for exactly those payloads.  It satisfies the three
hypothesis fields, so the theorems above are not vacuous; the examples run `Sign` and `Verify` of
the model on a payload that contains a separator look-alike. -/

/-- `-----BEGIN PGP SIGNATURE-----\n\nQUJDRA==\n=AbCd\n-----END PGP SIGNATURE-----` -/
def toyArmor : Bytes := [45, 45, 45, 45, 45, 66, 69, 71, 73, 78, 32, 80, 71, 80, 32, 83, 73, 71, 78, 65, 84, 85, 82, 69, 45, 45, 45, 45, 45, 10, 10, 81, 85, 74, 68, 82, 65, 61, 61, 10, 61, 65, 98, 67, 100, 10, 45, 45, 45, 45, 45, 69, 78, 68, 32, 80, 71, 80, 32, 83, 73, 71, 78, 65, 84, 85, 82, 69, 45, 45, 45, 45, 45]
/-- `QUJDRA===AbCd` -/
def toySig : Bytes := [81, 85, 74, 68, 82, 65, 61, 61, 61, 65, 98, 67, 100]
/-- `sha224-a794…42dd` -/
def toyRef : Bytes := [115, 104, 97, 50, 50, 52, 45, 97, 55, 57, 52, 56, 52, 54, 50, 49, 50, 102, 102, 54, 55, 97, 99, 100, 100, 48, 48, 99, 54, 98, 57, 48, 101, 101, 101, 52, 57, 50, 98, 97, 102, 54, 55, 52, 100, 52, 49, 100, 97, 56, 97, 54, 50, 49, 100, 50, 101, 56, 48, 52, 50, 100, 100]
/-- the payload `{"camliVersion":1,"camliSig":"ZmFrZQ==","camliSigner":"sha224-a794…42dd"`: it
contains the separator `,"camliSig":"` itself (at offset 17) -/
def toyPayload : Bytes :=
  [123, 34, 99, 97, 109, 108, 105, 86, 101, 114, 115, 105, 111, 110, 34, 58, 49, 44, 34, 99, 97, 109, 108, 105, 83, 105, 103, 34, 58, 34, 90, 109, 70, 114, 90, 81, 61, 61, 34, 44, 34, 99, 97, 109, 108, 105, 83, 105, 103, 110, 101, 114, 34, 58, 34] ++ toyRef ++ [34]
/-- the unsigned object: the payload, `}` and trailing white space -/
def toyUnsigned : Bytes := toyPayload ++ [125, 32, 10]
/-- `{"camliSigner":"sha224-a794…42dd"`: no camliVersion -/
def toyPayloadNoVersion : Bytes :=
  [123, 34, 99, 97, 109, 108, 105, 83, 105, 103, 110, 101, 114, 34, 58, 34] ++ toyRef ++ [34]
def toyLog : List (Nat × Bytes) := [(1, toyPayload), (1, toyPayloadNoVersion)]
/-- `toyPayload ++ ,"camliSig":"QUJDRA===AbCd"}\n` -/
def toySigned : Bytes := assemble toyPayload toySig
/-- `toySigned` with `"camliVersion":2` -/
def toyTampered : Bytes := toySigned.set 16 50
/-- `toySigned` with white space inside and after the signature object: `…AbCd" }\n\n` -/
def toySpaced : Bytes := toyPayload ++ sigSeparator ++ toySig ++ [34, 32, 125, 10, 10]
/-- `toySigned` with a second member in the signature object: `…AbCd","x":1}\n` -/
def toyTwoKeys : Bytes := toyPayload ++ sigSeparator ++ toySig ++ [34, 44, 34, 120, 34, 58, 49, 125, 10]

-- `decide` on the results of `sign` and `stripArmor` below
deriving instance DecidableEq for Except

theorem C16_witness_strip : stripArmor toyArmor = .ok toySig := by rfl

-- reducible: `toy.PubKey` has to unfold to `Nat` for the numerals and for `decide`
@[reducible] def toy : Scheme where
  PubKey := Nat
  SecKey := Nat
  pub := id
  signArmored := fun sk t => if (sk, t) ∈ toyLog then toyArmor else []
  check := fun pk t a => if a = reArmor toySig ∧ (pk, t) ∈ toyLog then none else some 6
  Signed := fun pk t => (pk, t) ∈ toyLog
  armor_b64 := by
    intro sk t sig h
    by_cases hm : (sk, t) ∈ toyLog
    · rw [if_pos hm, C16_witness_strip] at h
      injection h with h; subst h; decide
    · rw [if_neg hm] at h; cases h
  correct := by
    intro sk t sig h
    by_cases hm : (sk, t) ∈ toyLog
    · rw [if_pos hm, C16_witness_strip] at h
      injection h with h; subst h
      simp [hm]
    · rw [if_neg hm] at h; cases h
  unforgeable := by
    intro pk t a h
    by_cases hc : a = reArmor toySig ∧ (pk, t) ∈ toyLog
    · exact hc.2
    · rw [if_neg hc] at h; cases h

def toyEnv : Env toy where
  tbl := ⟨Gen.refSizes, Gen.testRefTypes, Gen.maxOtherDigestLen⟩
  fetch := fun s => if s = toyRef then .key (1 : Nat) else .missing
  secret := fun (pk : Nat) => if pk = 1 then some (1 : Nat) else none
  secret_pub := by
    intro (pk : Nat) (sk : Nat) (h : (if pk = 1 then some (1 : Nat) else none) = some sk)
    show sk = pk
    by_cases hp : pk = 1
    · simp [hp] at h; omega
    · simp [hp] at h

/-! The evaluations that the witnesses share: the trimmed input, `ParsePayloadMap` of `toyPayload}`,
the key look-up, and the library's verdict on the toy signature. -/

theorem toy_trim : trimRightSpace toyUnsigned = toyPayload ++ [125] := by decide +kernel
theorem toy_payloadMap : parsePayloadMap toyEnv.tbl (toyPayload ++ [125]) = .ok toyRef := by decide +kernel
theorem toy_armored : toy.signArmored 1 toyPayload = toyArmor := by
  show (if ((1 : Nat), toyPayload) ∈ toyLog then toyArmor else []) = toyArmor
  exact if_pos (List.Mem.head _)
theorem toy_fetch : toyEnv.fetch toyRef = .key 1 := by rfl
theorem toy_check : toy.check 1 toyPayload (reArmor toySig) = none := toy.correct 1 toyPayload toySig (toy_armored ▸ C16_witness_strip)

/-- `Sign` of the model on the look-alike payload (hypothesis of C16_sign_then_split / _verify /
_signed_doc_is_json…) -/
theorem C16_witness_sign : toyEnv.sign toyUnsigned = .ok toySigned := by
  obtain ⟨m, s, r, hm, _, hs, hr, ht⟩ := (parsePayloadMap_ok_iff _ _ _).1 toy_payloadMap
  have h := C16_sign_succeeds toyEnv toyUnsigned m s toySig r 1 1 (toy_trim ▸ hm) hs hr
    (ht ▸ toy_fetch) rfl (by rw [toy_trim, List.dropLast_concat, toy_armored]; exact C16_witness_strip)
  rwa [toy_trim, List.dropLast_concat] at h
theorem C16_witness_has_version :
    ∃ m, unmarshalMap (trimRightSpace toyUnsigned) = some m ∧ (lookup kCamliVersion m).isSome := by
  obtain ⟨m, _, _, hm, hv, _⟩ := (parsePayloadMap_ok_iff _ _ _).1 toy_payloadMap
  exact ⟨m, toy_trim ▸ hm, hv⟩
/-- the payload really contains the separator, and the verifier still cuts after all of it -/
example : index sigSeparator toyPayload = some 17 ∧
    (newVerificationRequest toySigned).map (·.bp) = some toyPayload :=
  ⟨by decide +kernel, by rw [toySigned, C16_split_signed _ _ (by decide)]; rfl⟩
/-- … and `Verify` accepts it (hypothesis of C16_verify_sound) -/
theorem C16_witness_verify : toyEnv.verify toySigned = ⟨none, some toyPayload.length, toySig, some toyRef⟩ := by
  rw [Env.verify, toySigned, verify_of_parts _ _ _ _ _ toySig toyRef 1 (C16_split_signed toyPayload toySig (by decide))
    (parseSigMap_signedBS toySig (by decide)) toy_payloadMap toy_fetch, toy_check]
  rfl
example : (toyEnv.verify toySigned).err = none := by rw [C16_witness_verify]
/-- the general theorems instantiated on the toy documents -/
example : ∃ t sig signer, t ++ [125] = trimRightSpace toyUnsigned ∧
    parsePayloadMap toyEnv.tbl (trimRightSpace toyUnsigned) = .ok signer ∧
    toyEnv.verify toySigned = ⟨none, some t.length, sig, some signer⟩ :=
  C16_sign_then_verify toyEnv _ _ C16_witness_sign C16_witness_has_version
/-- a payload byte changed: not in the log (hypothesis of C16_payload_or_signer_change_rejected), rejected -/
theorem C16_witness_tampered_claim :
    @Eq (Option (Nat × Bytes)) (claimOf toyEnv toyTampered) (some (1, toyTampered.take 119)) := by
  decide +kernel
example : (toyEnv.verify toyTampered).err ≠ none :=
  C16_payload_or_signer_change_rejected toyEnv toy.Signed (fun _ _ h => h) toyTampered (by
    intro pk bp h
    rw [C16_witness_tampered_claim] at h
    injection h with h; injection h with h1 h2; subst h1; subst h2
    show ¬ ((1 : Nat), toyTampered.take 119) ∈ toyLog
    decide +kernel)
example : (toyEnv.verify toyTampered).err = some (.sig 6) := by decide +kernel
/-- the statement does not pin the bytes of the signature object: white space there changes neither
BP nor the signer, and the document still verifies -/
example : toyEnv.verify toySpaced = ⟨none, some toyPayload.length, toySig, some toyRef⟩ := by
  rw [Env.verify, toySpaced, List.append_assoc _ toySig,
    verify_of_parts _ _ _ _ _ toySig toyRef 1 (newVerificationRequest_appended toyPayload _ (by decide))
      (by decide +kernel) toy_payloadMap toy_fetch, toy_check]
  rfl
/-- a second member in the signature object is refused (verify.go:91) -/
example : (toyEnv.verify toyTwoKeys).err = some .sigkeys := by decide +kernel
/-- hypotheses of C16_sign_succeeds on the toy object: it has a string `camliSigner` that is a blobref
whose key the environment knows -/
example : (unmarshalMap (trimRightSpace toyUnsigned)).map (fun m => strOf (lookup kCamliSigner m)) = some toyRef ∧
    ((Ref.parse toyEnv.tbl toyRef true).map Ref.toText) = some toyRef := by rw [toy_trim]; decide +kernel
/-- errors of `Sign` other than the (unreachable) brace error do occur -/
example : toyEnv.sign [123, 125] = .error .nosigner := by decide +kernel
/-- hypotheses of C16_unversioned_signed_doc_rejected: an object without camliVersion is signed … -/
theorem C16_witness_sign_unversioned :
    toyEnv.sign (toyPayloadNoVersion ++ [125]) = .ok (assemble toyPayloadNoVersion toySig) := by
  decide +kernel
/-- … and the result is rejected -/
example : (toyEnv.verify (assemble toyPayloadNoVersion toySig)).err = some .noversion := by decide +kernel

end Pk.JsonSign
