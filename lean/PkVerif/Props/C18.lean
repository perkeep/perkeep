import PkVerif.Lemmas.BlobHTTP
/-!
# C18 – the HTTP blob protocol gives clients the same map semantics end to end

The server handlers (`Pk.BlobHTTP.handle…`) are functions over the reference map `SMap Bytes` (what
every storage the configuration can select refines: C01); the client loops (`client…`) are functions
over a server.  The theorems compose the two: for ANY contents of the map, ANY text of the `limit`
parameter, ANY cursor, ANY client options.

A store is *quiescent* during a request when every iteration of a long-polling handler finds the same
map: `later = List.replicate k m`, any `k`.
-/
namespace Pk.BlobHTTP
open Pk Pk.SMap Pk.RefMap

/-! ## the facts read from the source -/

/-- the limits of the handlers and of the client as the source has them -/
theorem C18_gen_constants :
    genCfg.maxEnumerate = 10000 ∧ genCfg.defaultEnum = 100 ∧ genCfg.maxStat = 1000 ∧
    genCfg.clientBatch = 1000 ∧ Gen.getSmallBytes = 32768 := by decide

/-- the shape of the enumerate handler's long-poll loop that `enumLoop` repeats: the loop runs while
the deadline has NOT passed (`Before`; it was `After`, F-C18-1), no wait ⇒ one iteration, a page that
is not full clears `after` (so continueAfter ⇔ full page), wait only when nothing was sent, the clamp
of the wait to [0, 30] -/
theorem C18_gen_enum_loop_shape :
    Gen.enumLoopShape =
      ["for loop && (waitSeconds == 0 || time.Now().Before(deadline))",
       "if waitSeconds == 0 { loop = false }",
       "if gotBlobs < limit { after = \"\" }",
       "if loop { blobserver.WaitForBlob(storage, deadline, nil) }",
       "case waitSeconds < 0", "case waitSeconds > 30"] := rfl

/-- the shape of the stat handler that `statScan`/`statLoop` repeat: the scan stops at an empty value,
the cap is tested before the value is parsed, the wait loop ends when nothing is missing, there is no
wait or the deadline has passed -/
theorem C18_gen_stat_loop_shape :
    Gen.statLoopShape =
      ["if value == \"\"", "if n > maxStatBlobs",
       "if len(needStat) == 0 || waitSeconds == 0 || time.Now().After(deadline)",
       "case waitSeconds < 0", "case waitSeconds > 30"] := rfl

/-- whatever the client sends as `limit`, the page size the server uses lies in 1..10000 -/
theorem C18_gen_server_limit (arg : Bytes) : 1 ≤ enumLimit genCfg arg ∧ enumLimit genCfg arg ≤ 10000 :=
  enumLimit_range genCfg (by decide) (by decide) arg

/-- pkg/client's own batch size is honoured by the server as it is -/
theorem C18_gen_client_batch : enumLimit genCfg (natToDec genCfg.clientBatch) = 1000 := by decide

/-! ## enumerate: the handler's page -/

/-- the handler refuses exactly the documented combination: a non-zero `maxwaitsec` with `after` -/
theorem C18_enum_refused_iff (c : Cfg) (m0 : SMap Bytes) (later : List (SMap Bytes)) (r : EnumReq) :
    handleEnumerateBlobs c m0 later r = .badRequest ↔
      (r.maxwait ≠ [] ∧ atoi r.maxwait ≠ 0 ∧ r.after ≠ []) := by
  rw [handleEnumerateBlobs_eq]
  by_cases h : r.maxwait ≠ [] ∧ atoi r.maxwait ≠ 0 ∧ r.after ≠ []
  · rw [if_pos h]; exact iff_of_true rfl h
  · rw [if_neg h]; exact iff_of_false (fun e => by cases e) h

/-- over a quiescent store a request that is not refused is answered with exactly the reference
map's page (`RefMap.enumOf`: ascending, strictly after the cursor, true sizes, at most the page size –
C01_enumerate_contract) – with or without `maxwaitsec` – and `continueAfter` as `pageAfter` says -/
theorem C18_enum_page (c : Cfg) (m : SMap Bytes) (k : Nat) (r : EnumReq)
    (hr : ¬ (r.maxwait ≠ [] ∧ atoi r.maxwait ≠ 0 ∧ r.after ≠ [])) :
    handleEnumerateBlobs c m (List.replicate k m) r =
      .ok (enumOf m r.after (enumLimit c r.limit))
          (pageAfter (enumLimit c r.limit) (enumOf m r.after (enumLimit c r.limit))) := by
  rw [handleEnumerateBlobs_eq, if_neg hr, enumLoop_quiescent]

/-- "page is full ⇒ continueAfter": the key is present iff the page has `limit` entries, and then it is
the last ref of the page -/
theorem C18_continue_iff_full (limit : Nat) (hl : 1 ≤ limit) (page : List (Bytes × Nat))
    (hne : ∀ p ∈ page, p.1 ≠ []) :
    (pageAfter limit page ≠ [] ↔ limit ≤ page.length) ∧
    (limit ≤ page.length → ∃ last, page.getLast? = some last ∧ pageAfter limit page = last.1) := by
  unfold pageAfter
  by_cases hs : page.length < limit
  · have hn := Nat.not_le.mpr hs
    rw [if_pos hs]
    exact ⟨⟨fun h => absurd rfl h, fun h => absurd h hn⟩, fun h => absurd h hn⟩
  · rw [if_neg hs]
    cases hg : page.getLast? with
    | none =>
      rw [List.getLast?_eq_none_iff.mp hg] at hs
      exact absurd hl hs
    | some last =>
      exact ⟨⟨fun _ => Nat.not_lt.mp hs, fun _ => hne last (List.mem_of_getLast? hg)⟩, fun _ => ⟨last, rfl, rfl⟩⟩

/-- a blob that arrives while the handler waits is what the answer lists: iterations that find
nothing are skipped (this is the branch that never ran before the repair) -/
theorem C18_long_poll_skips_empty (w : Nat) (hw : w ≠ 0) (after : Bytes) (limit : Nat)
    (m0 : SMap Bytes) (later : List (SMap Bytes)) (h0 : enumOf m0 after limit = []) :
    enumLoop w after limit (m0 :: later) = enumLoop w after limit later := by
  conv => lhs; unfold enumLoop
  simp [h0, hw]

/-! ## the client's enumeration loop composed with the handler -/

/-- **C18, enumeration**: for ANY contents of the map, ANY text of the page-size parameter (the server
turns every text into a page size ≥ 1), ANY cursor and ANY `Limit` option, with or without `MaxWait`,
`Client.EnumerateBlobsOpts` against the handler over a quiescent store delivers the blobs after the
cursor exactly once each, in ascending order, with their sizes (all of them, or the first `Limit`),
and reports success; `m.length + 1` requests suffice. -/
theorem C18_client_enumerates_all (content : Bytes → Bytes) (c : Cfg) (m : SMap Bytes)
    (hm : Good content m) (okRef : Bytes → Bool) (hok : ∀ p ∈ m, okRef p.1 = true) (batch : Bytes)
    (hb : 1 ≤ enumLimit c batch) (k : Nat) (o : EnumOpts) (ho : o.after = [] ∨ o.waitSec = 0)
    (fuel : Nat) (hf : m.length < fuel) :
    clientEnumerate (handleEnumerateBlobs c m (List.replicate k m)) okRef batch o fuel =
      ⟨if o.limit = 0 then sizes (m.filter (fun p => ltB o.after p.1))
       else (sizes (m.filter (fun p => ltB o.after p.1))).take o.limit, true⟩ := by
  unfold clientEnumerate
  have hg : (o.after ≠ [] && o.waitSec != 0) = false := by
    rcases ho with h | h <;> simp [h]
  simp only [hg, Bool.false_eq_true, if_false]
  have hne : ∀ p ∈ m, p.1 ≠ [] := fun p hp => (hm.2 p.1 p.2 (mem_get hm.1 hp)).2
  have hlen : (aft (sizes m) o.after).length < fuel :=
    Nat.lt_of_le_of_lt (Nat.le_trans (aft_length_le _ _) (Nat.le_of_eq (List.length_map _))) hf
  rw [clientLoop_quiescent c m hm.1 hne okRef hok batch hb k o.waitSec o.limit fuel o.after 0 hlen (by omega),
    aft_sizes, Nat.sub_zero]

/-- the whole store: no cursor, no `Limit` ⇒ every blob exactly once in ascending order -/
theorem C18_client_enumerates_everything (content : Bytes → Bytes) (c : Cfg) (m : SMap Bytes)
    (hm : Good content m) (okRef : Bytes → Bool) (hok : ∀ p ∈ m, okRef p.1 = true) (batch : Bytes)
    (hb : 1 ≤ enumLimit c batch) (k waitSec : Nat) (fuel : Nat) (hf : m.length < fuel) :
    clientEnumerate (handleEnumerateBlobs c m (List.replicate k m)) okRef batch ⟨[], waitSec, 0⟩ fuel =
      ⟨sizes m, true⟩ := by
  rw [C18_client_enumerates_all content c m hm okRef hok batch hb k ⟨[], waitSec, 0⟩ (Or.inl rfl) fuel hf]
  have hne : ∀ p ∈ m, ltB [] p.1 = true :=
    fun p hp => ltB_nil_left (hm.2 p.1 p.2 (mem_get hm.1 hp)).2
  simp [List.filter_eq_self.mpr hne]

/-- the client enumerates the whole store, every blob exactly once in ascending order, in particular against
the server as it is configured in the source, whatever page size the client asks for -/
theorem C18_gen_client_enumerates_everything (content : Bytes → Bytes) (m : SMap Bytes)
    (hm : Good content m) (okRef : Bytes → Bool) (hok : ∀ p ∈ m, okRef p.1 = true) (batch : Bytes)
    (k waitSec : Nat) :
    clientEnumerate (handleEnumerateBlobs genCfg m (List.replicate k m)) okRef batch ⟨[], waitSec, 0⟩
      (m.length + 1) = ⟨sizes m, true⟩ :=
  C18_client_enumerates_everything content genCfg m hm okRef hok batch (C18_gen_server_limit batch).1
    k waitSec (m.length + 1) (by omega)

/-! ### non-vacuity and the defects that were repaired -/

/-- a ref text in canonical form: `sha224-` followed by 56 hex digits -/
def exKey (d : Nat) : Bytes := [115, 104, 97, 50, 50, 52, 45] ++ List.replicate 55 97 ++ [d]

def exMap : SMap Bytes := [(exKey 49, [1, 2, 3]), (exKey 50, []), (exKey 51, [7])]

def exContent (k : Bytes) : Bytes := if k = exKey 49 then [1, 2, 3] else if k = exKey 51 then [7] else []

theorem exMap_good : Good exContent exMap :=
  ⟨by unfold KAsc; decide +kernel, fun k v h =>
    (by decide +kernel : ∀ p ∈ exMap, p.2 = exContent p.1 ∧ p.1 ≠ []) (k, v) (get_some_mem h)⟩

/-- three blobs, page size 2, a wait: two requests, everything once -/
example : clientEnumerate (handleEnumerateBlobs genCfg exMap [exMap]) (fun _ => true) [50] ⟨[], 1, 0⟩ 4 =
    ⟨[(exKey 49, 3), (exKey 50, 0), (exKey 51, 1)], true⟩ := by decide +kernel

/-- **F-C18-1 (fixed)**: with the loop condition as it was (`After`), a client that passes `MaxWait`
gets an empty enumeration of a non-empty store: the handler's loop body never runs -/
theorem C18_long_poll_old_counterexample :
    ¬ (∀ (m : SMap Bytes) (waitSec : Nat),
        clientEnumerate (handleEnumerateBlobsOld genCfg m) (fun _ => true) [50] ⟨[], waitSec, 0⟩ (m.length + 1) =
          ⟨sizes m, true⟩) := by
  intro h
  have := h exMap 1
  revert this
  decide

/-- **F-C18-2 (fixed)**: `limit=0` used to reach the storage as 0; `memory.Storage` reads 0 as "no
limit" and sent every blob (more than the limit, and more than the server's maximum page), the other
storages sent nothing.  Now 0 is replaced by the maximum like every other out-of-range value. -/
theorem C18_limit_zero_old_counterexample :
    enumLimitOld genCfg [48] = 0 ∧ storeEnumMem exMap [] (enumLimitOld genCfg [48]) = sizes exMap ∧
    enumOf exMap [] (enumLimitOld genCfg [48]) = [] ∧ enumLimit genCfg [48] = 10000 := ⟨rfl, rfl, rfl, rfl⟩

/-! ## stat -/

/-- **C18, batch stat**: for ANY map and ANY request of up to `maxStatBlobs` refs (duplicates allowed,
GET or POST, with or without `maxwaitsec`, over a quiescent store) the answer is 200 and lists exactly
the requested refs that are present, each once, with its true size -/
theorem C18_stat_exact (c : Cfg) (tbl : Ref.Tbl) (m : SMap Bytes) (j : Nat) (ver : Bytes) (hver : ver ≠ [])
    (vals : List Bytes) (mw : Bytes) (hv : ∀ v ∈ vals, IsRef tbl v) (hlen : vals.length ≤ c.maxStat) :
    ∃ l, handleStat c tbl m (List.replicate j m) ⟨true, ver, vals, mw⟩ = .ok l ∧
      (∀ k n, (k, n) ∈ l ↔ k ∈ vals ∧ ∃ b, get m k = some b ∧ n = b.length) ∧
      (l.map (·.1)).Nodup := by
  obtain ⟨need, hs, hmem, hnd⟩ := statScan_ok c.maxStat tbl vals 1 []
    (fun v h => ⟨isRef_ne_nil (hv v h), by rw [keyOf_of_isRef (hv v h)]; rfl⟩) (by omega)
  refine ⟨statPass m need, ?_, ?_, ?_⟩
  · unfold handleStat
    simp only [Bool.not_true, Bool.false_eq_true, if_false, hver, hs]
    rw [statLoop_quiescent]
  · intro k n
    rw [mem_statPass, hmem k]
    constructor
    · rintro ⟨h | ⟨v, hvm, hk⟩, hb⟩
      · cases h
      · have := keyOf_eq hk
        subst this
        exact ⟨hvm, hb⟩
    · rintro ⟨hk, hb⟩
      exact ⟨Or.inr ⟨k, hk, keyOf_of_isRef (hv k hk)⟩, hb⟩
  · rw [keys_statPass]
    exact (hnd List.nodup_nil).filter _

/-- **beyond the cap**: a request with more than `maxStatBlobs` consecutive non-empty `blobN` values is
refused (400), whatever the values are – nothing is answered for the first `maxStatBlobs` either -/
theorem C18_stat_over_cap (c : Cfg) (tbl : Ref.Tbl) (m0 : SMap Bytes) (later : List (SMap Bytes))
    (r : StatReq) (hv : ∀ v ∈ r.blobs, v ≠ []) (hlen : c.maxStat < r.blobs.length) :
    ∃ e, handleStat c tbl m0 later r = .bad e := by
  unfold handleStat
  by_cases h1 : (!r.methodOK) = true
  · exact ⟨_, by rw [if_pos h1]⟩
  · rw [if_neg h1]
    by_cases h2 : r.version = []
    · exact ⟨_, by rw [if_pos h2]⟩
    · rw [if_neg h2]
      obtain ⟨e, he⟩ := statScan_over c.maxStat tbl r.blobs 1 [] hv (by omega) (by omega)
      exact ⟨e, by rw [he]⟩

/-- the cap of the batch stat with the constant of the source: 1000 refs are answered (`C18_stat_exact`),
1001 are not -/
theorem C18_gen_stat_cap (m0 : SMap Bytes) (later : List (SMap Bytes)) (r : StatReq)
    (hv : ∀ v ∈ r.blobs, v ≠ []) (hlen : Gen.maxStatBlobs < r.blobs.length) :
    ∃ e, handleStat genCfg genTbl m0 later r = .bad e :=
  C18_stat_over_cap genCfg genTbl m0 later r hv hlen

/-- hypotheses satisfiable (a cap of 2 keeps the evaluation small): 3 refs are refused, 2 are answered -/
example :
    handleStat { genCfg with maxStat := 2 } genTbl exMap [] ⟨true, [49], [exKey 49, exKey 50, exKey 51], []⟩ = .bad .tooMany ∧
    handleStat { genCfg with maxStat := 2 } genTbl exMap [] ⟨true, [49], [exKey 49, exKey 50], []⟩ =
      .ok [(exKey 49, 3), (exKey 50, 0)] := by decide +kernel

/-- the scan stops at the first absent or empty `blobN`: whatever follows a hole is not looked at -/
theorem C18_stat_hole_truncates (c : Cfg) (tbl : Ref.Tbl) (m0 : SMap Bytes) (later : List (SMap Bytes))
    (ok : Bool) (ver mw : Bytes) (pre post : List Bytes) :
    handleStat c tbl m0 later ⟨ok, ver, pre ++ [] :: post, mw⟩ = handleStat c tbl m0 later ⟨ok, ver, pre, mw⟩ := by
  unfold handleStat
  simp only [statScan_hole]

/-- **C18, the client's stat**: `Client.StatBlobs` (one request per ref the have-cache does not answer)
against the handler reports, for ANY map, ANY list of refs and ANY have-cache that only holds what the
server has, exactly the present refs with their true sizes – one report per requested occurrence – and
leaves the cache truthful -/
theorem C18_client_stat_exact (c : Cfg) (hc : 1 ≤ c.maxStat) (tbl : Ref.Tbl) (m : SMap Bytes) (j : Nat) :
    ∀ (ks : List Bytes) (h : Have), (∀ k ∈ ks, IsRef tbl k) → HaveOK m h →
      (clientStatBlobs (handleStat c tbl m (List.replicate j m)) h ks).2 = (statPass m ks, true) ∧
      HaveOK m (clientStatBlobs (handleStat c tbl m (List.replicate j m)) h ks).1 := by
  intro ks
  induction ks with
  | nil => intro h _ hh; exact ⟨rfl, hh⟩
  | cons k ks ih =>
    intro h hk hh
    unfold clientStatBlobs
    cases hs : h.stat k with
    | some n =>
      simp only
      obtain ⟨v, hg, hn⟩ := hh k n hs
      obtain ⟨h1, h2⟩ := ih h (fun x hx => hk x (by simp [hx])) hh
      refine ⟨?_, h2⟩
      rw [statPass_cons m k ks, statPass_single hg, ← hn, h1]
      rfl
    | none =>
      simp only
      rw [doStat1_eq c hc tbl m j k (hk k (by simp))]
      simp only
      obtain ⟨h1, h2⟩ := ih _ (fun x hx => hk x (by simp [hx])) (haveOK_foldl_statPass hh [k])
      refine ⟨?_, h2⟩
      rw [statPass_cons m k ks, h1]

/-- **F-C18-3 / F-C18-4 (fixed)**: before the repairs `Client.StatBlobs` reported a present blob twice
(the worker and the helper both called `fn`), and a cached blob again whenever another blob of the
call needed a request -/
theorem C18_client_stat_old_counterexample :
    clientStatBlobsOld (handleStat genCfg genTbl exMap []) none [exKey 49] = [(exKey 49, 3), (exKey 49, 3)] ∧
    clientStatBlobsOld (handleStat genCfg genTbl exMap []) (some [(exKey 49, 3)]) [exKey 49, exKey 51] =
      [(exKey 49, 3), (exKey 49, 3), (exKey 49, 3), (exKey 51, 1), (exKey 51, 1)] ∧
    (clientStatBlobs (handleStat genCfg genTbl exMap []) (some [(exKey 49, 3)]) [exKey 49, exKey 51]).2 =
      ([(exKey 49, 3), (exKey 51, 1)], true) := by decide +kernel

example : IsRef genTbl (exKey 49) ∧ getPathOK (exKey 49) = true := by decide +kernel

/-! ## upload, then visible -/

/-- a blob is *visible* through the protocol: GET/HEAD answer its bytes and length, the client's Fetch
too, a stat answers it with its size, and the client's full enumeration lists it exactly once -/
structure Visible (c : Cfg) (tbl : Ref.Tbl) (m : SMap Bytes) (k v : Bytes) : Prop where
  get : handleGet tbl m k = .ok v
  fetch : clientFetch (handleGet tbl m) k = .ok v v.length
  stat : ∀ j mw, handleStat c tbl m (List.replicate j m) ⟨true, [49], [k], mw⟩ = .ok [(k, v.length)]
  clientStat : ∀ j, (clientStatBlobs (handleStat c tbl m (List.replicate j m)) none [k]).2 = ([(k, v.length)], true)
  enum : ∀ (okRef : Bytes → Bool) (batch : Bytes) (j waitSec : Nat), (∀ p ∈ m, okRef p.1 = true) →
    1 ≤ enumLimit c batch →
    ∃ l, clientEnumerate (handleEnumerateBlobs c m (List.replicate j m)) okRef batch ⟨[], waitSec, 0⟩ (m.length + 1)
        = ⟨l, true⟩ ∧ l.filter (fun p => p.1 == k) = [(k, v.length)]

/-- whatever the map holds under a ref is visible (reads are the reference map's reads) -/
theorem C18_present_is_visible (content : Bytes → Bytes) (c : Cfg) (hc : 1 ≤ c.maxStat) (tbl : Ref.Tbl)
    (m : SMap Bytes) (hm : Good content m) (k v : Bytes) (hk : IsRef tbl k) (hp : getPathOK k = true)
    (hg : get m k = some v) : Visible c tbl m k v := by
  have hget : handleGet tbl m k = .ok v := by
    unfold handleGet
    simp only [hp, Bool.not_true, Bool.false_eq_true, if_false]
    cases hpr : Ref.parse tbl k true with
    | none => simp [IsRef, hpr] at hk
    | some r => simp [Ref.C20_parse_toText tbl k true r hpr, hg]
  have hpass := statPass_single hg
  refine ⟨hget, by simp [clientFetch, hget], ?_, ?_, ?_⟩
  · intro j mw
    rw [handleStat_single c hc tbl m j k [49] mw (by simp) hk, hpass]
  · intro j
    have := (C18_client_stat_exact c hc tbl m j [k] none (by intro x hx; simp at hx; subst hx; exact hk)
      (haveOK_none m)).1
    rw [this, hpass]
  · intro okRef batch j waitSec hok hb
    refine ⟨sizes m, ?_, get_sizes_filter hm.1 hg⟩
    exact C18_client_enumerates_everything content c m hm okRef hok batch hb j waitSec (m.length + 1) (by omega)

/-- **C18, PUT then visible**: when `PUT <root>/camli/<ref>` answers 204 (hash = "the bytes are the
ones the ref denotes"), the bytes sent are the ref's content and, in the map after the request, the
blob is visible through every read path -/
theorem C18_put_then_visible (content : Bytes → Bytes) (c : Cfg) (hc : 1 ≤ c.maxStat) (tbl : Ref.Tbl)
    (m : SMap Bytes) (hm : Good content m) (k : Bytes) (hp : getPathOK k = true) (cl : Option Nat) (body : Bytes)
    (h204 : (handlePut c tbl m k cl (fun b => b == content k) body).2 = .noContent204) :
    Good content (handlePut c tbl m k cl (fun b => b == content k) body).1 ∧
    Visible c tbl (handlePut c tbl m k cl (fun b => b == content k) body).1 k body := by
  rcases handlePut_cases c tbl m k cl (fun b => b == content k) body with ⟨k', d, hr, hrecv, hput⟩ | ⟨_, hne⟩
  · obtain ⟨rfl, hisref⟩ := refOf_eq hr
    obtain ⟨rfl, hmt⟩ := receive_body_accepted hrecv
    have hbody : d = content k' := by simpa using hmt
    rw [hput]
    have hgood : Good content (next m (.recv k' d)) := good_next hm (.recv k' d) ⟨hbody, isRef_ne_nil hisref⟩
    exact ⟨hgood, C18_present_is_visible content c hc tbl _ hgood k' d hisref hp (get_next_recv hm k' d hbody)⟩
  · exact absurd h204 hne

/-- the hash test of every part is sound: only the content a ref denotes hashes to it -/
def SoundParts (content : Bytes → Bytes) (parts : List MPart) : Prop :=
  ∀ p ∈ parts, ∀ b, p.matches_ b = true → b = content p.name

theorem toPart_sound (content : Bytes → Bytes) (tbl : Ref.Tbl) (parts : List MPart) (hs : SoundParts content parts) :
    ∀ p ∈ parts.map (toPart tbl), p.parses = true →
      (p.key ≠ [] ∧ ∀ b, p.matches_ b = true → b = content p.key) ∧ IsRef tbl p.key := by
  intro p hp hpar
  obtain ⟨q, hq, rfl⟩ := List.mem_map.mp hp
  unfold toPart at hpar ⊢
  cases hr : refOf tbl q.name with
  | none => rw [hr] at hpar; simp at hpar
  | some ks =>
    obtain ⟨k, sup⟩ := ks
    obtain ⟨hk, hisref⟩ := refOf_eq hr
    subst hk
    simp only
    exact ⟨⟨isRef_ne_nil hisref, hs q hq⟩, hisref⟩

/-- **C18, multipart upload then visible**: for ANY map and ANY multipart request (any number of
parts, unparsable names, parts that fail) the map stays a good content-addressed map, nothing that was
there is lost, and every blob the response lists as received is in the map after the request with the
listed size – visible through every read path -/
theorem C18_multipart_then_visible (content : Bytes → Bytes) (c : Cfg) (hc : 1 ≤ c.maxStat) (tbl : Ref.Tbl)
    (m : SMap Bytes) (hm : Good content m) (parts : List MPart) (hs : SoundParts content parts) :
    Good content (handleMultipart c tbl m parts).1 ∧
    (∀ x v, get m x = some v → get (handleMultipart c tbl m parts).1 x = some v) ∧
    (∀ e ∈ (handleMultipart c tbl m parts).2.received,
      ∃ v, get (handleMultipart c tbl m parts).1 e.1 = some v ∧ v.length = e.2 ∧ v = content e.1 ∧
        (getPathOK e.1 = true → Visible c tbl (handleMultipart c tbl m parts).1 e.1 v)) := by
  unfold handleMultipart
  simp only
  have hsound := toPart_sound content tbl parts hs
  obtain ⟨hg, hmono, hl⟩ := multipartStore_spec content c.maxBlob (parts.map (toPart tbl)) m hm
    (fun p hp hpar => (hsound p hp hpar).1)
  refine ⟨hg, hmono, ?_⟩
  intro e he
  obtain ⟨v, hv, hlen⟩ := hl e he
  obtain ⟨p, hp, hpar, hkey, _⟩ := Recv.C02_multipart_lists_only_accepted c.maxBlob _ e he
  have hisref : IsRef tbl e.1 := hkey ▸ (hsound p hp hpar).2
  refine ⟨v, hv, hlen, (hg.2 e.1 v hv).1, fun hpath => ?_⟩
  exact C18_present_is_visible content c hc tbl _ hg e.1 v hisref hpath hv

/-- **C18, Client.Upload then visible**: for ANY map, ANY truthful have-cache, with or without the
pre-upload stat: whenever `Client.Upload` of a blob (the bytes are the ref's content) reports success –
uploaded, or skipped because the cache or the server's stat said the blob is there – the blob is in
the map after the call, visible through every read path; the map stays good and the cache truthful -/
theorem C18_client_upload_then_visible (content : Bytes → Bytes) (c : Cfg) (hc : 1 ≤ c.maxStat) (tbl : Ref.Tbl)
    (m : SMap Bytes) (hm : Good content m) (h : Have) (hh : HaveOK m h) (k : Bytes) (hk : IsRef tbl k)
    (hp : getPathOK k = true) (body : Bytes) (hb : body = content k) (skipStat : Bool) :
    Good content (clientUpload c (handleStat c tbl m []) (handleMultipart c tbl m) m h k
      (fun b => b == content k) body skipStat).1 ∧
    HaveOK (clientUpload c (handleStat c tbl m []) (handleMultipart c tbl m) m h k
      (fun b => b == content k) body skipStat).1
      (clientUpload c (handleStat c tbl m []) (handleMultipart c tbl m) m h k
        (fun b => b == content k) body skipStat).2.1 ∧
    (∀ n sk, (clientUpload c (handleStat c tbl m []) (handleMultipart c tbl m) m h k
        (fun b => b == content k) body skipStat).2.2 = .ok n sk →
      n = body.length ∧ Visible c tbl (clientUpload c (handleStat c tbl m []) (handleMultipart c tbl m) m h k
        (fun b => b == content k) body skipStat).1 k body) := by
  -- what is claimed of a result of the call
  let OK (r : SMap Bytes × Have × UploadResp) : Prop :=
    Good content r.1 ∧ HaveOK r.1 r.2.1 ∧ ∀ n sk, r.2.2 = .ok n sk → n = body.length ∧ Visible c tbl r.1 k body
  show OK _
  have err : ∀ m' h', Good content m' → HaveOK m' h' → OK (m', h', .err) :=
    fun _ _ g hh' => ⟨g, hh', fun _ _ hx => by cases hx⟩
  have done : ∀ m' h' sk, Good content m' → HaveOK m' h' → Visible c tbl m' k body → OK (m', h', .ok body.length sk) :=
    fun _ _ _ g hh' hv => ⟨g, hh', fun _ _ hx => by cases hx; exact ⟨rfl, hv⟩⟩
  have hthere : ∀ v, get m k = some v → v = body ∧ Visible c tbl m k body := by
    intro v hv
    obtain rfl : v = body := by rw [(hm.2 k v hv).1, hb]
    exact ⟨rfl, C18_present_is_visible content c hc tbl m hm k v hk hp hv⟩
  rcases clientUpload_cases c hc tbl m _ h hh k hk _ body skipStat _ rfl with
    e | ⟨v, hv, e⟩ | ⟨h0, v, hh0, hv, e⟩ | ⟨h0, hh0, e⟩ <;> rw [e]
  · exact err _ _ hm hh
  · exact done _ _ _ hm hh (hthere v hv).2
  · obtain ⟨rfl, hvis⟩ := hthere v hv
    exact done _ _ _ hm (haveOK_note hh0 k _ v hv rfl) hvis
  · have hs : SoundParts content [⟨k, fun b => b == content k, body⟩] := by
      intro p hp b hmt
      rw [List.mem_singleton.mp hp] at hmt ⊢
      simpa using hmt
    obtain ⟨hg, hmono, hl⟩ := C18_multipart_then_visible content c hc tbl m hm _ hs
    rcases clientUploadPost_cases (handleMultipart c tbl m) h0 k _ body with e' | ⟨hmem, e'⟩ <;> rw [e']
    · exact err _ _ hg (haveOK_mono hh0 hmono)
    · obtain ⟨v, hv, _, hvc, hvis⟩ := hl _ hmem
      obtain rfl : v = body := by rw [hvc, hb]
      exact done _ _ _ hg (haveOK_note (haveOK_mono hh0 hmono) k _ v hv rfl) (hvis hp)

/-- the other direction: a PUT of the bytes a supported ref denotes, within the size cap, with a truthful
(or no) Content-Length, is accepted – so "what it uploads" is never empty -/
theorem C18_put_valid_accepted (content : Bytes → Bytes) (c : Cfg) (tbl : Ref.Tbl) (m : SMap Bytes) (k : Bytes)
    (hr : refOf tbl k = some (k, true)) (body : Bytes) (hb : body = content k) (hlen : body.length ≤ c.maxBlob)
    (cl : Option Nat) (hcl : cl = none ∨ cl = some body.length) :
    handlePut c tbl m k cl (fun b => b == content k) body = (next m (.recv k body), .noContent204) := by
  unfold handlePut
  rw [hr]
  simp only
  rw [putDecision_eq]
  have hov : overCap c.maxBlob cl = false := by
    rcases hcl with h | h <;> subst h <;> simp [overCap]
    omega
  have hrecv : Recv.receive c.maxBlob true (fun b => b == content k) ⟨[body], .eof⟩ = .accepted body := by
    rw [Recv.receive_eq]
    subst hb
    simp [Recv.Src.total, hlen]
  simp [hov, putInner, hrecv]

/-- non-vacuity: a PUT that is accepted, a multipart request that lists a blob, a client upload that
succeeds, on a map that already holds blobs -/
example :
    (handlePut genCfg genTbl exMap (exKey 52) (some 2) (fun b => b == [9, 9]) [9, 9]).2 = .noContent204 ∧
    (handleMultipart genCfg genTbl exMap [⟨exKey 52, fun b => b == [9, 9], [9, 9]⟩, ⟨[120], fun _ => false, []⟩,
      ⟨exKey 53, fun b => b == [5], [6]⟩, ⟨exKey 54, fun b => b == [4], [4]⟩]).2 = ⟨[(exKey 52, 2)], true⟩ ∧
    (clientUpload genCfg (handleStat genCfg genTbl exMap []) (handleMultipart genCfg genTbl exMap) exMap (some [])
      (exKey 52) (fun b => b == [9, 9]) [9, 9] false).2 = (some [(exKey 52, 2)], .ok 2 false) ∧
    (clientUpload genCfg (handleStat genCfg genTbl exMap []) (handleMultipart genCfg genTbl exMap) exMap (some [])
      (exKey 51) (fun b => b == [7]) [7] false).2 = (some [(exKey 51, 1)], .ok 1 true) := by decide +kernel

/-- non-vacuity of the stat theorems: present and absent refs, a duplicate, and a hole -/
example :
    handleStat genCfg genTbl exMap [] ⟨true, [49], [exKey 51, exKey 52, exKey 49, exKey 51], []⟩ =
      .ok [(exKey 51, 1), (exKey 49, 3)] ∧
    handleStat genCfg genTbl exMap [] ⟨true, [49], [exKey 51, [], exKey 49], []⟩ = .ok [(exKey 51, 1)] ∧
    handleStat genCfg genTbl exMap [] ⟨true, [49], [exKey 51, [120]], []⟩ = .bad .bogus ∧
    handleStat genCfg genTbl exMap [] ⟨true, [], [exKey 51], []⟩ = .bad .noVersion := by decide +kernel

end Pk.BlobHTTP
