import PkVerif.Lemmas.BlobPackedStored
import PkVerif.Lemmas.BlobPackedWhole
import PkVerif.Lemmas.BlobPackedStops
import PkVerif.Lemmas.BlobPackedReindex
import PkVerif.Gen.C04
import PkVerif.Gen.Facts
/-!
# C04 – packing files into zips is invisible to clients and recoverable from the zips

Property theorems only.  `Pk.BP.*` models pkg/blobserver/blobpacked (see `Model/BlobPacked.lean` for
what is and is not modelled: the zip byte codec, the manifest JSON, the row text encodings and SHA-224
are uninterpreted; their values enter as the `ZipLayout` list, `H` and `K`, and every theorem holds
**for all** values of them).  `C : Ref → Bytes` is the content function (a ref denotes its bytes);
`Inv C s` is the invariant every reachable state has (`C04_reachable_inv`).

All pack theorems are for **every write budget** `bud` ("the first k lower-layer writes succeed, all
later ones fail, a loose-blob deletion hit at the boundary removes only a prefix of its refs"): the
state `pack` leaves for budget k is the state at the crash point after the k-th write, so a statement
for all budgets is a statement about every crash point between the writes of a pack.
-/
namespace Pk.BP
open Pk Pk.SMap

/-! ## facts regenerated from the source -/

/-- the order of the lower-layer writes of `writeAZip`: the zip is stored in `large`, then ONE meta
batch is committed, and only then (conditionally) the loose copies are removed from `small` -/
theorem C04_gen_writeAZip_order :
    Gen.bpWriteAZipEffects.map (·.e) = [.recvLarge, .metaCommit, .removeSmall] ∧
    spine Gen.bpWriteAZipEffects = [.recvLarge, .metaCommit] := by decide

/-- `pack`: the zips (in a loop), then the final whole-file row, unconditionally last -/
theorem C04_gen_pack_order :
    Gen.bpPackEffects.map (·.e) = [.nextPack, .recordMeta] ∧ spine Gen.bpPackEffects = [.recordMeta] := by decide

/-- `ReceiveBlob`: the loose store (conditional: only without a meta row) precedes the pack -/
theorem C04_gen_receive_order : Gen.bpReceiveEffects.map (·.e) = [.recvSmall, .nextPack] := by decide

/-- `RemoveBlobs` touches `small` and one meta batch, never `large`; `reindex` writes meta only -/
theorem C04_gen_remove_reindex_effects :
    Gen.bpRemoveEffects.map (·.e) = [.removeSmall, .recordMeta, .removeMeta, .metaCommit] ∧
    (Gen.bpReindexEffects.map (·.e)).all (fun e => e == .recordMeta || e == .metaCommit) = true := by decide

/-- the configuration as it is in /repo (default zip size limit): every field regenerated except
`manifestApprox`, copied from `approxSerializedSize` (see `Cfg.manifestApprox`) -/
def gcfg : Cfg :=
  { zipMax := Gen.maxBlobSize, packThreshold := Gen.bpPackThreshold, fixedOverhead := Gen.bpZipFixedOverhead,
    perEntryOverhead := Gen.bpZipPerEntryOverhead, manifestApprox := (204 + 0 * 119) / 2, legacy := false }

theorem C04_gen_constants : 0 < gcfg.packThreshold ∧ gcfg.fixedOverhead + gcfg.perEntryOverhead + gcfg.manifestApprox < gcfg.zipMax := by
  decide

/-! ## the client-visible answers, under the invariant -/

/-- **Fetch / Stat / SubFetch** are the reference map's answers on the set of visible blobs, and
**EnumerateBlobs** lists exactly the visible blobs after the cursor, ascending, each exactly once,
with the size of its content – wherever the bytes physically are (loose, packed, or both) -/
theorem C04_reads_are_reference_map (C : Ref → Bytes) (s : St) (h : Inv C s) :
    (∀ r, fetch s r = if present s r then .ok (C r) else .notExist) ∧
    (∀ r, stat s r = if present s r then some (C r).length else none) ∧
    (∀ r off len, subFetch s r off len =
      if present s r then (if off > (C r).length then .err else .ok (slice (C r) off len)) else .notExist) ∧
    (∀ after limit, ((enumerate s after limit).map (·.1)).Nodup ∧
      (∀ e ∈ enumerate s after limit, present s e.1 = true ∧ ltB after e.1 = true ∧ e.2 = (C e.1).length) ∧
      (∀ k, present s k = true → ltB after k = true → (enumerate s after limit).length < limit →
        k ∈ (enumerate s after limit).map (·.1))) := by
  refine ⟨fetch_eq h, stat_eq h, subFetch_eq h, fun after limit => ⟨enumerate_nodup h after limit, ?_, ?_⟩⟩
  · intro e he
    rw [enumerate_eq h] at he
    obtain ⟨k, hk, rfl⟩ := List.mem_map.mp he
    have hk' := List.mem_filter.mp (List.mem_of_mem_take hk)
    exact ⟨(mem_union_iff_present h k).mp hk'.1, hk'.2, rfl⟩
  · intro k hp hk hlen
    rw [enumerate_eq h] at hlen ⊢
    simp only [List.map_map, List.length_map, List.length_take] at hlen ⊢
    have : ((fun x : Bytes × Nat => x.1) ∘ fun k => (k, (C k).length)) = id := rfl
    rw [this, List.map_id, List.take_of_length_le (by omega)]
    exact List.mem_filter.mpr ⟨(mem_union_iff_present h k).mpr hp, hk⟩

/-- **StatBlobs reports every visible blob exactly once**: a batch stat calls `fn` once for each requested
ref that is visible, in request order, with the size of its content, and never for another ref – in
every state with the invariant, in particular while a blob is both packed and still loose (between
the meta batch of its zip and the deletion of the loose copies, after a failed deletion, after a crash
there and a restart).  For a request without repetitions no ref is reported twice. -/
theorem C04_statBlobs_exactly_once (C : Ref → Bytes) (s : St) (h : Inv C s) (refs : List Ref) :
    statBlobs s refs = (refs.filter (fun r => present s r)).map (fun r => (r, (C r).length)) ∧
    (refs.Nodup → ((statBlobs s refs).map (·.1)).Nodup) := by
  refine ⟨statBlobs_eq h refs, fun hn => ?_⟩
  rw [statBlobs_eq h refs, List.map_map]
  have : ((fun x : Ref × Nat => x.1) ∘ fun r => (r, (C r).length)) = id := rfl
  rw [this, List.map_id]
  exact hn.sublist List.filter_sublist

/-- a batch stat is the same at every point a pack can stop in as before the pack -/
theorem C04_statBlobs_pack_invisible (C : Ref → Bytes) (env : PackEnv) (s : St) (bud : Budget) (fileRef : Ref)
    (lays : List ZipLayout) (fuel : Nat) (h : Inv C s) (refs : List Ref) :
    statBlobs (packFile env s bud fileRef lays fuel).s refs = statBlobs s refs := by
  obtain ⟨h', v⟩ := packFile_sound (C := C) env s bud fileRef lays fuel h
  rw [statBlobs_eq h', statBlobs_eq h]
  congr 1
  apply List.filter_congr
  intro r _
  rw [v.pres]

/-! ## the pack -/

/-- **every state a pack can stop in is invisible.**  For every file schema blob, every parse `K`,
every zip layout values, every fuel and every write budget (= every crash point between the writes
of the pack: after the zip is stored, after the meta batch, during or after the loose-blob deletion,
before the final whole-file row), the state left behind satisfies the invariant and answers every
Fetch, Stat, SubFetch and EnumerateBlobs exactly as the state before the pack. -/
theorem C04_pack_steps_invisible (C : Ref → Bytes) (env : PackEnv) (s : St) (bud : Budget) (fileRef : Ref)
    (lays : List ZipLayout) (fuel : Nat) (h : Inv C s) :
    let s' := (packFile env s bud fileRef lays fuel).s
    Inv C s' ∧ (∀ r, fetch s' r = fetch s r) ∧ (∀ r, stat s' r = stat s r) ∧
    (∀ r off len, subFetch s' r off len = subFetch s r off len) ∧
    (∀ after limit, enumerate s' after limit = enumerate s after limit) := by
  obtain ⟨h', v⟩ := packFile_sound (C := C) env s bud fileRef lays fuel h
  exact ⟨h', reads_eq_of_sameView h h' v⟩

/-- each of the four write kinds of a pack on its own: the zip stored in `large`; the meta batch of a
zip that is in `large` and whose blobs are all visible; the deletion from `small` of ANY set of blobs
that have `b:` rows (so also every partially executed deletion); the final whole-file row -/
theorem C04_each_write_invisible (C : Ref → Bytes) (s : St) (h : Inv C s) :
    (∀ zr z, ZipWF C z → Inv C (putLarge s zr z) ∧ SameView s (putLarge s zr z)) ∧
    (∀ zr z w, get s.large zr = some z →
      (∀ x, (zipBlobRows zr z).any (fun p => p.1 == x) = true → present s x = true) →
      Inv C (commitZip s zr z w) ∧ SameView s (commitZip s zr z w)) ∧
    (∀ refs, (∀ r ∈ refs, (get s.b r).isSome = true) → Inv C (delSmall s refs) ∧ SameView s (delSmall s refs)) ∧
    (∀ w a b, Inv C (setWhole s w a b) ∧ SameView s (setWhole s w a b)) :=
  ⟨fun zr z hz => ⟨inv_putLarge h zr z hz, sameView_putLarge s zr z⟩,
   fun zr z w hz hp => ⟨inv_commitZip h zr z w hz, sameView_commitZip s zr z w hp⟩,
   fun refs hr => ⟨inv_delSmall h refs, sameView_delSmall h.ksmall refs hr⟩,
   fun w a b => ⟨inv_setWhole h w a b, sameView_setWhole s w a b⟩⟩

/-- **ReceiveBlob refines the reference map**, whatever the pack it triggers does and wherever it is
cut: an acknowledged blob is visible afterwards with its bytes, nothing else changes; a failed
receive (the loose store failed) changes nothing -/
theorem C04_receive_refines (C : Ref → Bytes) (env : PackEnv) (s : St) (bud : Budget) (r : Ref)
    (lays : List ZipLayout) (fuel : Nat) (h : Inv C s) :
    let res := receive env s bud r (C r) lays fuel
    Inv C res.s ∧
    (res.size ≠ none → fetch res.s r = .ok (C r) ∧ ∀ x, x ≠ r → fetch res.s x = fetch s x ∧ stat res.s x = stat s x) ∧
    (res.size = none → ∀ x, fetch res.s x = fetch s x ∧ stat res.s x = stat s x) := by
  obtain ⟨h', hn, hs⟩ := receive_sound (C := C) env s bud r (C r) lays fuel h rfl
  refine ⟨h', fun hne => ?_, fun he x => fetch_stat_congr h h' ((hn he).pres x)⟩
  have hp := hs hne
  exact ⟨by rw [fetch_eq h', hp]; simp, fun x hx => fetch_stat_congr h h' (by rw [hp]; simp [hx])⟩

/-- **RemoveBlobs refines the reference map** (the code after the `fix:` commit): the removed blob is
gone – also when it was both packed and still loose – and nothing else changes -/
theorem C04_remove_refines (C : Ref → Bytes) (c : Cfg) (hc : c.legacy = false) (s : St) (r : Ref) (h : Inv C s) :
    Inv C (remove c s r) ∧ fetch (remove c s r) r = .notExist ∧ stat (remove c s r) r = none ∧
    ∀ x, x ≠ r → fetch (remove c s r) x = fetch s x ∧ stat (remove c s r) x = stat s x := by
  obtain ⟨h', hp⟩ := remove_sound (C := C) c hc s r h
  exact ⟨h', by rw [fetch_eq h', hp]; simp, by rw [stat_eq h', hp]; simp,
    fun x hx => fetch_stat_congr h h' (by rw [hp]; simp [hx])⟩

/-- the states reachable from the empty storage by receives of well-keyed blobs (with any packs, cut
anywhere), removals and successful recoveries -/
inductive Reachable (C : Ref → Bytes) (c : Cfg) : St → Prop where
  | empty : Reachable C c St.empty
  | recv (s : St) (K : Ref → Kind) (H : Bytes → Ref) (bud : Budget) (r : Ref) (lays : List ZipLayout) (fuel : Nat) :
      Reachable C c s → Reachable C c (receive ⟨c, K, H⟩ s bud r (C r) lays fuel).s
  | rm (s : St) (r : Ref) : Reachable C c s → Reachable C c (remove c s r)
  | recover (s s' : St) (full : Bool) : Reachable C c s → reindex full s = (s', .ok) → Reachable C c s'

/-- every reachable state satisfies the invariant -/
theorem C04_reachable_inv (C : Ref → Bytes) (c : Cfg) (hc : c.legacy = false) (s : St) (h : Reachable C c s) :
    Inv C s := by
  induction h with
  | empty => exact inv_empty C
  | recv s K H bud r lays fuel _ ih => exact (receive_sound (C := C) ⟨c, K, H⟩ s bud r (C r) lays fuel ih rfl).1
  | rm s r _ ih => exact (remove_sound c hc s r ih).1
  | recover s s' full _ hr ih => exact (reindex_sound full s s' ih hr).1

/-! ## the zips a pack produces, and reading the file back -/

/-- **every zip a pack stores is valid** (for every budget, fuel and layout values): it is in `large`,
its byte size is within the zip size limit (the post-check of `writeAZip`), it is well-formed
(`ZipWF`: the manifest entries and schema blobs lie where the layout says and hold their blobs'
content), it carries the file's whole ref / whole size and its own part index, and **its first file
is the contiguous slice `[off, off+len)` of the concatenation of the file's chunks**, with manifest
offsets that are the running sums of the sizes.  The stored zips are numbered 0, 1, 2, … and their
offsets are the running sums of their data lengths (`Chain`); a pack that returns without error has
covered all the bytes. -/
theorem C04_zip_valid (C : Ref → Bytes) (env : PackEnv) (s : St) (bud : Budget) (fileRef : Ref)
    (lays : List ZipLayout) (fuel : Nat) (h : Inv C s) :
    let res := packFile env s bud fileRef lays fuel
    (∀ p ∈ res.zips, ∃ W, fileBytes env.K s fileRef = some W ∧
      GoodZip C env.c.zipMax (bytesOf C (chunkRefs env.K s fileRef)) (env.H W) W.length res.s p) ∧
    Chain res.zips 0 0 ∧
    (res.ok = true → sumLen res.zips = (bytesOf C (chunkRefs env.K s fileRef)).length) :=
  packFile_zips env s bud fileRef lays fuel h

/-- for a plain file (every data part is its whole blob from offset 0, every "bytes" part its whole
sub-tree from offset 0 – what every perkeep file writer produces) the bytes the file reader delivers
ARE the concatenation of the chunks in scan order, so `C04_zip_valid` speaks about slices of the
file's contents -/
theorem C04_plain_file_bytes (C : Ref → Bytes) (K : Ref → Kind) (s : St) (h : Inv C s) (fileRef : Ref) (v W : Bytes)
    (parts : List Part) (hv : fetch s fileRef = .ok v) (hk : (K fileRef).parts? = some parts)
    (hplain : simpleParts K C scanFuel parts = true)
    (hscan : (scanParts K s scanFuel [(fileRef, v)] parts).isSome = true)
    (hW : fileBytes K s fileRef = some W) :
    W = bytesOf C (chunkRefs K s fileRef) := by
  cases htbl : scanParts K s scanFuel [(fileRef, v)] parts with
  | none => rw [htbl] at hscan; cases hscan
  | some tbl =>
    have hcr : chunkRefs K s fileRef = tbl.map (·.ref) := by
      unfold chunkRefs; rw [hv, hk]; simp only; rw [htbl]
    have hW' : denoteParts K s scanFuel parts = some W := by
      unfold fileBytes at hW; rw [hk] at hW; exact hW
    rw [hcr]
    exact (simple_denote h K scanFuel _ parts tbl W hplain htbl hW').1

/-- **whole-file read from any offset = the file bytes.**  After a pack that ran to completion (first
pack of this content: no `w:` rows for its whole ref before), `OpenWholeRef(whole, off)` returns the
whole size and exactly the file's bytes from `off` on – for every offset, single- or multi-zip -/
theorem C04_wholeref_read (C : Ref → Bytes) (env : PackEnv) (s : St) (bud : Budget) (fileRef : Ref)
    (lays : List ZipLayout) (fuel : Nat) (h : Inv C s) (W : Bytes)
    (hW : fileBytes env.K s fileRef = some W) (hchunks : W = bytesOf C (chunkRefs env.K s fileRef))
    (hfresh : get s.w (env.H W) = none) (hok : (packFile env s bud fileRef lays fuel).ok = true) (off : Nat) :
    openWholeRef (packFile env s bud fileRef lays fuel).s (env.H W) off = .ok W.length (W.drop off) := by
  obtain ⟨hg, hc, hsum⟩ := packFile_zips_plain (C := C) env s bud fileRef lays fuel h W hW hchunks
  exact openWholeRef_of_pack _ (env.H W) W.length _ W (packFile_w (C := C) env s bud fileRef lays fuel h W hW hfresh hok)
    (fun p hp => goodZip_backed (hg p hp)) hc (hsum hok) rfl off

/-- **`pack` terminates** (the code after the `fix:` commit: `writeAZip` returns an error instead of
storing a zip without data blobs): for `R` chunks, `(R+1)²` iterations of the `MakingZips` loop always
suffice, whatever the sizes, the layout values, the trunc hints and the budget – every stored zip
consumes at least one chunk and consecutive truncate-retries write strictly fewer chunks -/
theorem C04_pack_terminates (env : PackEnv) (hleg : env.c.legacy = false) (nameOK : Bool) (tbl : List Chunk)
    (whole : Ref) (wsz fuel : Nat) (s : St) (bud : Budget) (remain : List Ref) (lays : List ZipLayout)
    (hfuel : (remain.length + 1) * (remain.length + 1) ≤ fuel) :
    (packLoop env nameOK tbl whole wsz fuel s bud remain 0 0 none lays 0 0 []).outOfFuel = false := by
  apply packLoop_terminates env hleg
  have : (remain.length + 1) * (remain.length + 1) = remain.length * (remain.length + 1) + remain.length + 1 := by
    simp only [Nat.add_mul, Nat.one_mul]; omega
  simp only [cut]; omega

/-- **the start-up integrity check after a crash**: a pack stores the zip before it commits the zip's
`z:` row, and `large` never shrinks, so at every crash point (and after any removal) every `z:` row names
a zip that exists: `checkLargeIntegrity` can report zips missing from the index (→ fast recovery is
enough), never index rows without a zip (→ it never demands a full recovery) -/
theorem C04_integrity_after_crash (C : Ref → Bytes) (env : PackEnv) (s : St) (bud : Budget) (r : Ref)
    (lays : List ZipLayout) (fuel : Nat) (h : Inv C s) (hz : ZInv s) :
    ZInv (receive env s bud r (C r) lays fuel).s ∧
    checkLargeIntegrity (receive env s bud r (C r) lays fuel).s ≠ .full ∧
    (∀ x, ZInv (remove env.c s x) ∧ checkLargeIntegrity (remove env.c s x) ≠ .full) :=
  ⟨receive_zinv env s bud r (C r) lays fuel h rfl hz,
   integrity_not_full _ (receive_zinv env s bud r (C r) lays fuel h rfl hz),
   fun x => ⟨remove_zinv env.c s x hz, integrity_not_full _ (remove_zinv env.c s x hz)⟩⟩

/-! ## recovery from the zips -/

/-- nothing that is inside a zip has been removed -/
def NothingRemoved (s : St) : Prop := ∀ x, inSomeZip s.large x = true → present s x = true

/-- **recovery is invisible when nothing was removed**: rebuilding the meta index from the zips (fast:
on top of the existing rows; full: from scratch) serves every blob exactly as before – in particular
after any crash point of any pack -/
theorem C04_recover_invisible_partial (C : Ref → Bytes) (s s' : St) (full : Bool) (h : Inv C s)
    (hn : NothingRemoved s) (hr : reindex full s = (s', .ok)) :
    Inv C s' ∧ (∀ r, fetch s' r = fetch s r) ∧ (∀ r, stat s' r = stat s r) ∧
    (∀ r off len, subFetch s' r off len = subFetch s r off len) ∧
    (∀ after limit, enumerate s' after limit = enumerate s after limit) := by
  obtain ⟨h', hp⟩ := reindex_sound (C := C) full s s' h hr
  refine ⟨h', reads_eq_of_sameView h h' ⟨fun x => ?_⟩⟩
  rw [hp]
  by_cases hz : inSomeZip s.large x = true
  · simp [hz, hn x hz]
  · have hz' : inSomeZip s.large x = false := by simpa using hz
    by_cases hf : full = true
    · -- a packed blob is inside the zip its row names
      simp only [hf, if_true, hz', Bool.or_false]
      unfold present
      cases hb : get s.b x with
      | none => simp
      | some row =>
        obtain ⟨z, hzz, hm⟩ := h.b_ok x row hb
        have : inSomeZip s.large x = true :=
          List.any_eq_true.mpr ⟨(row.zip, z), get_some_mem hzz, any_row_of_mem hm⟩
        rw [this] at hz'; cases hz'
    · simp [hf, hz']

/-- **rebuilding the meta rows from the zips yields the rows packing wrote**: after a complete first
pack of a file (no zips of its whole ref before), a full recovery that succeeds writes – from the zips
alone, the whole index having been wiped – exactly the whole-file rows (`w:<whole>` and every
`w:<whole>:<i>`) the pack wrote, and `OpenWholeRef` serves the file from every offset as before.
(The `b:` rows are rebuilt too – `C04_recover_invisible_partial`: same keys, each pointing at a zip
that holds the blob – but a blob contained in several zips, like the file schema blob of a multi-zip
file, may point at another of them: recovery takes the zip with the greatest ref, packing the last one
written.) -/
theorem C04_reindex_rebuilds_whole_rows (C : Ref → Bytes) (env : PackEnv) (s : St) (bud : Budget) (fileRef : Ref)
    (lays : List ZipLayout) (fuel : Nat) (h : Inv C s) (W : Bytes)
    (hW : fileBytes env.K s fileRef = some W) (hchunks : W = bytesOf C (chunkRefs env.K s fileRef)) (hWne : W ≠ [])
    (hfresh : get s.w (env.H W) = none)
    (hnoz : ∀ k z, get s.large k = some z → z.wholeRef ≠ env.H W)
    (hok : (packFile env s bud fileRef lays fuel).ok = true)
    (s'' : St) (hr : reindex true (packFile env s bud fileRef lays fuel).s = (s'', .ok)) :
    get s''.w (env.H W) = get (packFile env s bud fileRef lays fuel).s.w (env.H W) ∧
    ∀ off, openWholeRef s'' (env.H W) off = .ok W.length (W.drop off) := by
  obtain ⟨hg', hc, hsum⟩ := packFile_zips_plain (C := C) env s bud fileRef lays fuel h W hW hchunks
  have hsum' := hsum hok
  have hw := packFile_w (C := C) env s bud fileRef lays fuel h W hW hfresh hok
  have hinv := (packFile_sound (C := C) env s bud fileRef lays fuel h).1
  have hne : (packFile env s bud fileRef lays fuel).zips ≠ [] := by
    intro e
    rw [e] at hsum'
    exact hWne (List.eq_nil_of_length_eq_zero hsum'.symm)
  have hbound : ∀ k z, get (packFile env s bud fileRef lays fuel).s.large k = some z → z.wholeRef = env.H W →
      ∃ p ∈ (packFile env s bud fileRef lays fuel).zips, p.zr = k := fun k z hk hwr =>
    (packFile_large (C := C) env s bud fileRef lays fuel h hok k z hk).resolve_left fun hold => hnoz k z hold hwr
  have hrows := reindex_full_whole_rows _ s'' (env.H W) W.length _ hinv.klarge (fun p hp => zmiOf_good (hg' p hp))
    hc hne hsum' hbound hr
  refine ⟨by rw [hrows, hw], fun off => ?_⟩
  have hl := reindex_large true _ s'' hr
  exact openWholeRef_of_pack s'' (env.H W) W.length _ W hrows
    (fun p hp => goodZip_backed ((hg' p hp).mono fun _ _ hz => by rw [hl]; exact hz)) hc hsum' rfl off

/-- **a crash at any point of a pack, followed by a restart with recovery, is invisible**: "nothing
inside a zip has been removed" survives every receive and every step of the pack it triggers (also the
step that leaves a stored but un-indexed zip behind), so the state at every crash point satisfies the
hypothesis of `C04_recover_invisible_partial`: whatever the budget, a recovery (fast or full) that
succeeds serves every blob exactly as the state it started from -/
theorem C04_crash_then_recover_invisible (C : Ref → Bytes) (env : PackEnv) (s : St) (bud : Budget) (r : Ref)
    (lays : List ZipLayout) (fuel : Nat) (h : Inv C s) (hn : NothingRemoved s) (full : Bool) (s2 : St)
    (hr : reindex full (receive env s bud r (C r) lays fuel).s = (s2, .ok)) :
    NothingRemoved (receive env s bud r (C r) lays fuel).s ∧ Inv C s2 ∧
    (∀ x, fetch s2 x = fetch (receive env s bud r (C r) lays fuel).s x) ∧
    (∀ x, stat s2 x = stat (receive env s bud r (C r) lays fuel).s x) ∧
    (∀ x off len, subFetch s2 x off len = subFetch (receive env s bud r (C r) lays fuel).s x off len) ∧
    (∀ after limit, enumerate s2 after limit = enumerate (receive env s bud r (C r) lays fuel).s after limit) := by
  have h1 := (receive_sound (C := C) env s bud r (C r) lays fuel h rfl).1
  have n1 : NothingRemoved (receive env s bud r (C r) lays fuel).s :=
    (nr_iff_inSomeZip h1.klarge).mp (receive_nr (C := C) env s bud r (C r) lays fuel h rfl ((nr_iff_inSomeZip h.klarge).mpr hn))
  exact ⟨n1, C04_recover_invisible_partial C _ s2 full h1 n1 hr⟩

/-! ## a concrete tiny world (non-vacuity of the hypotheses, witnesses of the counterexamples) -/

namespace Tiny

def rA : Ref := [1]
def rB : Ref := [2]
def rF : Ref := [9]

def C : Ref → Bytes := fun r => if r = rA then [10, 11] else if r = rB then [20] else [30, 31]

/-- packing threshold 2 bytes, zip limit 1000 -/
def cfg : Cfg := ⟨1000, 2, 10, 5, 1, false⟩

def K : Ref → Kind := fun r =>
  if r = rF then .file true [⟨.blob, rA, 0, 2⟩, ⟨.blob, rB, 0, 1⟩] else .raw

def env : PackEnv := ⟨cfg, K, fun _ => [7]⟩

/-- zip ref `[8]`, 100 bytes, the first file's data at 10, the file schema blob's data at 20 -/
def lay : ZipLayout := ⟨[8], 100, 10, [20]⟩

def s1 : St := (receive env St.empty Budget.unlimited rA (C rA) [] 10).s
def s2 : St := (receive env s1 Budget.unlimited rB (C rB) [] 10).s
/-- the file schema blob arrives: the file (3 bytes ≥ threshold 2) is packed into one zip -/
def s3 : St := (receive env s2 Budget.unlimited rF (C rF) [lay] 10).s
/-- the same, cut after the meta batch (3 writes: loose store, zip, meta): packed AND still loose -/
def s3cut : St := (receive env s2 ⟨some 3, 0, false⟩ rF (C rF) [lay] 10).s

theorem reach3 : Reachable C cfg s3 :=
  .recv _ K _ _ rF [lay] 10 (.recv _ K _ _ rB [] 10 (.recv _ K _ _ rA [] 10 .empty))

theorem reach3cut : Reachable C cfg s3cut :=
  .recv _ K _ _ rF [lay] 10 (.recv _ K _ _ rB [] 10 (.recv _ K _ _ rA [] 10 .empty))

end Tiny

/-- packed and still loose (pack cut after the meta batch): each blob is stat-ed once, not twice -/
example : statBlobs Tiny.s3cut [Tiny.rF, Tiny.rA, [3], Tiny.rB] = [(Tiny.rF, 2), (Tiny.rA, 2), (Tiny.rB, 1)] := by decide +kernel

/-- the hypotheses of the pack / read theorems hold in a non-trivial state: one zip in `large` holding
two data blobs and the file schema blob, all three packed and no longer loose, the whole-file row
written; and, cut after the meta batch, the same three blobs packed **and** still loose -/
example : Inv Tiny.C Tiny.s3 ∧ Tiny.s3.small = [] ∧ Tiny.s3.large.length = 1 ∧ Tiny.s3.b.length = 3 ∧
    (get Tiny.s3.w [7]).bind (·.final) = some (3, 1) ∧
    Inv Tiny.C Tiny.s3cut ∧ Tiny.s3cut.small.length = 3 ∧ Tiny.s3cut.b.length = 3 :=
  ⟨C04_reachable_inv _ _ rfl _ Tiny.reach3, by decide, by decide, by decide, by decide,
   C04_reachable_inv _ _ rfl _ Tiny.reach3cut, by decide, by decide⟩

example : NothingRemoved Tiny.s3 ∧ (reindex true Tiny.s3).2 = .ok := by
  refine ⟨?_, by decide⟩
  -- nothing was ever removed: the property holds of the empty storage and survives the three receives
  have i1 := (receive_sound Tiny.env St.empty .unlimited Tiny.rA _ [] 10 (inv_empty Tiny.C) rfl).1
  have i2 := (receive_sound Tiny.env Tiny.s1 .unlimited Tiny.rB _ [] 10 i1 rfl).1
  have i3 := (receive_sound Tiny.env Tiny.s2 .unlimited Tiny.rF _ [Tiny.lay] 10 i2 rfl).1
  have n1 := receive_nr Tiny.env St.empty .unlimited Tiny.rA _ [] 10 (inv_empty Tiny.C) rfl (fun _ _ h => nomatch h)
  have n2 := receive_nr Tiny.env Tiny.s1 .unlimited Tiny.rB _ [] 10 i1 rfl n1
  exact (nr_iff_inSomeZip i3.klarge).mp (receive_nr Tiny.env Tiny.s2 .unlimited Tiny.rF _ [Tiny.lay] 10 i2 rfl n2)

/-- the integrity check in the tiny world: a pack cut right after the zip was stored (2 writes) leaves a
zip without rows – fast recovery is what the check asks for; the complete state asks for nothing -/
example : ZInv St.empty ∧ checkLargeIntegrity Tiny.s3 = .none ∧
    checkLargeIntegrity (receive Tiny.env Tiny.s2 ⟨some 2, 0, false⟩ Tiny.rF (Tiny.C Tiny.rF) [Tiny.lay] 10).s = .fast :=
  ⟨zinv_empty, by decide, by decide⟩

/-- in the tiny world: the pack completes, the file is plain, and reading it back from offset 1 gives its
last two bytes -/
example : (packFile Tiny.env (putSmall Tiny.s2 Tiny.rF (Tiny.C Tiny.rF)) Budget.unlimited Tiny.rF [Tiny.lay] 10).ok = true ∧
    simpleParts Tiny.K Tiny.C scanFuel [⟨.blob, Tiny.rA, 0, 2⟩, ⟨.blob, Tiny.rB, 0, 1⟩] = true ∧
    fileBytes Tiny.K (putSmall Tiny.s2 Tiny.rF (Tiny.C Tiny.rF)) Tiny.rF = some [10, 11, 20] ∧
    openWholeRef Tiny.s3 [7] 1 = .ok 3 [11, 20] := by decide +kernel

/-- the hypotheses of `C04_reindex_rebuilds_whole_rows` hold in the tiny world, and a full recovery there
gives back the very same meta rows (`b:`, `w:`, `z:`) the pack wrote -/
example : get (putSmall Tiny.s2 Tiny.rF (Tiny.C Tiny.rF)).w [7] = none ∧ (putSmall Tiny.s2 Tiny.rF (Tiny.C Tiny.rF)).large = [] ∧
    (reindex true Tiny.s3).2 = .ok ∧ (reindex true Tiny.s3).1.b = Tiny.s3.b ∧ (reindex true Tiny.s3).1.w = Tiny.s3.w ∧
    (reindex true Tiny.s3).1.z = Tiny.s3.z := by decide +kernel

/-- **removed blobs come back on recovery** (the documented TODO at the end of `reindex`): the full
statement – recovery never changes what clients see – is false.  Witness: pack, remove a chunk, recover
in fast mode: the chunk is fetchable again. -/
theorem C04_recover_invisible_counterexample :
    ¬ (∀ (C : Ref → Bytes) (c : Cfg) (s s' : St) (full : Bool), c.legacy = false → Reachable C c s →
        reindex full s = (s', .ok) → ∀ r, fetch s' r = fetch s r) := by
  intro hall
  have hr : Reachable Tiny.C Tiny.cfg (remove Tiny.cfg Tiny.s3 Tiny.rA) := .rm _ _ Tiny.reach3
  have hok : (reindex false (remove Tiny.cfg Tiny.s3 Tiny.rA)).2 = .ok := by decide
  have := hall Tiny.C Tiny.cfg _ (reindex false (remove Tiny.cfg Tiny.s3 Tiny.rA)).1 false rfl hr
    (Prod.ext rfl hok) Tiny.rA
  revert this
  decide

namespace Tiny2

/-- a second tiny world, zip limit 26: the file schema blob `rF` (2 bytes) lets both chunks into one zip,
the schema blob `rG` of the same file under another name (3 bytes) only the first one -/
def rG : Ref := [5]
def C : Ref → Bytes := fun r => if r = Tiny.rA then [10, 11] else if r = Tiny.rB then [20] else if r = rG then [30, 31, 32] else [30, 31]
def cfg : Cfg := ⟨26, 2, 10, 5, 1, false⟩
def K : Ref → Kind := fun r =>
  if r = Tiny.rF ∨ r = rG then .file true [⟨.blob, Tiny.rA, 0, 2⟩, ⟨.blob, Tiny.rB, 0, 1⟩] else .raw
def H : Bytes → Ref := fun _ => [7]
def t1 : St := (receive ⟨cfg, K, H⟩ St.empty Budget.unlimited Tiny.rA (C Tiny.rA) [] 10).s
def t2 : St := (receive ⟨cfg, K, H⟩ t1 Budget.unlimited Tiny.rB (C Tiny.rB) [] 10).s
/-- the first pack is cut after the meta batch of its only zip (which holds both chunks) -/
def t3 : St := (receive ⟨cfg, K, H⟩ t2 ⟨some 3, 0, false⟩ Tiny.rF (C Tiny.rF) [⟨[8], 20, 5, [10]⟩] 10).s
/-- the same bytes under the other name: two zips, the first with one chunk -/
def t4 : St := (receive ⟨cfg, K, H⟩ t3 Budget.unlimited rG (C rG) [⟨[18], 20, 5, [10]⟩, ⟨[19], 20, 5, [10]⟩] 10).s

theorem reach4 : Reachable C cfg t4 :=
  .recv _ K H _ rG _ 10 (.recv _ K H _ Tiny.rF _ 10 (.recv _ K H _ Tiny.rB [] 10 (.recv _ K H _ Tiny.rA [] 10 .empty)))

end Tiny2

/-- **recovery can fail** (`hasDups` panics): the full statement "after any history of packs, cut
anywhere, recovery from the zips succeeds" is false.  Witness: a pack cut after its first zip, the same
bytes packed under another name with a different split; `large` then holds two zips with the same
whole ref and part index but different data sizes (3 zips in all), and both recovery modes panic.
The recovery theorems above therefore carry the explicit guard `reindex full s = (s', .ok)`. -/
theorem C04_recover_succeeds_counterexample :
    ¬ (∀ (C : Ref → Bytes) (c : Cfg) (s : St) (full : Bool), c.legacy = false → Reachable C c s →
        (reindex full s).2 = .ok) := by
  intro hall
  have h1 := hall Tiny2.C Tiny2.cfg Tiny2.t4 false rfl Tiny2.reach4
  revert h1
  decide +kernel

example : Tiny2.t4.large.length = 3 ∧ (reindex false Tiny2.t4).2 = .panic ∧ (reindex true Tiny2.t4).2 = .panic ∧
    openWholeRef Tiny2.t4 [7] 0 = .ok 3 [10, 11, 20] := by decide +kernel

/-- the code before the `fix:` commit (`legacy = true`): removing a blob that is packed and still loose
(a pack cut after its meta batch) left it fetchable -/
theorem C04_remove_legacy_counterexample :
    fetch (remove { Tiny.cfg with legacy := true } Tiny.s3cut Tiny.rA) Tiny.rA = .ok [10, 11] ∧
    fetch (remove Tiny.cfg Tiny.s3cut Tiny.rA) Tiny.rA = .notExist := by decide

/-- the code before the `fix:` commit (`legacy = true`) did not terminate when not even the first chunk
fits under the zip size limit: every iteration stores one more zip without data and consumes nothing
(here: zip limit 12 bytes, 20 iterations, 20 empty zips, still not done); the repaired code returns an
error at once and stores nothing -/
theorem C04_pack_legacy_nontermination_counterexample :
    let lays := (List.range 20).map (fun i => (⟨[100 + i], 10, 5, []⟩ : ZipLayout))
    let tbl : List Chunk := [⟨Tiny.rA, 2, [(Tiny.rF, [30, 31])]⟩, ⟨Tiny.rB, 1, [(Tiny.rF, [30, 31])]⟩]
    let old := packLoop ⟨{ Tiny.cfg with zipMax := 12, legacy := true }, Tiny.K, fun _ => [7]⟩ true tbl [7] 3 20
      (putSmall Tiny.s2 Tiny.rF [30, 31]) Budget.unlimited [Tiny.rA, Tiny.rB] 0 0 none lays 0 0 []
    let new := packLoop ⟨{ Tiny.cfg with zipMax := 12 }, Tiny.K, fun _ => [7]⟩ true tbl [7] 3 20
      (putSmall Tiny.s2 Tiny.rF [30, 31]) Budget.unlimited [Tiny.rA, Tiny.rB] 0 0 none lays 0 0 []
    old.outOfFuel = true ∧ old.zips.length = 20 ∧ old.s.large.length = 20 ∧
    new.outOfFuel = false ∧ new.ok = false ∧ new.zips = [] ∧ new.s.large = [] := by decide +kernel

end Pk.BP
