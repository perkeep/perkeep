import PkVerif.Model.MergedEnum
/-!
# Correctness of the n-way merge of pkg/blobserver/mergedenum.go (core Lean only)

For ANY number of sources, each strictly ascending by key (`Pk.ltB`):

* `merged_keys_eq`         keys sent = the `limit` smallest keys of the union of the sources' keys
* `merged_asc`, `merged_length_le`, `merged_mem_keys`
* `merged_take_limit`      cutting every source at `limit` first changes nothing
* `merged_first_source`    an entry comes from the first source that has its key
* `mergedEnumerateStorage_keys`  with the `after` cursor and `limit` passed to well-behaved sources
-/
namespace Pk.MergedEnum

/-- strictly ascending by key, as `Pairwise` on the entries: `SMap.KAsc` of the same list (`SR = Bytes × Nat`) -/
def PW (s : List SR) : Prop := s.Pairwise (fun a b => ltB a.1 b.1 = true)

theorem ascK_iff_pw (s : List SR) : Asc ltB (keys s) ↔ PW s := by
  rw [asc_iff_pairwise ltB stB, keys, List.pairwise_map]; rfl

theorem ltB_false_of_lt {a b : Bytes} (h : ltB a b = true) : ltB b a = false := ltB_asymm a b h

theorem tooLow_some (l k : Bytes) : tooLow (some l) k = !ltB l k := by
  simp only [tooLow]
  rcases ltB_total l k with h | h | h
  · have h2 := ltB_asymm _ _ h
    have hne : (k == l) = false := by
      cases hb : k == l with
      | false => rfl
      | true => have := eq_of_beq hb; subst this; rw [ltB_irrefl] at h; cases h
    simp [h, h2, hne]
  · subst h; simp [ltB_irrefl]
  · have h2 := ltB_asymm _ _ h
    simp [h, h2]

theorem tooLow_mono (last : Option Bytes) {a b : Bytes} (ha : tooLow last a = false)
    (hab : ltB a b = true) : tooLow last b = false := by
  cases last with
  | none => rfl
  | some l =>
    rw [tooLow_some] at ha ⊢
    have hla : ltB l a = true := by simpa using ha
    simp [ltB_trans _ _ _ hla hab]

theorem skipLow_none (s : List SR) : skipLow none s = s := by
  cases s <;> simp [skipLow, tooLow]

/-- on an ascending source the entries skipped are exactly the too-low ones: after one entry that is high
enough, all are -/
theorem skipLow_eq_filter (last : Option Bytes) {s : List SR} (hs : PW s) :
    skipLow last s = s.filter (fun x => !tooLow last x.1) := by
  induction s with
  | nil => rfl
  | cons a t ih =>
    obtain ⟨h1, h2⟩ := List.pairwise_cons.mp hs
    by_cases ha : tooLow last a.1 = true
    · rw [skipLow, if_pos ha, ih h2, List.filter_cons_of_neg (by simp [ha])]
    · have ha' : tooLow last a.1 = false := by simpa using ha
      rw [skipLow, if_neg ha, List.filter_cons_of_pos (by simp [ha']),
        List.filter_eq_self.mpr fun x hx => by simp [tooLow_mono last ha' (h1 x hx)]]

theorem skipLow_sublist (last : Option Bytes) (s : List SR) : (skipLow last s).Sublist s := by
  induction s with
  | nil => exact .slnil
  | cons a t ih =>
    rw [skipLow]
    split
    · exact ih.cons _
    · exact List.Sublist.refl _

theorem skipLow_pw (last : Option Bytes) {s : List SR} (h : PW s) : PW (skipLow last s) :=
  List.Pairwise.sublist (skipLow_sublist last s) h

theorem pw_map_skipLow (last : Option Bytes) {ps : List (List SR)} (hps : ∀ s ∈ ps, PW s) :
    ∀ s ∈ ps.map (skipLow last), PW s := by
  intro s hs
  obtain ⟨s0, hs0, rfl⟩ := List.mem_map.mp hs
  exact skipLow_pw last (hps s0 hs0)

theorem skipLow_head_not_low (last : Option Bytes) (s : List SR) (x : SR) (r : List SR)
    (h : skipLow last s = x :: r) : tooLow last x.1 = false := by
  induction s with
  | nil => simp [skipLow] at h
  | cons a t ih =>
    by_cases ha : tooLow last a.1 = true
    · simp only [skipLow, ha, if_true] at h; exact ih h
    · simp only [skipLow, ha] at h
      have : a = x := by simpa using (List.cons.inj h).1
      subst this; simpa using ha

theorem skipLow_eq_self (last : Option Bytes) (s : List SR)
    (h : ∀ x ∈ s, tooLow last x.1 = false) : skipLow last s = s := by
  cases s with
  | nil => rfl
  | cons a t => simp [skipLow, h a (by simp)]

theorem mem_skipLow (last : Option Bytes) {s : List SR} (hs : PW s) (x : SR) :
    x ∈ skipLow last s ↔ x ∈ s ∧ tooLow last x.1 = false := by
  rw [skipLow_eq_filter last hs, List.mem_filter, Bool.not_eq_true']

theorem keys_filter (p : Bytes → Bool) (s : List SR) :
    keys (s.filter (fun e => p e.1)) = (keys s).filter p := by
  rw [keys, keys, List.filter_map]; rfl

/-- filtering the union of the keys is the union of the filtered sources' keys -/
theorem mem_filter_union {U : List Bytes} {ps : List (List SR)}
    (hmem : ∀ k, k ∈ U ↔ ∃ s ∈ ps, k ∈ keys s) (p : Bytes → Bool) (k : Bytes) :
    k ∈ U.filter p ↔ ∃ s ∈ ps.map (·.filter (fun e => p e.1)), k ∈ keys s := by
  rw [List.mem_filter, hmem k]
  constructor
  · rintro ⟨⟨s, hs, hk⟩, hp⟩
    exact ⟨_, List.mem_map.mpr ⟨s, hs, rfl⟩, by rw [keys_filter]; exact List.mem_filter.mpr ⟨hk, hp⟩⟩
  · rintro ⟨_, hfs, hk⟩
    obtain ⟨s, hs, rfl⟩ := List.mem_map.mp hfs
    rw [keys_filter, List.mem_filter] at hk
    exact ⟨⟨s, hs, hk.1⟩, hk.2⟩

theorem skipLow_append_of_ne_nil (last : Option Bytes) (s r : List SR) (h : skipLow last s ≠ []) :
    skipLow last (s ++ r) = skipLow last s ++ r := by
  induction s with
  | nil => simp [skipLow] at h
  | cons a t ih =>
    by_cases ha : tooLow last a.1 = true
    · simp only [skipLow, ha, if_true, List.cons_append] at h ⊢; exact ih h
    · simp [skipLow, ha]

/-- after a key `lo` not above the head has been sent, at most the head is skipped -/
theorem skipLow_length_ge (lo : Bytes) (h : SR) (rest : List SR) (hp : PW (h :: rest))
    (hlo : ltB h.1 lo = false) : rest.length ≤ (skipLow (some lo) (h :: rest)).length := by
  obtain ⟨h1, _⟩ := List.pairwise_cons.mp hp
  by_cases ha : tooLow (some lo) h.1 = true
  · simp only [skipLow, ha, if_true]
    rw [skipLow_eq_self]
    · exact Nat.le_refl _
    · intro x hx
      rw [tooLow_some]
      have hlt : ltB lo x.1 = true := by
        rcases ltB_total lo h.1 with g | g | g
        · exact ltB_trans _ _ _ g (h1 x hx)
        · rw [g]; exact h1 x hx
        · rw [g] at hlo; cases hlo
      simp [hlt]
  · simp [skipLow, ha]

theorem forall_some_mem_cons {P : SR → Prop} {o : Option SR} {l : List (Option SR)}
    (ho : ∀ x, o = some x → P x) (hl : ∀ x, some x ∈ l → P x) : ∀ x, some x ∈ o :: l → P x :=
  fun x hx => (List.mem_cons.mp hx).elim (fun e => ho x e.symm) (hl x)

/-- the scan from `acc`: either `acc` survives, no head being below it, or the result is a head strictly
below `acc` and strictly below every head before it -/
theorem pick_spec (acc : Option SR) (lo : SR) (hs : List (Option SR)) (h : pick acc hs = some lo) :
    (acc = some lo ∧ ∀ x, some x ∈ hs → ltB x.1 lo.1 = false) ∨
    (∃ pre post, hs = pre ++ some lo :: post ∧ (∀ a, acc = some a → ltB lo.1 a.1 = true) ∧
      (∀ x, some x ∈ pre → ltB lo.1 x.1 = true) ∧ (∀ x, some x ∈ post → ltB x.1 lo.1 = false)) := by
  induction hs generalizing acc with
  | nil => exact Or.inl ⟨h, fun _ hx => nomatch hx⟩
  | cons hd tl ih =>
    cases hd with
    | none =>
      rcases ih acc h with ⟨h1, h2⟩ | ⟨pre, post, rfl, h2, h3, h4⟩
      · exact Or.inl ⟨h1, forall_some_mem_cons (fun _ e => nomatch e) h2⟩
      · exact Or.inr ⟨none :: pre, post, rfl, h2, forall_some_mem_cons (fun _ e => nomatch e) h3, h4⟩
    | some sb =>
      by_cases hlt : ∀ a, acc = some a → ltB sb.1 a.1 = true
      · -- `sb` becomes the accumulator
        have h' : pick (some sb) tl = some lo := by
          cases acc with
          | none => exact h
          | some a => rwa [pick, if_pos (hlt a rfl)] at h
        right
        rcases ih _ h' with ⟨hsb, h2⟩ | ⟨pre, post, rfl, h2, h3, h4⟩
        · cases hsb; exact ⟨[], tl, rfl, hlt, fun _ hx => absurd hx List.not_mem_nil, h2⟩
        · exact ⟨some sb :: pre, post, rfl, fun a ha => ltB_trans _ _ _ (h2 sb rfl) (hlt a ha),
            forall_some_mem_cons (fun _ e => Option.some.inj e ▸ h2 sb rfl) h3, h4⟩
      · -- `sb` is passed over: `acc = some a`, not above `sb`
        cases acc with
        | none => exact absurd (fun _ ha => nomatch ha) hlt
        | some a =>
          have hge : ltB sb.1 a.1 = false := by simpa using hlt
          rw [pick, if_neg (by simp [hge])] at h
          rcases ih _ h with ⟨ha, h2⟩ | ⟨pre, post, rfl, h2, h3, h4⟩
          · cases ha
            exact Or.inl ⟨rfl, forall_some_mem_cons (fun _ e => Option.some.inj e ▸ hge) h2⟩
          · exact Or.inr ⟨some sb :: pre, post, rfl, h2, forall_some_mem_cons
              (fun _ e => Option.some.inj e ▸ ltB_lt_of_not_lt_of_lt hge (h2 a rfl)) h3, h4⟩

/-- the scan returns the first head with the lowest key -/
theorem pick_none_spec (lo : SR) (hs : List (Option SR)) (h : pick none hs = some lo) :
    ∃ pre post, hs = pre ++ some lo :: post ∧
      (∀ x, some x ∈ pre → ltB lo.1 x.1 = true) ∧ (∀ x, some x ∈ post → ltB x.1 lo.1 = false) := by
  rcases pick_spec none lo hs h with ⟨h1, _⟩ | ⟨pre, post, h1, _, h3, h4⟩
  · cases h1
  · exact ⟨pre, post, h1, h3, h4⟩

theorem pick_none_min (lo : SR) (hs : List (Option SR)) (h : pick none hs = some lo) :
    some lo ∈ hs ∧ ∀ x, some x ∈ hs → ltB x.1 lo.1 = false := by
  obtain ⟨pre, post, h1, h2, h3⟩ := pick_none_spec lo hs h
  subst h1
  refine ⟨by simp, ?_⟩
  intro x hx
  simp only [List.mem_append, List.mem_cons] at hx
  rcases hx with hx | hx | hx
  · exact ltB_asymm _ _ (h2 x hx)
  · have : x = lo := by simpa using hx
    subst this; exact ltB_irrefl _
  · exact h3 x hx

theorem pick_some_ne_none (a : SR) (hs : List (Option SR)) : pick (some a) hs ≠ none := by
  induction hs generalizing a with
  | nil => simp [pick]
  | cons hd tl ih =>
    cases hd with
    | none => simpa [pick] using ih a
    | some sb =>
      simp only [pick]
      split
      · exact ih sb
      · exact ih a

theorem pick_none_eq_none (hs : List (Option SR)) (h : pick none hs = none) : ∀ x ∈ hs, x = none := by
  induction hs with
  | nil => simp
  | cons hd tl ih =>
    cases hd with
    | none =>
      simp only [pick] at h
      intro x hx
      cases hx with
      | head => rfl
      | tail _ hx' => exact ih h x hx'
    | some sb =>
      simp only [pick] at h
      exact absurd h (pick_some_ne_none sb tl)

/-! ## the union of the sources' keys, ascending and duplicate-free (the specification side) -/

/-- sorted insert into a duplicate-free key list: `SMap.ins` on keys alone -/
def insertK (k : Bytes) : List Bytes → List Bytes
  | [] => [k]
  | a :: t => if ltB k a then k :: a :: t else if k == a then a :: t else a :: insertK k t

/-- all keys of all sources, ascending, each once -/
def unionKeys (srcs : List (List SR)) : List Bytes := (srcs.flatMap keys).foldr insertK []

theorem mem_insertK (k x : Bytes) (l : List Bytes) : x ∈ insertK k l ↔ x = k ∨ x ∈ l := by
  induction l with
  | nil => rw [insertK, List.mem_singleton, or_iff_left List.not_mem_nil]
  | cons a t ih =>
    rw [insertK]
    by_cases h1 : ltB k a = true
    · rw [if_pos h1, List.mem_cons]
    · rw [if_neg h1]
      by_cases h2 : (k == a) = true
      · rw [if_pos h2, eq_of_beq h2]
        exact ⟨Or.inr, fun h => h.elim (fun e => e ▸ List.mem_cons_self) id⟩
      · rw [if_neg h2, List.mem_cons, ih, List.mem_cons]
        exact or_left_comm

theorem insertK_pw (k : Bytes) (l : List Bytes) (h : l.Pairwise (fun a b => ltB a b = true)) :
    (insertK k l).Pairwise (fun a b => ltB a b = true) := by
  induction l with
  | nil => exact List.pairwise_singleton _ _
  | cons a t ih =>
    obtain ⟨h1, h2⟩ := List.pairwise_cons.mp h
    rw [insertK]
    by_cases hka : ltB k a = true
    · rw [if_pos hka]
      exact List.pairwise_cons.mpr
        ⟨List.forall_mem_cons.mpr ⟨hka, fun x hx => ltB_trans _ _ _ hka (h1 x hx)⟩, h⟩
    · rw [if_neg hka]
      by_cases hne : (k == a) = true
      · rw [if_pos hne]; exact h
      · rw [if_neg hne]
        have hak : ltB a k = true := by
          rcases ltB_total a k with g | g | g
          · exact g
          · exact absurd (g ▸ beq_self_eq_true k) hne
          · exact absurd g hka
        refine List.pairwise_cons.mpr ⟨fun x hx => ?_, ih h2⟩
        rcases (mem_insertK k x t).mp hx with rfl | g
        · exact hak
        · exact h1 x g

theorem mem_foldr_insertK (x : Bytes) (l : List Bytes) : x ∈ l.foldr insertK [] ↔ x ∈ l := by
  induction l with
  | nil => simp
  | cons a t ih => simp only [List.foldr, mem_insertK, ih, List.mem_cons]

theorem foldr_insertK_pw (l : List Bytes) : (l.foldr insertK []).Pairwise (fun a b => ltB a b = true) := by
  induction l with
  | nil => simp
  | cons a t ih => exact insertK_pw a _ ih

theorem mem_unionKeys (srcs : List (List SR)) (k : Bytes) :
    k ∈ unionKeys srcs ↔ ∃ s ∈ srcs, k ∈ keys s := by
  simp only [unionKeys, mem_foldr_insertK, List.mem_flatMap]

theorem unionKeys_pw (srcs : List (List SR)) :
    (unionKeys srcs).Pairwise (fun a b => ltB a b = true) := foldr_insertK_pw _

theorem unionKeys_asc (srcs : List (List SR)) : Asc ltB (unionKeys srcs) :=
  (asc_iff_pairwise ltB stB _).mpr (unionKeys_pw srcs)

/-- the key-list twin of `SMap.ext` -/
theorem pw_ext (l₁ l₂ : List Bytes) (h₁ : l₁.Pairwise (fun a b => ltB a b = true))
    (h₂ : l₂.Pairwise (fun a b => ltB a b = true)) (h : ∀ k, k ∈ l₁ ↔ k ∈ l₂) : l₁ = l₂ :=
  List.Perm.eq_of_pairwise
    (fun a b _ _ hab hba => absurd hba (by rw [ltB_asymm a b hab]; exact Bool.noConfusion)) h₁ h₂
    ((List.perm_ext_iff_of_nodup (h₁.imp ltB_ne) (h₂.imp ltB_ne)).mpr h)

theorem pw_min_cons (U : List Bytes) (m : Bytes) (hU : U.Pairwise (fun a b => ltB a b = true))
    (hm : m ∈ U) (hmin : ∀ k ∈ U, ltB k m = false) : U = m :: U.filter (fun k => ltB m k) := by
  cases U with
  | nil => cases hm
  | cons a t =>
    obtain ⟨h1, _⟩ := List.pairwise_cons.mp hU
    have ham : m = a := by
      cases hm with
      | head => rfl
      | tail _ hm' =>
        have := h1 m hm'
        rw [hmin a (by simp)] at this; cases this
    subst ham
    have hall : ∀ x ∈ t, ltB m x = true := h1
    simp [List.filter, ltB_irrefl, List.filter_eq_self.mpr hall]

/-- the loop invariant: with `U` the ascending union of the keys still in the peekers, the keys sent are
`U` without what `last` makes too low, first `fuel` -/
theorem loop_keys (fuel : Nat) : ∀ (last : Option Bytes) (ps : List (List SR)) (U : List Bytes),
    (∀ s ∈ ps, PW s) → U.Pairwise (fun a b => ltB a b = true) →
    (∀ k, k ∈ U ↔ ∃ s ∈ ps, k ∈ keys s) →
    keys (loop fuel last ps) = (U.filter (fun k => !tooLow last k)).take fuel := by
  induction fuel with
  | zero => intros; simp [loop, keys]
  | succ n ih =>
    intro last ps U hps hU hmem
    have hps' := pw_map_skipLow last hps
    have hU' : (U.filter (fun k => !tooLow last k)).Pairwise (fun a b => ltB a b = true) :=
      List.Pairwise.filter _ hU
    have hmem' := mem_filter_union hmem (fun k => !tooLow last k)
    rw [← List.map_congr_left fun s hs => skipLow_eq_filter last (hps s hs)] at hmem'
    simp only [loop]
    cases hp : pick none ((ps.map (skipLow last)).map List.head?) with
    | none =>
      have hall := pick_none_eq_none _ hp
      have hnil : U.filter (fun k => !tooLow last k) = [] := by
        apply List.eq_nil_iff_forall_not_mem.mpr
        intro k hk
        obtain ⟨s, hs, hks⟩ := (hmem' k).mp hk
        have : s.head? = none := hall _ (List.mem_map.mpr ⟨s, hs, rfl⟩)
        have : s = [] := List.head?_eq_none_iff.mp this
        subst this; simp [keys] at hks
      simp [hnil, keys]
    | some lo =>
      obtain ⟨hin, hmin⟩ := pick_none_min lo _ hp
      obtain ⟨s, hs, hhead⟩ := List.mem_map.mp hin
      have hlos : lo ∈ s := List.mem_of_mem_head? hhead
      have hloU : lo.1 ∈ U.filter (fun k => !tooLow last k) :=
        (hmem' lo.1).mpr ⟨s, hs, List.mem_map.mpr ⟨lo, hlos, rfl⟩⟩
      have hminU : ∀ k ∈ U.filter (fun k => !tooLow last k), ltB k lo.1 = false := by
        intro k hk
        obtain ⟨t, ht, hkt⟩ := (hmem' k).mp hk
        obtain ⟨x, hx, rfl⟩ := List.mem_map.mp hkt
        cases t with
        | nil => cases hx
        | cons h r =>
          have hh : ltB h.1 lo.1 = false := hmin h (List.mem_map.mpr ⟨h :: r, ht, rfl⟩)
          cases hx with
          | head => exact hh
          | tail _ hx' =>
            have hpw := hps' _ ht
            exact ltB_not_lt_of_not_lt_of_lt hh ((List.pairwise_cons.mp hpw).1 x hx')
      have hsplit := pw_min_cons _ lo.1 hU' hloU hminU
      have hrec := ih (some lo.1) (ps.map (skipLow last)) _ hps' hU' hmem'
      have hfun : (fun k => !tooLow (some lo.1) k) = (fun k => ltB lo.1 k) := by
        funext k; rw [tooLow_some]; simp
      rw [hfun] at hrec
      simp only [keys, List.map_cons] at hrec ⊢
      rw [hrec]
      conv => rhs; rw [hsplit]
      simp [List.take]

theorem loop_length_le (fuel : Nat) : ∀ (last : Option Bytes) (ps : List (List SR)),
    (loop fuel last ps).length ≤ fuel := by
  induction fuel with
  | zero => intros; simp [loop]
  | succ n ih =>
    intro last ps
    simp only [loop]
    split
    · simp
    · simp only [List.length_cons]; exact Nat.succ_le_succ (ih _ _)

/-! ## cutting every source at `limit` first changes nothing -/

/-- `p.1` is the cut source, `p.2` the full one -/
def Rel (k : Nat) (last : Option Bytes) (p : List SR × List SR) : Prop :=
  PW p.2 ∧ ∃ r, p.2 = p.1 ++ r ∧ (r = [] ∨ k ≤ (skipLow last p.1).length)

theorem rel_head (k : Nat) (last : Option Bytes) (p : List SR × List SR) (h : Rel (k + 1) last p) :
    (skipLow last p.1).head? = (skipLow last p.2).head? := by
  obtain ⟨_, r, h1, h2⟩ := h
  rcases h2 with h2 | h2
  · subst h2; simp at h1; rw [h1]
  · have hne : skipLow last p.1 ≠ [] := by
      intro e; rw [e] at h2; simp at h2
    rw [h1, skipLow_append_of_ne_nil last p.1 r hne]
    cases hsk : skipLow last p.1 with
    | nil => exact absurd hsk hne
    | cons a t => simp

theorem rel_step (k : Nat) (last : Option Bytes) (lo : Bytes) (p : List SR × List SR)
    (h : Rel (k + 1) last p)
    (hmin : ∀ x, (skipLow last p.1).head? = some x → ltB x.1 lo = false) :
    Rel k (some lo) (skipLow last p.1, skipLow last p.2) := by
  obtain ⟨hpw, r, h1, h2⟩ := h
  refine ⟨skipLow_pw last hpw, ?_⟩
  rcases h2 with h2 | h2
  · subst h2; simp at h1; exact ⟨[], by simp [h1], Or.inl rfl⟩
  · have hne : skipLow last p.1 ≠ [] := by
      intro e; rw [e] at h2; simp at h2
    refine ⟨r, ?_, Or.inr ?_⟩
    · show skipLow last p.2 = skipLow last p.1 ++ r
      rw [h1, skipLow_append_of_ne_nil last p.1 r hne]
    · show k ≤ (skipLow (some lo) (skipLow last p.1)).length
      have hpw1 : PW (skipLow last p.1) := by
        have : PW p.1 := by
          have hs : p.1.Sublist p.2 := by rw [h1]; exact List.sublist_append_left _ _
          exact List.Pairwise.sublist hs hpw
        exact skipLow_pw last this
      cases hsk : skipLow last p.1 with
      | nil => exact absurd hsk hne
      | cons a t =>
        rw [hsk] at h2 hpw1
        have hlo : ltB a.1 lo = false := hmin a (by rw [hsk]; rfl)
        exact Nat.le_trans (Nat.le_of_succ_le_succ h2) (skipLow_length_ge lo a t hpw1 hlo)

theorem loop_cut (k : Nat) : ∀ (last : Option Bytes) (ps : List (List SR × List SR)),
    (∀ p ∈ ps, Rel k last p) →
    loop k last (ps.map (·.1)) = loop k last (ps.map (·.2)) := by
  induction k with
  | zero => intros; simp [loop]
  | succ n ih =>
    intro last ps hrel
    have hheads : ((ps.map (·.1)).map (skipLow last)).map List.head? =
        ((ps.map (·.2)).map (skipLow last)).map List.head? := by
      simp only [List.map_map]
      apply List.map_congr_left
      intro p hp
      exact rel_head n last p (hrel p hp)
    simp only [loop]
    rw [← hheads]
    cases hp : pick none (((ps.map (·.1)).map (skipLow last)).map List.head?) with
    | none => rfl
    | some lo =>
      obtain ⟨_, hmin⟩ := pick_none_min lo _ hp
      have e1 : (ps.map (·.1)).map (skipLow last) =
          (ps.map (fun p => (skipLow last p.1, skipLow last p.2))).map (·.1) := by
        simp [List.map_map, Function.comp_def]
      have e2 : (ps.map (·.2)).map (skipLow last) =
          (ps.map (fun p => (skipLow last p.1, skipLow last p.2))).map (·.2) := by
        simp [List.map_map, Function.comp_def]
      simp only []      -- reduces the `match some lo`
      rw [e1, e2]
      congr 1
      apply ih
      intro q hq
      obtain ⟨p, hp', rfl⟩ := List.mem_map.mp hq
      apply rel_step n last lo.1 p (hrel p hp')
      intro x hx
      apply hmin x
      simp only [List.map_map, List.mem_map]
      exact ⟨p, hp', by simpa using hx⟩

/-! ## an entry comes from the first source that has its key -/

theorem first_lift (last : Option Bytes) (ps : List (List SR)) (hps : ∀ s ∈ ps, PW s)
    (e : SR) (pre' post' : List (List SR)) (s' : List SR)
    (hdec : ps.map (skipLow last) = pre' ++ s' :: post') (he : e ∈ s')
    (hpre : ∀ t ∈ pre', e.1 ∉ keys t) :
    ∃ pre s post, ps = pre ++ s :: post ∧ e ∈ s ∧ ∀ t ∈ pre, e.1 ∉ keys t := by
  obtain ⟨pa, rest, hps_eq, hpa, hrest⟩ := List.map_eq_append_iff.mp hdec
  obtain ⟨s, pb, hrest_eq, hs, _⟩ := List.map_eq_cons_iff.mp hrest
  subst hps_eq hrest_eq
  have hsP : PW s := hps s (by simp)
  rw [← hs] at he
  obtain ⟨hes, hlow⟩ := (mem_skipLow last hsP e).mp he
  refine ⟨pa, s, pb, rfl, hes, ?_⟩
  intro t ht hk
  obtain ⟨y, hy, hye⟩ := List.mem_map.mp hk
  have htP : PW t := hps t (by simp [ht])
  have hy' : y ∈ skipLow last t := (mem_skipLow last htP y).mpr ⟨hy, by rw [hye]; exact hlow⟩
  have : skipLow last t ∈ pre' := by rw [← hpa]; exact List.mem_map.mpr ⟨t, ht, rfl⟩
  exact hpre _ this (List.mem_map.mpr ⟨y, hy', hye⟩)

theorem loop_first_source (fuel : Nat) : ∀ (last : Option Bytes) (ps : List (List SR)),
    (∀ s ∈ ps, PW s) → ∀ e ∈ loop fuel last ps,
    ∃ pre s post, ps = pre ++ s :: post ∧ e ∈ s ∧ ∀ t ∈ pre, e.1 ∉ keys t := by
  induction fuel with
  | zero => intro _ _ _ e he; simp [loop] at he
  | succ n ih =>
    intro last ps hps e he
    have hps' := pw_map_skipLow last hps
    simp only [loop] at he
    cases hp : pick none ((ps.map (skipLow last)).map List.head?) with
    | none => rw [hp] at he; cases he
    | some lo =>
      rw [hp] at he
      simp only [List.mem_cons] at he
      rcases he with he | he
      · subst he
        obtain ⟨hpre, hpost, hdec, hlt, _⟩ := pick_none_spec e _ hp
        obtain ⟨A, rest, hAeq, hA, hrest⟩ := List.map_eq_append_iff.mp hdec
        obtain ⟨s', B, hrest_eq, hs', _⟩ := List.map_eq_cons_iff.mp hrest
        subst hrest_eq
        apply first_lift last ps hps e A B s' hAeq (List.mem_of_mem_head? hs')
        intro t' ht' hk
        obtain ⟨y, hy, hye⟩ := List.mem_map.mp hk
        cases t' with
        | nil => cases hy
        | cons h r =>
          have hh : ltB e.1 h.1 = true := by
            apply hlt h
            rw [← hA]; exact List.mem_map.mpr ⟨h :: r, ht', rfl⟩
          have hpw : PW (h :: r) := hps' _ (by rw [hAeq]; simp [ht'])
          cases hy with
          | head => rw [hye, ltB_irrefl] at hh; cases hh
          | tail _ hy' =>
            have h2 := (List.pairwise_cons.mp hpw).1 y hy'
            rw [hye] at h2
            rw [ltB_asymm _ _ hh] at h2; cases h2
      · obtain ⟨pre', s', post', hdec, hes, hpre⟩ := ih (some lo.1) _ hps' e he
        exact first_lift last ps hps e pre' post' s' hdec hes hpre

/-- every source strictly ascending by key -/
def AllAsc (srcs : List (List SR)) : Prop := ∀ s ∈ srcs, Asc ltB (keys s)

instance (srcs : List (List SR)) : Decidable (AllAsc srcs) := by unfold AllAsc; infer_instance

theorem filter_true' {α : Type} (l : List α) : l.filter (fun _ => true) = l :=
  List.filter_eq_self.mpr (by intros; rfl)

theorem allAsc_pw {srcs : List (List SR)} (h : AllAsc srcs) : ∀ s ∈ srcs, PW s :=
  fun s hs => (ascK_iff_pw s).mp (h s hs)

/-- for ANY ascending duplicate-free list `U` whose members are the keys of the sources, the keys
sent are the first `limit` of `U`: each of the `limit` smallest keys of the union exactly once, in order -/
theorem merged_keys_eq_of (limit : Nat) (srcs : List (List SR)) (h : AllAsc srcs) (U : List Bytes)
    (hU : Asc ltB U) (hmem : ∀ k, k ∈ U ↔ ∃ s ∈ srcs, k ∈ keys s) :
    keys (mergedEnumerate limit srcs) = U.take limit := by
  have := loop_keys limit none srcs U (allAsc_pw h) ((asc_iff_pairwise ltB stB U).mp hU) hmem
  simpa [mergedEnumerate, tooLow, filter_true'] using this

theorem merged_keys_eq (limit : Nat) (srcs : List (List SR)) (h : AllAsc srcs) :
    keys (mergedEnumerate limit srcs) = (unionKeys srcs).take limit :=
  merged_keys_eq_of limit srcs h _ (unionKeys_asc srcs) (mem_unionKeys srcs)

theorem merged_length_le (limit : Nat) (srcs : List (List SR)) :
    (mergedEnumerate limit srcs).length ≤ limit := loop_length_le limit none srcs

theorem merged_asc (limit : Nat) (srcs : List (List SR)) (h : AllAsc srcs) :
    Asc ltB (keys (mergedEnumerate limit srcs)) := by
  rw [merged_keys_eq limit srcs h, asc_iff_pairwise ltB stB]
  exact List.Pairwise.sublist (List.take_sublist _ _) (unionKeys_pw srcs)

/-- no key is sent twice -/
theorem merged_nodup (limit : Nat) (srcs : List (List SR)) (h : AllAsc srcs) :
    (keys (mergedEnumerate limit srcs)).Nodup := by
  have := (asc_iff_pairwise ltB stB _).mp (merged_asc limit srcs h)
  apply List.Pairwise.imp _ this
  intro a b hab e; subst e; rw [ltB_irrefl] at hab; cases hab

/-- with a limit that does not cut, exactly the keys of the sources are sent -/
theorem merged_mem_keys (limit : Nat) (srcs : List (List SR)) (h : AllAsc srcs)
    (hl : (unionKeys srcs).length ≤ limit) (k : Bytes) :
    k ∈ keys (mergedEnumerate limit srcs) ↔ ∃ s ∈ srcs, k ∈ keys s := by
  rw [merged_keys_eq limit srcs h, List.take_of_length_le hl, mem_unionKeys]

/-- cutting every source at `limit` first (the real code passes `limit` to every source) changes nothing -/
theorem merged_take_limit (limit : Nat) (srcs : List (List SR)) (h : AllAsc srcs) :
    mergedEnumerate limit (srcs.map (·.take limit)) = mergedEnumerate limit srcs := by
  have key := loop_cut limit none (srcs.map (fun s => (s.take limit, s))) (by
    intro p hp
    obtain ⟨s, hs, rfl⟩ := List.mem_map.mp hp
    refine ⟨allAsc_pw h s hs, s.drop limit, (List.take_append_drop limit s).symm, ?_⟩
    by_cases hlen : s.length ≤ limit
    · left; exact List.drop_eq_nil_of_le hlen
    · right
      rw [skipLow_none, List.length_take]
      exact Nat.le_min.mpr ⟨Nat.le_refl _, Nat.le_of_not_le hlen⟩)
  simpa [mergedEnumerate, List.map_map, Function.comp_def] using key

/-- every entry sent comes from the first source that has its key -/
theorem merged_first_source (limit : Nat) (srcs : List (List SR)) (h : AllAsc srcs) (e : SR)
    (he : e ∈ mergedEnumerate limit srcs) :
    ∃ pre s post, srcs = pre ++ s :: post ∧ e ∈ s ∧ ∀ t ∈ pre, e.1 ∉ keys t :=
  loop_first_source limit none srcs (allAsc_pw h) e he

/-! ## with the cursor: `MergedEnumerate(…, after, limit)` over well-behaved sources -/

def afterOk (after : Option Bytes) (k : Bytes) : Bool :=
  match after with
  | none => true
  | some a => ltB a k

theorem sourceEnum_eq (c : List SR) (after : Option Bytes) (limit : Nat) :
    sourceEnum c after limit = (c.filter (fun e => afterOk after e.1)).take limit := by
  cases after <;> simp [sourceEnum, afterOk, filter_true']

/-- the keys sent by the merged enumeration are: the union of the contents' keys, after the cursor,
first `limit` – each exactly once, in ascending order, however the contents overlap -/
theorem mergedEnumerateStorage_keys (contents : List (List SR)) (h : AllAsc contents)
    (after : Option Bytes) (limit : Nat) :
    keys (mergedEnumerateStorage contents after limit) =
      ((unionKeys contents).filter (afterOk after)).take limit := by
  have hfilt : AllAsc (contents.map (fun c => c.filter (fun e => afterOk after e.1))) := by
    intro s hs
    obtain ⟨c, hc, rfl⟩ := List.mem_map.mp hs
    rw [ascK_iff_pw]
    exact List.Pairwise.filter _ (allAsc_pw h c hc)
  have e1 : contents.map (fun c => sourceEnum c after limit) =
      (contents.map (fun c => c.filter (fun e => afterOk after e.1))).map (·.take limit) := by
    simp [List.map_map, Function.comp_def, sourceEnum_eq]
  rw [mergedEnumerateStorage, e1, merged_take_limit limit _ hfilt]
  apply merged_keys_eq_of limit _ hfilt
  · rw [asc_iff_pairwise ltB stB]; exact List.Pairwise.filter _ (unionKeys_pw contents)
  · exact mem_filter_union (mem_unionKeys contents) (afterOk after)

/-- non-vacuity: three overlapping ascending sources, limit cutting the union -/
example : AllAsc [[([1], 10), ([3], 30)], [([1], 10), ([2], 20)], [([2], 20), ([3], 30), ([4], 40)]] := by
  decide
example : mergedEnumerate 3 [[([1], 10), ([3], 30)], [([1], 10), ([2], 20)], [([2], 20), ([3], 30), ([4], 40)]]
    = [([1], 10), ([2], 20), ([3], 30)] := by decide

end Pk.MergedEnum
