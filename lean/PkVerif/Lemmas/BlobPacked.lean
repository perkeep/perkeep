import PkVerif.Model.BlobPacked
import PkVerif.Lemmas.MergedEnum
/-!
# Lemmas for C04 (blobpacked): the invariant, its preservation by every atomic write, the closed
forms of the client-visible reads under the invariant, removal and recovery, and the records of the
zips one pack stores (`Chain`, `GoodZip`) that the modules on packing, whole-file reads and `reindex` share.
-/
namespace Pk.BP
open Pk Pk.SMap
variable {C : Ref → Bytes}

theorem kasc_setRows (rows : List (Ref × BRow)) {m : SMap BRow} (hm : KAsc m) : KAsc (setRows rows m) := by
  induction rows generalizing m with
  | nil => exact hm
  | cons p rest ih => exact ih (kasc_ins p.1 p.2 hm)

theorem get_setRows (rows : List (Ref × BRow)) (m : SMap BRow) (x : Ref) :
    get (setRows rows m) x = get m x ∨ ∃ row, (x, row) ∈ rows ∧ get (setRows rows m) x = some row := by
  induction rows generalizing m with
  | nil => left; rfl
  | cons p rest ih =>
    simp only [setRows, List.foldl_cons]
    rcases ih (ins p.1 p.2 m) with h | ⟨row, hr, hg⟩
    · simp only [setRows] at h
      rw [h, get_ins]
      by_cases hx : x = p.1
      · right; refine ⟨p.2, ?_, by simp [hx]⟩
        subst hx; exact List.mem_cons_self
      · left; simp [hx]
    · right; exact ⟨row, List.mem_cons_of_mem _ hr, hg⟩

theorem isSome_get_setRows (rows : List (Ref × BRow)) (m : SMap BRow) (x : Ref) :
    (get (setRows rows m) x).isSome = ((get m x).isSome || rows.any (fun p => p.1 == x)) := by
  induction rows generalizing m with
  | nil => simp [setRows]
  | cons p rest ih =>
    simp only [setRows, List.foldl_cons, List.any_cons]
    have := ih (ins p.1 p.2 m)
    simp only [setRows] at this
    rw [this, get_ins]
    by_cases hx : x = p.1
    · subst hx; simp
    · have : (p.1 == x) = false := by simp; exact fun e => hx e.symm
      simp [hx, this]

theorem kasc_delKeys {V : Type} (refs : List Ref) {m : SMap V} (hm : KAsc m) : KAsc (delKeys refs m) := by
  induction refs generalizing m with
  | nil => exact hm
  | cons r rest ih => exact ih (kasc_del r hm)

theorem get_delKeys {V : Type} (refs : List Ref) {m : SMap V} (hm : KAsc m) (x : Ref) :
    get (delKeys refs m) x = if x ∈ refs then none else get m x := by
  induction refs generalizing m with
  | nil => simp [delKeys]
  | cons r rest ih =>
    simp only [delKeys, List.foldl_cons]
    have := ih (kasc_del r hm)
    simp only [delKeys] at this
    rw [this, get_del r hm]
    by_cases h1 : x ∈ rest
    · simp [h1]
    · by_cases h2 : x = r
      · simp [h2]
      · simp [h1, h2]

theorem get_of_get_del {V : Type} {k x : Ref} {m : SMap V} (hm : KAsc m) {w : V}
    (h : get (del k m) x = some w) : get m x = some w := by
  rw [get_del k hm] at h
  split at h
  · cases h
  · exact h

theorem slice_length_le (b : Bytes) (off n : Nat) (h : off + n ≤ b.length) : (slice b off n).length = n := by
  simp only [slice, List.length_take, List.length_drop]
  exact Nat.min_eq_left (Nat.le_sub_of_add_le' h)

theorem slice_slice (b : Bytes) (o n o' n' : Nat) (h : o' + n' ≤ n) :
    slice (slice b o n) o' n' = slice b (o + o') n' := by
  simp only [slice, List.drop_take, List.drop_drop, List.take_take]
  congr 1
  exact Nat.min_eq_left (Nat.le_sub_of_add_le' h)

theorem slice_append_left (pre b : Bytes) (n : Nat) : slice (pre ++ b) pre.length n = b.take n := by
  simp [slice]

theorem slice_full (b : Bytes) : slice b 0 b.length = b := by simp [slice]

theorem slice_zero_len (b : Bytes) (o : Nat) : slice b o 0 = [] := by simp [slice]

theorem slice_clip (b : Bytes) (off len : Nat) (h : off + len > b.length) :
    slice b off (b.length - off) = slice b off len := by
  simp only [slice]
  rw [List.take_of_length_le (by simp), List.take_of_length_le (by simp; omega)]

theorem regionsOK_ge {pos size : Nat} {es : List SEntry} (h : regionsOK pos es size = true) :
    ∀ e ∈ es, pos ≤ e.off := by
  induction es generalizing pos with
  | nil => nofun
  | cons e0 es ih =>
    simp only [regionsOK, Bool.and_eq_true, decide_eq_true_eq] at h
    intro e he
    rcases List.mem_cons.mp he with rfl | he
    · exact h.1
    · exact Nat.le_trans (Nat.le_trans h.1 (Nat.le_add_right ..)) (ih h.2 e he)

/-- stated with offsets relative to the entry, so that no subtraction appears -/
theorem readSchema_of_mem {pos size : Nat} {es : List SEntry} (h : regionsOK pos es size = true)
    {e : SEntry} (he : e ∈ es) {o len : Nat} (h1 : o + len ≤ e.data.length) :
    readSchema es (e.off + o) len = some (slice e.data o len) := by
  induction es generalizing pos with
  | nil => cases he
  | cons e0 es ih =>
    simp only [regionsOK, Bool.and_eq_true, decide_eq_true_eq] at h
    rcases List.mem_cons.mp he with rfl | he
    · simp [readSchema, SEntry.read, Nat.add_assoc, h1]
    · have hge := regionsOK_ge h.2 e he
      simp only [readSchema, SEntry.read]
      by_cases hc : e0.off ≤ e.off + o ∧ e.off + o + len ≤ e0.off + e0.data.length
      · -- the range also fits the earlier entry: it must be empty, and both answers are []
        have hl : len = 0 := by omega
        subst hl
        have hc' : e.off + o ≤ e0.off + e0.data.length := hc.2
        simp [hc.1, hc', slice_zero_len]
      · simp only [hc, if_false]; exact ih h.2 he

/-- the static well-formedness of a stored zip, relative to the content function `C` -/
structure ZipWF (C : Ref → Bytes) (z : Zip) : Prop where
  regions : regionsOK (z.dataStart + z.data.length) z.schema z.size = true
  data : ∀ e ∈ z.dataBlobs, e.off + e.size ≤ z.data.length ∧ slice z.data e.off e.size = C e.ref ∧
    e.size = (C e.ref).length
  schema : ∀ e ∈ z.schema, e.data = C e.ref

theorem Zip.read_data (z : Zip) (o len : Nat) (h : o + len ≤ z.data.length) :
    z.read (z.dataStart + o) len = some (slice z.data o len) := by
  simp [Zip.read, Nat.add_assoc, h]

theorem Zip.read_eq (z : Zip) (off len : Nat) :
    z.read off len = readSchema (⟨[], z.data, z.dataStart⟩ :: z.schema) off len := by
  simp only [Zip.read, readSchema, SEntry.read]
  split <;> rfl

theorem Zip.read_schema {z : Zip} (hz : ZipWF C z) (e : SEntry) (he : e ∈ z.schema)
    (o len : Nat) (h : o + len ≤ e.data.length) : z.read (e.off + o) len = some (slice e.data o len) := by
  rw [Zip.read_eq]
  exact readSchema_of_mem (pos := 0) (size := z.size) (by simp [regionsOK, hz.regions]) (List.mem_cons_of_mem _ he) h

/-- what a `b:` row of a zip promises: reading any sub-range of the row's range gives the sub-slice
of the blob's content -/
theorem row_read {zr : Ref} {z : Zip} (hz : ZipWF C z) (p : Ref × BRow)
    (hp : p ∈ zipBlobRows zr z) (off len : Nat) (h : off + len ≤ p.2.size) :
    p.2.size = (C p.1).length ∧ z.read (p.2.off + off) len = some (slice (C p.1) off len) := by
  simp only [zipBlobRows, List.mem_append, List.mem_map] at hp
  rcases hp with ⟨e, he, rfl⟩ | ⟨e, he, rfl⟩
  · obtain ⟨hb, hs, hl⟩ := hz.data e he
    refine ⟨hl, ?_⟩
    simp only at h ⊢
    rw [Nat.add_assoc, Zip.read_data z _ _ (by omega), ← hs, slice_slice _ _ _ _ _ h]
  · have hd := hz.schema e he
    refine ⟨by simp [hd], ?_⟩
    simp only at h ⊢
    rw [Zip.read_schema hz e he _ _ h, hd]

/-! ## the invariant and the closed forms of the reads -/

/-- a blob is visible: it has a `b:` row or a loose copy -/
def present (s : St) (r : Ref) : Bool := (get s.b r).isSome || (get s.small r).isSome

/-- `C` is the content function (a ref denotes its bytes: blobs are content-addressed) -/
structure Inv (C : Ref → Bytes) (s : St) : Prop where
  ksmall : KAsc s.small
  kb : KAsc s.b
  klarge : KAsc s.large
  small_ok : ∀ r v, get s.small r = some v → v = C r
  b_ok : ∀ r row, get s.b r = some row → ∃ z, get s.large row.zip = some z ∧ (r, row) ∈ zipBlobRows row.zip z
  zips_ok : ∀ zr z, get s.large zr = some z → ZipWF C z

theorem inv_empty (C : Ref → Bytes) : Inv C St.empty :=
  ⟨kasc_nil, kasc_nil, kasc_nil, nofun, nofun, nofun⟩

theorem Inv.row {s : St} (h : Inv C s) {r : Ref} {row : BRow} (hb : get s.b r = some row) :
    row.size = (C r).length ∧ ∃ z, get s.large row.zip = some z ∧
      ∀ off len, off + len ≤ row.size → z.read (row.off + off) len = some (slice (C r) off len) := by
  obtain ⟨z, hz, hm⟩ := h.b_ok r row hb
  have hr := row_read (h.zips_ok _ z hz) (r, row) hm
  exact ⟨(hr 0 0 (Nat.zero_le _)).1, z, hz, fun off len hl => (hr off len hl).2⟩

theorem fetch_eq {s : St} (h : Inv C s) (r : Ref) :
    fetch s r = if present s r then .ok (C r) else .notExist := by
  unfold fetch present
  cases hb : get s.b r with
  | none =>
    cases hs : get s.small r with
    | none => simp
    | some v => simp [h.small_ok r v hs]
  | some row =>
    obtain ⟨hl, z, hz, hr⟩ := h.row hb
    have := hr 0 row.size (by simp)
    rw [Nat.add_zero, hl, slice_full] at this
    simp [hz, hl, this]

theorem stat_eq {s : St} (h : Inv C s) (r : Ref) :
    stat s r = if present s r then some (C r).length else none := by
  unfold stat present
  cases hb : get s.b r with
  | none =>
    cases hs : get s.small r with
    | none => simp
    | some v => simp [h.small_ok r v hs]
  | some row => simp [(h.row hb).1]

/-- a batch stat calls back exactly once for every requested ref that is visible (in request order), with
the size of its content – also while the blob is both packed and still loose -/
theorem statBlobs_eq {s : St} (h : Inv C s) (refs : List Ref) :
    statBlobs s refs = (refs.filter (fun r => present s r)).map (fun r => (r, (C r).length)) := by
  induction refs with
  | nil => rfl
  | cons r rs ih =>
    simp only [statBlobs, stat_eq h r, List.filter_cons, ih]
    cases present s r <;> rfl

theorem subFetch_eq {s : St} (h : Inv C s) (r : Ref) (off len : Nat) :
    subFetch s r off len =
      if present s r then (if off > (C r).length then .err else .ok (slice (C r) off len)) else .notExist := by
  unfold subFetch present
  cases hb : get s.b r with
  | none =>
    cases hs : get s.small r with
    | none => simp
    | some v => simp [h.small_ok r v hs]
  | some row =>
    obtain ⟨hl, z, hz, hr⟩ := h.row hb
    simp only [Option.isSome_some, Bool.true_or, if_true, hl]
    by_cases ho : off > (C r).length
    · simp [ho]
    · simp only [ho, if_false, hz]
      by_cases hc : off + len > (C r).length
      · simp only [hc, if_true]
        rw [hr off _ (by rw [hl]; exact Nat.le_of_eq (Nat.add_sub_cancel' (Nat.le_of_not_gt ho))), slice_clip _ _ _ hc]
      · simp only [hc, if_false]
        rw [hr off len (by rw [hl]; exact Nat.le_of_not_gt hc)]

open MergedEnum in
theorem allAsc_sources {s : St} (h : Inv C s) : AllAsc [smallSizes s, bSizes s] := by
  intro l hl
  rw [ascK_iff_pw]
  simp only [List.mem_cons, List.mem_nil_iff, or_false] at hl
  rcases hl with rfl | rfl
  · simp only [PW, smallSizes, List.pairwise_map]; exact h.ksmall
  · simp only [PW, bSizes, List.pairwise_map]; exact h.kb

theorem mem_keys_iff_get {V : Type} (m : SMap V) (k : Bytes) : k ∈ m.map (·.1) ↔ (get m k).isSome = true :=
  mem_keys_iff_has m k

open MergedEnum in
theorem mem_union_iff_present {s : St} (h : Inv C s) (k : Bytes) :
    k ∈ unionKeys [smallSizes s, bSizes s] ↔ present s k = true := by
  rw [mem_unionKeys]
  simp only [List.mem_cons, List.mem_nil_iff, or_false, exists_eq_or_imp, exists_eq_left, MergedEnum.keys, smallSizes, bSizes,
    List.map_map, present, Bool.or_eq_true]
  have e1 : ((fun x : Bytes × Nat => x.1) ∘ fun p : Bytes × Bytes => (p.1, p.2.length)) = (·.1) := rfl
  have e2 : ((fun x : Bytes × Nat => x.1) ∘ fun p : Bytes × BRow => (p.1, p.2.size)) = (·.1) := rfl
  rw [e1, e2, mem_keys_iff_get, mem_keys_iff_get]
  exact Or.comm

open MergedEnum in
theorem source_size {s : St} (h : Inv C s) (e : SR)
    (he : e ∈ smallSizes s ∨ e ∈ bSizes s) : e.2 = (C e.1).length := by
  rcases he with he | he
  · obtain ⟨p, hp, rfl⟩ := List.mem_map.mp he
    have := h.small_ok p.1 p.2 (mem_get h.ksmall (show (p.1, p.2) ∈ s.small from hp))
    simp [this]
  · obtain ⟨p, hp, rfl⟩ := List.mem_map.mp he
    exact (h.row (mem_get h.kb (show (p.1, p.2) ∈ s.b from hp))).1

open MergedEnum in
/-- **closed form of EnumerateBlobs** under the invariant: the visible blobs after the cursor, ascending,
each once, at most `limit`, each with the size of its content -/
theorem enumerate_eq {s : St} (h : Inv C s) (after : Bytes) (limit : Nat) :
    enumerate s after limit =
      (((unionKeys [smallSizes s, bSizes s]).filter (afterOk (some after))).take limit).map
        (fun k => (k, (C k).length)) := by
  have hasc := allAsc_sources h
  have hk := mergedEnumerateStorage_keys [smallSizes s, bSizes s] hasc (some after) limit
  unfold enumerate
  rw [← hk, MergedEnum.keys, List.map_map]
  -- every merged entry comes from one of the two sources, and both give the content's length
  have hsz : ∀ e ∈ mergedEnumerateStorage [smallSizes s, bSizes s] (some after) limit, e.2 = (C e.1).length := by
    intro e he
    have hasc' : AllAsc ([smallSizes s, bSizes s].map (fun c => sourceEnum c (some after) limit)) := by
      intro l hl
      obtain ⟨c, hc, rfl⟩ := List.mem_map.mp hl
      rw [ascK_iff_pw, sourceEnum_eq]
      exact List.Pairwise.sublist ((List.take_sublist _ _).trans List.filter_sublist) (allAsc_pw hasc c hc)
    obtain ⟨pre, src, post, hsplit, hmem, _⟩ := merged_first_source limit _ hasc' e he
    have hsrc : src ∈ [smallSizes s, bSizes s].map (fun c => sourceEnum c (some after) limit) := by
      rw [hsplit]; simp
    obtain ⟨c, hc, rfl⟩ := List.mem_map.mp hsrc
    rw [sourceEnum_eq] at hmem
    have hec : e ∈ c := (List.mem_filter.mp (List.mem_of_mem_take hmem)).1
    simp only [List.mem_cons, List.mem_nil_iff, or_false] at hc
    rcases hc with rfl | rfl
    · exact source_size h e (Or.inl hec)
    · exact source_size h e (Or.inr hec)
  refine (List.map_id _).symm.trans (List.map_congr_left fun e he => ?_)
  simp only [id, Function.comp, ← hsz e he]

open MergedEnum in
theorem enumerate_nodup {s : St} (h : Inv C s) (after : Bytes) (limit : Nat) :
    ((enumerate s after limit).map (·.1)).Nodup := by
  rw [enumerate_eq h, List.map_map]
  have : ((fun x : Bytes × Nat => x.1) ∘ fun k => (k, (C k).length)) = id := rfl
  rw [this, List.map_id]
  have hp := unionKeys_pw [smallSizes s, bSizes s]
  have := List.Pairwise.sublist ((List.take_sublist limit _).trans (List.filter_sublist (p := afterOk (some after)))) hp
  apply List.Pairwise.imp _ this
  intro a b hab e; subst e; rw [ltB_irrefl] at hab; cases hab

structure SameView (s s' : St) : Prop where
  pres : ∀ r, present s' r = present s r

theorem SameView.refl (s : St) : SameView s s := ⟨fun _ => rfl⟩
theorem SameView.symm {a b : St} (h : SameView a b) : SameView b a := ⟨fun r => (h.pres r).symm⟩
theorem SameView.trans {a b c : St} (h1 : SameView a b) (h2 : SameView b c) : SameView a c :=
  ⟨fun r => by rw [h2.pres, h1.pres]⟩

open MergedEnum in
theorem reads_eq_of_sameView {s s' : St} (h : Inv C s) (h' : Inv C s') (v : SameView s s') :
    (∀ r, fetch s' r = fetch s r) ∧ (∀ r, stat s' r = stat s r) ∧
    (∀ r off len, subFetch s' r off len = subFetch s r off len) ∧
    (∀ after limit, enumerate s' after limit = enumerate s after limit) := by
  refine ⟨?_, ?_, ?_, ?_⟩
  · intro r; rw [fetch_eq h, fetch_eq h', v.pres]
  · intro r; rw [stat_eq h, stat_eq h', v.pres]
  · intro r off len; rw [subFetch_eq h, subFetch_eq h', v.pres]
  · intro after limit
    rw [enumerate_eq h, enumerate_eq h']
    have : unionKeys [smallSizes s', bSizes s'] = unionKeys [smallSizes s, bSizes s] := by
      apply pw_ext _ _ (unionKeys_pw _) (unionKeys_pw _)
      intro k
      rw [mem_union_iff_present h', mem_union_iff_present h, v.pres]
    rw [this]

theorem fetch_ok {s : St} (h : Inv C s) {r : Ref} {v : Bytes} (hf : fetch s r = .ok v) :
    present s r = true ∧ v = C r := by
  rw [fetch_eq h] at hf
  split at hf
  · exact ⟨‹_›, (FOut.ok.inj hf).symm⟩
  · cases hf

/-! ## every atomic write preserves the invariant; its effect on the visible set -/

theorem present_putSmall (s : St) (r : Ref) (v : Bytes) (x : Ref) :
    present (putSmall s r v) x = (present s x || x == r) := by
  simp only [present, putSmall, get_ins]
  by_cases hx : x = r <;> simp [hx]

theorem inv_putSmall {s : St} (h : Inv C s) (r : Ref) (v : Bytes) (hv : v = C r) :
    Inv C (putSmall s r v) := by
  refine ⟨kasc_ins r v h.ksmall, h.kb, h.klarge, ?_, h.b_ok, h.zips_ok⟩
  intro x w hg
  rw [putSmall, get_ins] at hg
  split at hg
  · cases hg; rw [hv, ‹x = r›]
  · exact h.small_ok x w hg

theorem putLarge_eq (s : St) (zr : Ref) (z : Zip) : putLarge s zr z = { s with large := (putLarge s zr z).large } := by
  unfold putLarge; split <;> rfl

theorem get_putLarge (s : St) (zr : Ref) (z : Zip) (k : Ref) :
    get (putLarge s zr z).large k = if k = zr ∧ get s.large zr = none then some z else get s.large k := by
  unfold putLarge
  cases hg : get s.large zr with
  | some z0 => simp [has, hg]
  | none => simp [has, hg, get_ins]

theorem putLarge_w (s : St) (zr : Ref) (z : Zip) : (putLarge s zr z).w = s.w := by rw [putLarge_eq]
theorem putLarge_z (s : St) (zr : Ref) (z : Zip) : (putLarge s zr z).z = s.z := by rw [putLarge_eq]

theorem present_putLarge (s : St) (zr : Ref) (z : Zip) (x : Ref) : present (putLarge s zr z) x = present s x := by
  rw [putLarge_eq]; rfl

theorem sameView_putLarge (s : St) (zr : Ref) (z : Zip) : SameView s (putLarge s zr z) :=
  ⟨fun x => present_putLarge s zr z x⟩

theorem get_putLarge_of_some (s : St) (zr : Ref) (z : Zip) (k : Ref) (z0 : Zip) (hk : get s.large k = some z0) :
    get (putLarge s zr z).large k = some z0 := by
  rw [get_putLarge, if_neg, hk]
  rintro ⟨rfl, hn⟩
  rw [hn] at hk; cases hk

theorem get_putLarge_cases (s : St) (zr : Ref) (z : Zip) (k : Ref) (z' : Zip)
    (h : get (putLarge s zr z).large k = some z') : get s.large k = some z' ∨ k = zr := by
  rw [get_putLarge] at h
  split at h
  · rename_i hc; exact Or.inr hc.1
  · exact Or.inl h

/-- after `putLarge`, the ref holds `z` unless a different zip was there (excluded by the collision guard) -/
theorem get_putLarge_self (s : St) (zr : Ref) (z : Zip)
    (hc : collides s.large zr z = false) :
    get (putLarge s zr z).large zr = some z := by
  unfold collides at hc
  rw [get_putLarge]
  cases hg : get s.large zr with
  | none => simp
  | some z' => simpa [hg] using hc

theorem kasc_putLarge {s : St} (h : KAsc s.large) {zr : Ref} {z : Zip} : KAsc (putLarge s zr z).large := by
  unfold putLarge
  split
  · exact h
  · exact kasc_ins zr z h

theorem inv_putLarge {s : St} (h : Inv C s) (zr : Ref) (z : Zip) (hz : ZipWF C z) :
    Inv C (putLarge s zr z) := by
  rw [putLarge_eq]
  refine ⟨h.ksmall, h.kb, kasc_putLarge h.klarge, h.small_ok, fun r row hg => ?_, fun k z1 hg => ?_⟩
  · obtain ⟨z0, hz0, hm⟩ := h.b_ok r row hg
    exact ⟨z0, get_putLarge_of_some s zr z _ z0 hz0, hm⟩
  · simp only [get_putLarge] at hg
    split at hg
    · cases hg; exact hz
    · exact h.zips_ok k z1 hg

theorem any_row_of_mem {zr : Ref} {z : Zip} {p : Ref × BRow} (hp : p ∈ zipBlobRows zr z) :
    (zipBlobRows zr z).any (fun q => q.1 == p.1) = true :=
  List.any_eq_true.mpr ⟨p, hp, beq_self_eq_true _⟩

theorem zipBlobRows_zip (zr : Ref) (z : Zip) (p : Ref × BRow) (hp : p ∈ zipBlobRows zr z) : p.2.zip = zr := by
  simp only [zipBlobRows, List.mem_append, List.mem_map] at hp
  rcases hp with ⟨e, _, rfl⟩ | ⟨e, _, rfl⟩ <;> rfl

theorem present_commitZip (s : St) (zr : Ref) (z : Zip) (w : Nat) (x : Ref) :
    present (commitZip s zr z w) x = (present s x || (zipBlobRows zr z).any (fun p => p.1 == x)) := by
  simp only [present, commitZip, isSome_get_setRows]
  cases (get s.b x).isSome <;> cases (get s.small x).isSome <;> simp

theorem inv_commitZip {s : St} (h : Inv C s) (zr : Ref) (z : Zip) (w : Nat)
    (hz : get s.large zr = some z) : Inv C (commitZip s zr z w) := by
  refine ⟨h.ksmall, kasc_setRows _ h.kb, h.klarge, h.small_ok, ?_, h.zips_ok⟩
  intro r row hg
  simp only [commitZip] at hg ⊢
  rcases get_setRows (zipBlobRows zr z) s.b r with he | ⟨row', hm, he⟩
  · rw [he] at hg; exact h.b_ok r row hg
  · rw [he] at hg; injection hg with hg; subst hg
    have := zipBlobRows_zip zr z _ hm
    simp only at this
    rw [this]
    exact ⟨z, hz, hm⟩

theorem present_delSmall {s : St} (hk : KAsc s.small) (refs : List Ref) (x : Ref) :
    present (delSmall s refs) x = ((get s.b x).isSome || (!decide (x ∈ refs) && (get s.small x).isSome)) := by
  simp only [present, delSmall, get_delKeys refs hk]
  by_cases hx : x ∈ refs <;> simp [hx]

theorem inv_delSmall {s : St} (h : Inv C s) (refs : List Ref) : Inv C (delSmall s refs) := by
  refine ⟨kasc_delKeys refs h.ksmall, h.kb, h.klarge, ?_, h.b_ok, h.zips_ok⟩
  intro r v hg
  rw [delSmall, get_delKeys refs h.ksmall] at hg
  split at hg
  · cases hg
  · exact h.small_ok r v hg

theorem sameView_delSmall {s : St} (hk : KAsc s.small) (refs : List Ref)
    (hr : ∀ r ∈ refs, (get s.b r).isSome = true) : SameView s (delSmall s refs) := by
  refine ⟨fun x => ?_⟩
  rw [present_delSmall hk, present]
  by_cases hx : x ∈ refs
  · simp [hx, hr x hx]
  · simp [hx]

theorem inv_setWhole {s : St} (h : Inv C s) (w : Ref) (a b : Nat) : Inv C (setWhole s w a b) :=
  ⟨h.ksmall, h.kb, h.klarge, h.small_ok, h.b_ok, h.zips_ok⟩

theorem sameView_setWhole (s : St) (w : Ref) (a b : Nat) : SameView s (setWhole s w a b) := ⟨fun _ => rfl⟩

theorem setWhole_large (s : St) (w : Ref) (a b : Nat) : (setWhole s w a b).large = s.large := rfl

theorem sameView_commitZip (s : St) (zr : Ref) (z : Zip) (w : Nat)
    (hp : ∀ x, (zipBlobRows zr z).any (fun p => p.1 == x) = true → present s x = true) :
    SameView s (commitZip s zr z w) := by
  refine ⟨fun x => ?_⟩
  rw [present_commitZip]
  by_cases hx : (zipBlobRows zr z).any (fun p => p.1 == x) = true
  · simp [hx, hp x hx]
  · simp [hx]

theorem delSmallB_eq (s : St) (bud : Budget) (refs : List Ref) :
    ∃ k, (delSmallB s bud refs).1 = delSmall s (refs.take k) := by
  unfold delSmallB
  simp only
  split
  · exact ⟨refs.length, by rw [List.take_length]⟩
  · split
    · exact ⟨_, rfl⟩
    · exact ⟨0, rfl⟩

def LargeMono (s s' : St) : Prop := ∀ k z, get s.large k = some z → get s'.large k = some z

theorem LargeMono.trans {a b c : St} (h1 : LargeMono a b) (h2 : LargeMono b c) : LargeMono a c :=
  fun k z h => h2 k z (h1 k z h)

theorem largeMono_putLarge (s : St) (zr : Ref) (z : Zip) : LargeMono s (putLarge s zr z) :=
  fun k z0 h => get_putLarge_of_some s zr z k z0 h

/-! ## the zip `writeAZip` builds is well-formed -/

theorem mkEntries_spec (w : List (Ref × Bytes)) (pre : Bytes) (hw : ∀ p ∈ w, p.2 = C p.1) :
    ∀ e ∈ mkEntries w pre.length,
      e.off + e.size ≤ (pre ++ concatData w).length ∧ slice (pre ++ concatData w) e.off e.size = C e.ref ∧
        e.size = (C e.ref).length := by
  induction w generalizing pre with
  | nil => nofun
  | cons p rest ih =>
    obtain ⟨r, v⟩ := p
    intro e he
    have hv : v = C r := hw (r, v) List.mem_cons_self
    rcases List.mem_cons.mp he with rfl | he
    · simp only [concatData]
      refine ⟨by simp, ?_, by rw [hv]⟩
      rw [slice_append_left, List.take_append_of_le_length (by simp), List.take_of_length_le (by simp), hv]
    · have := ih (pre ++ v) (fun p hp => hw p (List.mem_cons_of_mem _ hp)) e (by rwa [List.length_append])
      simpa only [concatData, ← List.append_assoc] using this

theorem mkEntries_refs (w : List (Ref × Bytes)) (o : Nat) : (mkEntries w o).map (·.ref) = w.map (·.1) := by
  induction w generalizing o with
  | nil => rfl
  | cons p rest ih => simp only [mkEntries, List.map_cons, ih]

theorem mkSchema_refs (sbs : List (Ref × Bytes)) (offs : List Nat) (hl : offs.length = sbs.length) :
    (mkSchema sbs offs).map (·.ref) = sbs.map (·.1) := by
  induction sbs generalizing offs with
  | nil => rfl
  | cons p rest ih =>
    cases offs with
    | nil => cases hl
    | cons o os => simp only [mkSchema, List.map_cons, ih os (Nat.succ.inj hl)]

theorem mkSchema_data (sbs : List (Ref × Bytes)) (offs : List Nat) (hs : ∀ p ∈ sbs, p.2 = C p.1) :
    ∀ e ∈ mkSchema sbs offs, e.data = C e.ref := by
  induction sbs generalizing offs with
  | nil => nofun
  | cons p rest ih =>
    cases offs with
    | nil => nofun
    | cons o os =>
      intro e he
      rcases List.mem_cons.mp he with rfl | he
      · exact hs p List.mem_cons_self
      · exact ih os (fun p hp => hs p (List.mem_cons_of_mem _ hp)) e he

theorem zipWF_build (l : ZipLayout) (written sbs : List (Ref × Bytes)) (whole : Ref) (wsz n : Nat)
    (hw : ∀ p ∈ written, p.2 = C p.1) (hs : ∀ p ∈ sbs, p.2 = C p.1)
    (hl : layoutOK l (concatData written) sbs = true) : ZipWF C (buildZip l written sbs whole wsz n) := by
  simp only [layoutOK, Bool.and_eq_true, decide_eq_true_eq] at hl
  refine ⟨hl.2, fun e he => ?_, mkSchema_data sbs l.schemaOffs hs⟩
  have := mkEntries_spec (C := C) written [] hw e he
  rwa [List.nil_append] at this

theorem rows_refs_build (zr : Ref) (l : ZipLayout) (written sbs : List (Ref × Bytes)) (whole : Ref) (wsz n : Nat)
    (hlen : l.schemaOffs.length = sbs.length) (x : Ref) :
    (zipBlobRows zr (buildZip l written sbs whole wsz n)).any (fun p => p.1 == x) = true ↔
      (x ∈ written.map (·.1) ∨ x ∈ sbs.map (·.1)) := by
  rw [← mkEntries_refs written 0, ← mkSchema_refs sbs l.schemaOffs hlen]
  simp only [List.any_eq_true, beq_iff_eq, zipBlobRows, buildZip, List.mem_append, List.mem_map]
  constructor
  · rintro ⟨p, ⟨e, he, rfl⟩ | ⟨e, he, rfl⟩, rfl⟩
    · exact Or.inl ⟨e, he, rfl⟩
    · exact Or.inr ⟨e, he, rfl⟩
  · rintro (⟨e, he, rfl⟩ | ⟨e, he, rfl⟩)
    · exact ⟨_, Or.inl ⟨e, he, rfl⟩, rfl⟩
    · exact ⟨_, Or.inr ⟨e, he, rfl⟩, rfl⟩

/-! ## RemoveBlobs changes the visible set by exactly `r` -/

theorem remove_sound (c : Cfg) (hc : c.legacy = false) (s : St) (r : Ref) (h : Inv C s) :
    Inv C (remove c s r) ∧ ∀ x, present (remove c s r) x = (present s x && x != r) := by
  have hsmall : ∀ x w, get (del r s.small) x = some w → w = C x :=
    fun x w hg => h.small_ok x w (get_of_get_del h.ksmall hg)
  unfold remove
  cases hb : get s.b r with
  | none =>
    refine ⟨⟨kasc_del r h.ksmall, h.kb, h.klarge, hsmall, h.b_ok, h.zips_ok⟩, fun x => ?_⟩
    simp only [present, get_del r h.ksmall]
    by_cases hx : x = r
    · subst hx; simp [hb]
    · simp [hx]
  | some row =>
    simp only [hc, Bool.false_eq_true, if_false]
    refine ⟨⟨kasc_del r h.ksmall, kasc_del r h.kb, h.klarge, hsmall,
      fun x row' hg => h.b_ok x row' (get_of_get_del h.kb hg), h.zips_ok⟩, fun x => ?_⟩
    simp only [present, get_del r h.ksmall, get_del r h.kb]
    by_cases hx : x = r <;> simp [hx]

/-! ## recovery from the zips -/

def inSomeZip (large : List (Ref × Zip)) (x : Ref) : Bool :=
  large.any (fun p => (zipBlobRows p.1 p.2).any (fun q => q.1 == x))

def SameBlobs (s s' : St) : Prop := s'.small = s.small ∧ s'.large = s.large ∧ s'.b = s.b

theorem SameBlobs.refl (s : St) : SameBlobs s s := ⟨rfl, rfl, rfl⟩
theorem SameBlobs.trans {a b c : St} (h1 : SameBlobs a b) (h2 : SameBlobs b c) : SameBlobs a c :=
  ⟨h2.1.trans h1.1, h2.2.1.trans h1.2.1, h2.2.2.trans h1.2.2⟩

theorem SameBlobs.inv {s s' : St} (e : SameBlobs s s') (h : Inv C s) : Inv C s' := by
  obtain ⟨e1, e2, e3⟩ := e
  exact ⟨e1 ▸ h.ksmall, e3 ▸ h.kb, e2 ▸ h.klarge, e1 ▸ h.small_ok, by rw [e2, e3]; exact h.b_ok, e2 ▸ h.zips_ok⟩

theorem SameBlobs.pres {s s' : St} (e : SameBlobs s s') (x : Ref) : present s' x = present s x := by
  obtain ⟨e1, _, e3⟩ := e
  simp [BP.present, e1, e3]

theorem sameBlobs_setWhole (s : St) (w : Ref) (a b : Nat) : SameBlobs s (setWhole s w a b) := ⟨rfl, rfl, rfl⟩

theorem mem_insertByIdx (x a : ZMI) (l : List ZMI) : x ∈ insertByIdx a l ↔ x = a ∨ x ∈ l := by
  induction l with
  | nil => simp [insertByIdx]
  | cons y ys ih =>
    simp only [insertByIdx]
    split <;> simp [ih, or_left_comm]

theorem mem_sortByIdx (x : ZMI) (l : List ZMI) : x ∈ sortByIdx l ↔ x ∈ l := by
  induction l with
  | nil => rfl
  | cons a as ih => simp only [sortByIdx, mem_insertByIdx, ih, List.mem_cons]

theorem groupRows_frame (offs : List Nat) (zs : List ZMI) (s s' : St) (h : groupRows offs zs s = some s') :
    SameBlobs s s' ∧ ∀ whole, (∀ z ∈ zs, z.wholeRef ≠ whole) → get s'.w whole = get s.w whole := by
  induction zs generalizing s with
  | nil => cases h; exact ⟨.refl _, fun _ _ => rfl⟩
  | cons z zs ih =>
    simp only [groupRows] at h
    split at h
    · cases h
    · obtain ⟨e, f⟩ := ih _ h
      refine ⟨e, fun whole hz => ?_⟩
      rw [f whole fun y hy => hz y (List.mem_cons_of_mem _ hy)]
      exact get_ins_ne _ _ fun e => hz z List.mem_cons_self e.symm

theorem reindexGroup_frame (w : Ref) (zms : List ZMI) (s s' : St) (h : reindexGroup w zms s = some s') :
    SameBlobs s s' ∧ ∀ whole, whole ≠ w → (∀ z ∈ zms, z.wholeRef = w) → get s'.w whole = get s.w whole := by
  unfold reindexGroup at h
  simp only at h
  split at h
  · cases h
  · split at h
    · cases h
    · rename_i s1 hg
      obtain ⟨e1, f1⟩ := groupRows_frame _ _ _ _ hg
      have f1' : ∀ whole, whole ≠ w → (∀ z ∈ zms, z.wholeRef = w) → get s1.w whole = get s.w whole :=
        fun whole hne hz => f1 whole fun z hzm => by rw [hz z ((mem_sortByIdx z zms).mp hzm)]; exact hne.symm
      split at h
      · split at h
        · cases h; exact ⟨e1, f1'⟩
        · cases h
          exact ⟨e1, fun whole hne hz => by rw [setWhole, get_ins_ne _ _ hne]; exact f1' whole hne hz⟩
      · cases h; exact ⟨e1, f1'⟩

theorem reindexGroups_frame (zms : List ZMI) (ws : List Ref) (s s' : St) (h : reindexGroups zms ws s = some s') :
    SameBlobs s s' ∧ ∀ whole, whole ∉ ws → get s'.w whole = get s.w whole := by
  induction ws generalizing s with
  | nil => cases h; exact ⟨.refl _, fun _ _ => rfl⟩
  | cons w ws ih =>
    simp only [reindexGroups] at h
    split at h
    · cases h
    · rename_i s1 hg
      obtain ⟨e1, f1⟩ := reindexGroup_frame _ _ _ _ hg
      obtain ⟨e2, f2⟩ := ih s1 h
      refine ⟨e1.trans e2, fun whole hn => ?_⟩
      rw [f2 whole fun hm => hn (List.mem_cons_of_mem _ hm)]
      exact f1 whole (fun e => hn (by simp [e])) fun z hz => by simpa using (List.mem_filter.mp hz).2

theorem reindexZips_w_large (l : List (Ref × Zip)) (s : St) :
    (reindexZips l s).1.w = s.w ∧ (reindexZips l s).1.large = s.large := by
  induction l generalizing s with
  | nil => exact ⟨rfl, rfl⟩
  | cons p rest ih =>
    simp only [reindexZips]
    split
    · exact ⟨rfl, rfl⟩
    · exact ih _

/-- the first phase: every zip's rows are valid rows, and the visible set grows by the zips' blobs -/
theorem reindexZips_sound (l : List (Ref × Zip)) (s : St) (h : Inv C s)
    (hl : ∀ p ∈ l, get s.large p.1 = some p.2) :
    Inv C (reindexZips l s).1 ∧
    ((reindexZips l s).2 = true → ∀ x, present (reindexZips l s).1 x = (present s x || inSomeZip l x)) := by
  induction l generalizing s with
  | nil => exact ⟨h, fun _ x => by simp [reindexZips, inSomeZip]⟩
  | cons p rest ih =>
    obtain ⟨zr, z⟩ := p
    simp only [reindexZips]
    split
    · exact ⟨h, fun hf => by cases hf⟩
    · -- the batch of one zip is the `b:` part of its `commitZip`
      have sb : SameBlobs (commitZip s zr z 0) { s with b := setRows (reindexRows zr z) s.b } := ⟨rfl, rfl, rfl⟩
      obtain ⟨h2, p2⟩ := ih _ (sb.inv (inv_commitZip h zr z 0 (hl (zr, z) List.mem_cons_self)))
        (fun p hp => hl p (List.mem_cons_of_mem _ hp))
      refine ⟨h2, fun hf x => ?_⟩
      rw [p2 hf x, sb.pres, present_commitZip]
      simp [inSomeZip, Bool.or_assoc]

def reindexStart (full : Bool) (s : St) : St := if full then { s with b := [], w := [], z := [], d := [] } else s

theorem reindexStart_large (full : Bool) (s : St) : (reindexStart full s).large = s.large := by cases full <;> rfl

theorem reindex_ok {full : Bool} {s s' : St} (hr : reindex full s = (s', .ok)) :
    ∃ s1, reindexZips s.large (reindexStart full s) = (s1, true) ∧
      reindexGroups (s.large.map fun p => zmiOf p.1 p.2) (wholeRefs (s.large.map fun p => zmiOf p.1 p.2) []) s1 = some s' := by
  rw [← reindexStart_large full s]
  change (match reindexZips (reindexStart full s).large (reindexStart full s) with
    | (s1, false) => (s1, ROut.err)
    | (s1, true) =>
      match reindexGroups ((reindexStart full s).large.map fun p => zmiOf p.1 p.2)
          (wholeRefs ((reindexStart full s).large.map fun p => zmiOf p.1 p.2) []) s1 with
      | none => (s1, ROut.panic)
      | some s2 => (s2, ROut.ok)) = (s', ROut.ok) at hr
  split at hr
  · cases hr
  · rename_i s1 hz
    split at hr
    · cases hr
    · rename_i s2 hg
      cases hr
      exact ⟨s1, hz, hg⟩

theorem reindex_sound (full : Bool) (s s' : St) (h : Inv C s)
    (hr : reindex full s = (s', .ok)) :
    Inv C s' ∧ ∀ x, present s' x =
      ((if full then (get s.small x).isSome else present s x) || inSomeZip s.large x) := by
  obtain ⟨s1, hz, hg⟩ := reindex_ok hr
  have h0 : Inv C (reindexStart full s) := by
    cases full
    · exact h
    · exact ⟨h.ksmall, kasc_nil, h.klarge, h.small_ok, by intro r row hg; simp [reindexStart, SMap.get] at hg, h.zips_ok⟩
  have hp0 : ∀ x, present (reindexStart full s) x = (if full then (get s.small x).isSome else present s x) := by
    intro x; cases full <;> simp [reindexStart, present, SMap.get]
  obtain ⟨h1, p1⟩ := reindexZips_sound (C := C) s.large (reindexStart full s) h0
    (fun p hp => by rw [reindexStart_large]; exact mem_get h.klarge hp)
  rw [hz] at h1 p1
  have sb := (reindexGroups_frame _ _ _ _ hg).1
  exact ⟨sb.inv h1, fun x => by rw [sb.pres, p1 rfl x, hp0]⟩

theorem reindex_large (full : Bool) (s s'' : St) (hr : reindex full s = (s'', .ok)) : s''.large = s.large := by
  obtain ⟨s1, hz, hg⟩ := reindex_ok hr
  have := (reindexZips_w_large s.large (reindexStart full s)).2
  rw [hz, reindexStart_large] at this
  rw [(reindexGroups_frame _ _ _ _ hg).1.2.1, this]

/-! ## the records of the zips one pack stores -/

/-- manifest entries with running offsets from `o`, ending at `tot` -/
def Running : List Entry → Nat → Nat → Prop
  | [], o, tot => o = tot
  | e :: es, o, tot => e.off = o ∧ Running es (o + e.size) tot

def sumLen : List ZipRec → Nat
  | [] => 0
  | p :: ps => p.len + sumLen ps

theorem sumLen_append (a b : List ZipRec) : sumLen (a ++ b) = sumLen a + sumLen b := by
  induction a with
  | nil => simp [sumLen]
  | cons p ps ih => simp only [List.cons_append, sumLen, ih, Nat.add_assoc]

/-- part indexes count up from `i`, data offsets are the running sums from `o` -/
def Chain : List ZipRec → Nat → Nat → Prop
  | [], _, _ => True
  | p :: ps, i, o => p.idx = i ∧ p.off = o ∧ Chain ps (i + 1) (o + p.len)

theorem chain_append (a b : List ZipRec) (i o : Nat) :
    Chain (a ++ b) i o ↔ Chain a i o ∧ Chain b (i + a.length) (o + sumLen a) := by
  induction a generalizing i o with
  | nil => simp [Chain, sumLen]
  | cons p ps ih =>
    have e1 : i + (ps.length + 1) = i + 1 + ps.length := by rw [Nat.add_comm ps.length, Nat.add_assoc]
    have e2 : o + (p.len + sumLen ps) = o + p.len + sumLen ps := (Nat.add_assoc ..).symm
    simp only [List.cons_append, Chain, List.length_cons, sumLen, ih, and_assoc, e1, e2]

theorem chain_idx (zs : List ZipRec) (i o : Nat) (hc : Chain zs i o) : ∀ p ∈ zs, i ≤ p.idx ∧ p.idx < i + zs.length := by
  intro p hp
  obtain ⟨a, b, rfl⟩ := List.append_of_mem hp
  have := ((chain_append a (p :: b) i o).mp hc).2.1
  simp only [List.length_append, List.length_cons]; omega

theorem chain_idx_inj (zs : List ZipRec) (i o : Nat) (hc : Chain zs i o) :
    ∀ p ∈ zs, ∀ q ∈ zs, p.idx = q.idx → p = q := by
  induction zs generalizing i o with
  | nil => nofun
  | cons r rs ih =>
    obtain ⟨c1, _, c3⟩ := hc
    intro p hp q hq e
    rcases List.mem_cons.mp hp with rfl | hp' <;> rcases List.mem_cons.mp hq with rfl | hq'
    · rfl
    · have := (chain_idx rs _ _ c3 q hq').1; omega
    · have := (chain_idx rs _ _ c3 p hp').1; omega
    · exact ih _ _ c3 p hp' q hq' e

/-- a zip stored by the pack of a file whose chunks (in scan order) denote `allBytes`: a valid blob
within the size limit, well-formed, carrying the file's identity and its part index, whose first
file is the contiguous slice `[off, off+len)` of the file's bytes, with manifest offsets that are the
running sums of the sizes -/
def GoodZip (C : Ref → Bytes) (zipMax : Nat) (allBytes : Bytes) (whole : Ref) (wsz : Nat) (s : St) (p : ZipRec) : Prop :=
  ∃ z, get s.large p.zr = some z ∧ z.size ≤ zipMax ∧ ZipWF C z ∧ z.wholeRef = whole ∧ z.wholeSize = wsz ∧
    z.partIndex = p.idx ∧ z.dataStart = p.ds ∧ z.size = p.zsize ∧ z.data.length = p.len ∧ p.off + p.len ≤ allBytes.length ∧
    z.data = slice allBytes p.off p.len ∧ Running z.dataBlobs 0 z.data.length

theorem GoodZip.mono {zipMax : Nat} {allBytes : Bytes} {whole : Ref} {wsz : Nat} {s s' : St}
    {p : ZipRec} (h : GoodZip C zipMax allBytes whole wsz s p) (m : LargeMono s s') :
    GoodZip C zipMax allBytes whole wsz s' p := by
  obtain ⟨z, hz, rest⟩ := h
  exact ⟨z, m _ _ hz, rest⟩

/-- the `w:<whole>:<idx>` row of a stored zip -/
def toPart (p : ZipRec) : WPart := ⟨p.idx, p.zr, p.ds, p.off, p.len⟩

/-- the rows of a whole ref while its zips `zs` are being recorded one by one: no final row, one part
row per zip, newest first -/
def partsOf (zs : List ZipRec) : Option WEntry :=
  match zs with
  | [] => none
  | _ :: _ => some ⟨none, (zs.map toPart).reverse⟩

/-- recording the next zip of a chain: its index is new, so no older row is replaced -/
theorem setPart_partsOf {zs : List ZipRec} (hc : Chain zs 0 0) (q : ZipRec) (hq : q.idx = zs.length) :
    some (setPart (toPart q) (partsOf zs)) = partsOf (zs ++ [q]) := by
  cases zs with
  | nil => rfl
  | cons r rs =>
    have hf : ((r :: rs).map toPart).reverse.filter (fun p => p.idx != (toPart q).idx) = ((r :: rs).map toPart).reverse := by
      apply List.filter_eq_self.mpr
      intro p hp
      simp only [List.mem_reverse, List.mem_map] at hp
      obtain ⟨x, hx, rfl⟩ := hp
      have := (chain_idx _ 0 0 hc x hx).2
      simp [toPart]; omega
    simp only [partsOf, setPart, hf, List.cons_append]
    simp

theorem setWhole_partsOf {s : St} {whole : Ref} {zs : List ZipRec} (hw : get s.w whole = partsOf zs) (a b : Nat) :
    get (setWhole s whole a b).w whole = some ⟨some (a, b), (zs.map toPart).reverse⟩ := by
  simp only [setWhole, get_ins_self, hw]
  cases zs <;> rfl

/-- Fetch and Stat of a ref depend on the state only through its visibility -/
theorem fetch_stat_congr {s s' : St} (h : Inv C s) (h' : Inv C s') {x : Ref} (hp : present s' x = present s x) :
    fetch s' x = fetch s x ∧ stat s' x = stat s x := by
  rw [fetch_eq h', fetch_eq h, stat_eq h', stat_eq h, hp]
  exact ⟨rfl, rfl⟩

end Pk.BP
