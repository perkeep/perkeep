import PkVerif.Model.Index
/-!
# Lemmas about the indexer model (C05, C06)

Every row other than a `missing|` row belongs to one blob (`Owns`), so the rows are determined by how far the
indexing of each blob got (`stOf`, `R2`). `ReceiveBlob` has four outcomes (`receive_cases`). The three that
change the state keep the invariant by one lemma (`inv_step`); the two that commit are described once
(`Committed`), for the invariant and for the corpus and deletes mirrors alike.
-/
namespace Pk.Index
open Pk Pk.SMap

theorem get_isSome_of_mem {l : List Row} {k v : Bytes} (h : (k, v) ∈ l) : (get l k).isSome = true :=
  (mem_keys_iff_has l k).mp (List.mem_map.mpr ⟨_, h, rfl⟩)

theorem get_union_nil (l : List Row) (k : Bytes) : get (union l []) k = get l k := by
  rw [get_union]; cases get l k <;> simp [SMap.get]

theorem get_none_of_forall {l : List Row} {k : Bytes} (h : ∀ r ∈ l, r.1 ≠ k) : get l k = none :=
  SMap.get_noKey h

theorem has_eq (m : SMap Bytes) (k : Bytes) : has m k = (get m k).isSome := rfl

theorem contains_iff (l : List Ref) (x : Ref) : l.contains x = true ↔ x ∈ l := by simp

theorem firstMissing_none_iff (W : World) (src : List Ref) (b : Ref) :
    firstMissing W src b = none ↔ ∀ m ∈ fdeps W b, m ∈ src := by
  simp [firstMissing]

theorem firstMissing_mono (W : World) (src src' : List Ref) (b : Ref) (hs : ∀ x ∈ src, x ∈ src')
    (h : firstMissing W src b = none) : firstMissing W src' b = none :=
  (firstMissing_none_iff W src' b).mpr (fun m hm => hs m ((firstMissing_none_iff W src b).mp h m hm))

theorem firstMissing_some_iff (W : World) (src : List Ref) (b m : Ref) :
    firstMissing W src b = some m ↔
      ∃ pre post, fdeps W b = pre ++ m :: post ∧ (∀ x ∈ pre, x ∈ src) ∧ m ∉ src := by
  simp only [firstMissing, List.find?_eq_some_iff_append, Bool.not_eq_eq_eq_not, Bool.not_true,
    List.contains_eq_mem, decide_eq_false_iff_not, Bool.not_not, decide_eq_true_eq]
  exact ⟨fun ⟨h1, pre, post, h2, h3⟩ => ⟨pre, post, h2, h3, h1⟩, fun ⟨pre, post, h2, h3, h1⟩ => ⟨h1, pre, post, h2, h3⟩⟩

/-- a row that the indexing of `b` may write: its key names `b`, or it is the shared signer-key-id row (a
function of its key) -/
def Owns (W : World) (b : Ref) (r : Row) : Prop :=
  owner r.1 = some b ∨ ∃ s, r = (kSignerKeyId s, [keyIdOf W s])

theorem owns_compat (W : World) {b b' : Ref} (hne : b ≠ b') {k v v' : Bytes} (hr : Owns W b (k, v))
    (hr' : Owns W b' (k, v')) : v = v' := by
  rcases hr with h | ⟨s, h⟩ <;> rcases hr' with h' | ⟨s', h'⟩
  · exact absurd (Option.some.inj (h.symm.trans h')) hne
  · rw [show k = kSignerKeyId s' from (Prod.mk.inj h').1] at h; cases h
  · rw [show k = kSignerKeyId s from (Prod.mk.inj h).1] at h'; cases h'
  · obtain ⟨h1, h2⟩ := Prod.mk.inj h
    obtain ⟨h1', h2'⟩ := Prod.mk.inj h'
    have : s = s' := by simpa [kSignerKeyId] using h1.symm.trans h1'
    rw [h2, h2', this]

/-- a row of blob `b` other than a `missing|` row -/
def Good (W : World) (b : Ref) (r : Row) : Prop := Owns W b r ∧ isMissingKey r.1 = false ∧ r.1 ≠ kSchema

theorem good_claimRows (W : World) (b s pn : Ref) (ct : CType) (attr : Attr) (val : Val) (date : Nat) :
    ∀ r ∈ claimRows W b s pn ct attr val date, Good W b r := by
  intro r hr
  simp only [claimRows, List.mem_append] at hr
  rcases hr with ((hr | hr) | hr) | hr
  · simp only [List.mem_cons, List.mem_nil_iff, or_false] at hr
    rcases hr with rfl | rfl | rfl
    · exact ⟨Or.inr ⟨s, rfl⟩, rfl, nofun⟩
    · exact ⟨Or.inl rfl, rfl, nofun⟩
    · exact ⟨Or.inl rfl, rfl, nofun⟩
  · split at hr
    · simp only [List.mem_cons, List.mem_nil_iff, or_false] at hr
      rcases hr with rfl | rfl
      · exact ⟨Or.inl rfl, rfl, nofun⟩
      · exact ⟨Or.inl rfl, rfl, nofun⟩
    · cases hr
  · split at hr
    · split at hr
      · cases hr
      · rw [List.mem_singleton.mp hr]; exact ⟨Or.inl rfl, rfl, nofun⟩
    · cases hr
  · split at hr
    · rw [List.mem_singleton.mp hr]; exact ⟨Or.inl rfl, rfl, nofun⟩
    · cases hr

theorem good_deleteRows (W : World) (b s t date tt : Nat) : ∀ r ∈ deleteRows W b s t date tt, Good W b r := by
  intro r hr
  simp only [deleteRows, List.mem_cons] at hr
  rcases hr with rfl | hr
  · exact ⟨Or.inr ⟨s, rfl⟩, rfl, nofun⟩
  · split at hr
    · simp only [List.mem_cons, List.mem_nil_iff, or_false] at hr
      rcases hr with rfl | rfl | rfl
      · exact ⟨Or.inl rfl, rfl, nofun⟩
      · exact ⟨Or.inl rfl, rfl, nofun⟩
      · exact ⟨Or.inl rfl, rfl, nofun⟩
    · split at hr
      · simp only [List.mem_cons, List.mem_nil_iff, or_false] at hr
        subst hr
        exact ⟨Or.inl rfl, rfl, nofun⟩
      · cases hr

theorem good_fileRows (W : World) (b name mtime fsize : Nat) (mime : Bytes) (whole : Nat) (img : Option (Nat × Nat)) :
    ∀ r ∈ fileRows b name mtime fsize mime whole img, Good W b r := by
  intro r hr
  simp only [fileRows, List.mem_append, List.mem_cons, List.mem_nil_iff, or_false] at hr
  rcases hr with (rfl | rfl | rfl) | hr
  · exact ⟨Or.inl rfl, rfl, nofun⟩
  · exact ⟨Or.inl rfl, rfl, nofun⟩
  · exact ⟨Or.inl rfl, rfl, nofun⟩
  · cases img with
    | none => cases hr
    | some wh =>
      obtain ⟨w, h⟩ := wh
      simp at hr; subst hr
      exact ⟨Or.inl rfl, rfl, nofun⟩

theorem good_dirRows (W : World) (b name ss : Nat) : ∀ r ∈ dirRows W b name ss, Good W b r := by
  intro r hr
  simp only [dirRows, List.mem_cons, List.mem_map] at hr
  rcases hr with rfl | ⟨c, _, rfl⟩
  · exact ⟨Or.inl rfl, rfl, nofun⟩
  · exact ⟨Or.inl rfl, rfl, nofun⟩

theorem good_kindRowsAt (W : World) (b : Ref) (tt : Nat) : ∀ r ∈ kindRowsAt W b tt, Good W b r := by
  intro r hr
  unfold kindRowsAt at hr
  split at hr
  · exact good_claimRows _ _ _ _ _ _ _ _ r (List.mem_filter.mp hr).1
  · exact good_deleteRows _ _ _ _ _ _ r hr
  · exact good_fileRows _ _ _ _ _ _ _ _ r hr
  · exact good_dirRows _ _ _ _ r hr
  · cases hr

theorem good_meta (W : World) (b : Ref) (v : Bytes) : Good W b (kMeta b, v) :=
  ⟨Or.inl rfl, rfl, nofun⟩

theorem good_have (W : World) (b : Ref) (v : Bytes) : Good W b (kHave b, v) :=
  ⟨Or.inl rfl, rfl, nofun⟩

theorem good_fullRowsAt (W : World) (b : Ref) (tt : Nat) : ∀ r ∈ fullRowsAt W b tt, Good W b r := by
  intro r hr
  simp only [fullRowsAt, List.mem_cons] at hr
  rcases hr with rfl | rfl | hr
  · exact good_meta W b _
  · exact good_have W b _
  · exact good_kindRowsAt W b tt r hr

theorem good_partialRows (W : World) (b : Ref) : ∀ r ∈ partialRows W b, Good W b r := by
  intro r hr
  simp only [partialRows, List.mem_cons] at hr
  rcases hr with rfl | rfl | hr
  · exact good_meta W b _
  · exact good_have W b _
  · split at hr
    · simp at hr; subst hr
      exact ⟨Or.inr ⟨_, rfl⟩, rfl, nofun⟩
    · cases hr

/-- the rows a blob has in the index, by how far its indexing got -/
def rowsFor (W : World) : Status → Ref → List Row
  | .absent, _ => []
  | .half, b => partialRows W b
  | .full, b => fullRows W b

theorem good_rowsFor (W : World) (st : Status) (b : Ref) : ∀ r ∈ rowsFor W st b, Good W b r := by
  cases st with
  | absent => intro r hr; cases hr
  | half => exact good_partialRows W b
  | full => exact good_fullRowsAt W b _

theorem get_good {W : World} {b : Ref} {l : List Row} (hl : ∀ r ∈ l, Good W b r) {k v : Bytes}
    (h : get l k = some v) : Good W b (k, v) := hl _ (get_some_mem h)

theorem rowsFor_no_missing {W : World} (st : Status) (b : Ref) (k : Bytes) (hk : isMissingKey k = true) :
    SMap.get (rowsFor W st b) k = none := by
  cases hg : SMap.get (rowsFor W st b) k with
  | none => rfl
  | some v => exact absurd ((get_good (good_rowsFor W st b) hg).2.1.symm.trans hk) (by simp)

theorem mem_needsOf (l : List (Ref × Ref)) (b x : Ref) : x ∈ needsOf l b ↔ (b, x) ∈ l := by
  simp [needsOf]

theorem needsOf_isEmpty (l : List (Ref × Ref)) (b : Ref) : (needsOf l b).isEmpty = true ↔ ∀ m, (b, m) ∉ l := by
  simp [List.isEmpty_iff, List.eq_nil_iff_forall_not_mem, mem_needsOf]

theorem mem_addReady (r : List Ref) (b x : Ref) : x ∈ addReady r b ↔ x ∈ r ∨ x = b := by
  unfold addReady
  split
  · rename_i h
    exact ⟨Or.inl, fun h' => h'.elim id (fun e => e ▸ List.contains_iff_mem.mp h)⟩
  · simp

theorem foldl_noteOne_fields (br : Ref) (ns : List Ref) (s : State) :
    (ns.foldl (noteOne br) s).src = s.src ∧ (ns.foldl (noteOne br) s).deletes = s.deletes ∧
    (ns.foldl (noteOne br) s).corpus = s.corpus ∧ (ns.foldl (noteOne br) s).neededBy = s.neededBy := by
  induction ns generalizing s with
  | nil => exact ⟨rfl, rfl, rfl, rfl⟩
  | cons n ns ih => exact ih (noteOne br s n)

theorem foldl_noteOne_kasc (br : Ref) (ns : List Ref) (s : State) (h : KAsc s.rows) :
    KAsc (ns.foldl (noteOne br) s).rows := by
  induction ns generalizing s with
  | nil => exact h
  | cons n ns ih => exact ih _ (kasc_del _ h)

theorem foldl_noteOne_get (br : Ref) (ns : List Ref) (s : State) (h : KAsc s.rows) (k : Bytes) :
    SMap.get (ns.foldl (noteOne br) s).rows k = if ∃ n ∈ ns, k = kMissing n br then none else SMap.get s.rows k := by
  induction ns generalizing s with
  | nil => simp
  | cons n ns ih =>
    rw [List.foldl_cons, ih _ (kasc_del _ h)]
    show (if _ then none else SMap.get (SMap.del (kMissing n br) s.rows) k) = _
    rw [get_del _ h]
    by_cases e : k = kMissing n br
    · rw [if_pos e, ite_self, if_pos ⟨n, List.mem_cons_self, e⟩]
    · rw [if_neg e]
      refine ite_congr (propext ⟨fun ⟨x, hx, h'⟩ => ⟨x, List.mem_cons_of_mem _ hx, h'⟩, fun ⟨x, hx, h'⟩ => ?_⟩)
        (fun _ => rfl) (fun _ => rfl)
      rcases List.mem_cons.1 hx with rfl | hx
      · exact absurd h' e
      · exact ⟨x, hx, h'⟩

theorem mem_noteOne_needs (br n : Ref) (s : State) (p : Ref × Ref) :
    p ∈ (noteOne br s n).needs ↔ p ∈ s.needs ∧ ¬(p.1 = n ∧ p.2 = br) := by
  simp only [noteOne, List.mem_filter, Bool.not_eq_true', Bool.and_eq_false_iff, beq_eq_false_iff_ne, ne_eq,
    Classical.not_and_iff_not_or_not]

theorem foldl_noteOne_needs (br : Ref) (ns : List Ref) (s : State) (p : Ref × Ref) :
    p ∈ (ns.foldl (noteOne br) s).needs ↔ p ∈ s.needs ∧ ¬(p.1 ∈ ns ∧ p.2 = br) := by
  induction ns generalizing s with
  | nil => simp
  | cons n ns ih => rw [List.foldl_cons, ih, mem_noteOne_needs, List.mem_cons, or_and_right, not_or, and_assoc]

theorem mem_noteOne_ready (br n : Ref) (s : State) (x : Ref) :
    x ∈ (noteOne br s n).ready ↔ x ∈ s.ready ∨ (x = n ∧ ∀ m, (x, m) ∈ s.needs → m = br) := by
  have hiff : (needsOf (noteOne br s n).needs n).isEmpty = true ↔ ∀ m, (n, m) ∈ s.needs → m = br := by
    rw [needsOf_isEmpty]
    refine forall_congr' fun m => ?_
    rw [mem_noteOne_needs]
    exact ⟨fun h hm => Classical.byContradiction fun e => h ⟨hm, fun h' => e h'.2⟩,
      fun h h' => h'.2 ⟨rfl, h h'.1⟩⟩
  show x ∈ (if (needsOf (noteOne br s n).needs n).isEmpty then addReady s.ready n else s.ready) ↔ _
  split
  · rename_i hc
    rw [mem_addReady]
    exact or_congr_right ⟨fun e => ⟨e, e ▸ hiff.mp hc⟩, And.left⟩
  · rename_i hc
    exact ⟨Or.inl, fun h => h.elim id (fun h' => absurd (hiff.mpr (h'.1 ▸ h'.2)) hc)⟩

theorem foldl_noteOne_ready (br : Ref) (ns : List Ref) (s : State) (x : Ref) :
    x ∈ (ns.foldl (noteOne br) s).ready ↔ x ∈ s.ready ∨ (x ∈ ns ∧ ∀ m, (x, m) ∈ s.needs → m = br) := by
  induction ns generalizing s with
  | nil => simp
  | cons n ns ih =>
    -- removing `(n, br)` does not change whether `x` needs `br` alone
    have hsame : (∀ m, (x, m) ∈ (noteOne br s n).needs → m = br) ↔ (∀ m, (x, m) ∈ s.needs → m = br) := by
      refine forall_congr' fun m => ?_
      rw [mem_noteOne_needs]
      exact ⟨fun h hm => Classical.byContradiction fun e => e (h ⟨hm, fun h' => e h'.2⟩), fun h h' => h h'.1⟩
    rw [List.foldl_cons, ih, mem_noteOne_ready, hsame, List.mem_cons, or_assoc, ← or_and_right]

/-- how far the indexing of `b` got, read off the `have:` row -/
def stOf (W : World) (rows : SMap Bytes) (b : Ref) : Status :=
  match SMap.get rows (kHave b) with
  | none => .absent
  | some v => if v = haveVal W b true then .full else .half

/-- every row that is not a `missing|` row (nor the schema version) is a row of some blob, as far as
that blob's indexing got -/
def R2 (W : World) (rows : SMap Bytes) : Prop :=
  ∀ k v, isMissingKey k = false → k ≠ kSchema →
    (SMap.get rows k = some v ↔ ∃ b, SMap.get (rowsFor W (stOf W rows b) b) k = some v)

/-- fetch dependencies are leaves (keys, chunks, bytes blobs, static sets need nothing themselves), and
no delete claim targets itself -/
def WF (W : World) : Prop :=
  (∀ b, ∀ m ∈ fdeps W b, fdeps W m = [] ∧ idep W m = none) ∧ (∀ b, idep W b ≠ some b)

/-- makes `WF` of a concrete world (the `W0` of the examples) a finite check -/
theorem wf_of_bounded (W : World) (n : Nat) (hhi : ∀ b, n ≤ b → (W b).kind = .opaque)
    (hlo : ∀ b, b < n → (∀ m ∈ fdeps W b, fdeps W m = [] ∧ idep W m = none) ∧ idep W b ≠ some b) : WF W := by
  have leaf : ∀ b, n ≤ b → fdeps W b = [] ∧ idep W b = none := fun b hb => by
    simp only [fdeps, idep, hhi b hb, and_self]
  refine ⟨fun b => ?_, fun b => ?_⟩ <;> by_cases hb : b < n
  · exact (hlo b hb).1
  · rw [(leaf b (Nat.le_of_not_lt hb)).1]; intro m hm; cases hm
  · exact (hlo b hb).2
  · rw [(leaf b (Nat.le_of_not_lt hb)).2]; intro h; cases h

theorem get_rowsFor_other (W : World) (st : Status) {b b' : Ref} {k : Bytes} (ho : owner k = some b') (hne : b' ≠ b) :
    SMap.get (rowsFor W st b) k = none := by
  cases hg : SMap.get (rowsFor W st b) k with
  | none => rfl
  | some v =>
    rcases (get_good (good_rowsFor W st b) hg).1 with h1 | ⟨s, h1⟩
    · exact absurd (Option.some.inj (ho.symm.trans h1)) hne
    · rw [(Prod.mk.inj h1).1] at ho; cases ho

theorem get_rowsFor_have (W : World) (st : Status) (b b' : Ref) :
    SMap.get (rowsFor W st b) (kHave b') =
      if b' = b then (match st with | .absent => none | .half => some (haveVal W b false) | .full => some (haveVal W b true))
      else none := by
  by_cases h : b' = b
  · have hne : kHave b ≠ kMeta b := nofun
    rw [if_pos h, h]
    cases st
    · rfl
    · exact (if_neg hne).trans (if_pos rfl)
    · exact (if_neg hne).trans (if_pos rfl)
  · rw [if_neg h, get_rowsFor_other W st rfl h]

theorem get_rowsFor_meta (W : World) (st : Status) (b : Ref) :
    SMap.get (rowsFor W st b) (kMeta b) = if st = .absent then none else some (metaVal W b) := by
  cases st
  · rfl
  · exact if_pos rfl
  · exact if_pos rfl

theorem haveVal_ne (W : World) (b : Ref) : haveVal W b false ≠ haveVal W b true := by
  simp [haveVal]

theorem get_of_R2 (W : World) (rows : SMap Bytes) (h : R2 W rows) {b : Ref} {k : Bytes} (ho : owner k = some b)
    (hk : isMissingKey k = false) (hs : k ≠ kSchema) :
    SMap.get rows k = SMap.get (rowsFor W (stOf W rows b) b) k := by
  apply Option.ext
  intro v
  rw [h k v hk hs]
  refine ⟨fun ⟨b', hb'⟩ => ?_, fun h' => ⟨b, h'⟩⟩
  by_cases e : b = b'
  · rw [e]; exact hb'
  · rw [get_rowsFor_other W _ ho e] at hb'; cases hb'

theorem have_of_R2 (W : World) (rows : SMap Bytes) (h : R2 W rows) (b : Ref) :
    SMap.get rows (kHave b) = (match stOf W rows b with
      | .absent => none | .half => some (haveVal W b false) | .full => some (haveVal W b true)) := by
  rw [get_of_R2 W rows h (b := b) (k := kHave b) rfl rfl nofun, get_rowsFor_have, if_pos rfl]

theorem indexedVal_iff (W : World) (rows : SMap Bytes) (h : R2 W rows) (b : Ref) :
    indexedVal (SMap.get rows (kHave b)) = true ↔ stOf W rows b = .full := by
  rw [have_of_R2 W rows h b]
  cases stOf W rows b <;> simp [indexedVal, haveVal]

theorem resumed_iff (W : World) (rows : SMap Bytes) (h : R2 W rows) (b : Ref) :
    (SMap.get rows (kHave b)).isSome = true ↔ stOf W rows b ≠ .absent := by
  rw [have_of_R2 W rows h b]
  cases stOf W rows b <;> simp

theorem meta_of_R2 (W : World) (rows : SMap Bytes) (h : R2 W rows) (t : Ref) :
    SMap.get rows (kMeta t) = if stOf W rows t = .absent then none else some (metaVal W t) := by
  rw [get_of_R2 W rows h (b := t) (k := kMeta t) rfl rfl nofun, get_rowsFor_meta]

theorem stOf_congr (W : World) (rows rows' : SMap Bytes)
    (h : ∀ k, isMissingKey k = false → SMap.get rows' k = SMap.get rows k) (b : Ref) :
    stOf W rows' b = stOf W rows b := by
  unfold stOf; rw [h (kHave b) rfl]

theorem R2_congr (W : World) (rows rows' : SMap Bytes)
    (h : ∀ k, isMissingKey k = false → SMap.get rows' k = SMap.get rows k) (hr : R2 W rows) : R2 W rows' := by
  intro k v hk hs
  rw [h k hk, hr k v hk hs]
  exact exists_congr fun b => by rw [stOf_congr W rows rows' h b]

/-- the keys of a blob's rows only grow with its status: the second pass overwrites the first -/
theorem rowsFor_keys_mono (W : World) (b : Ref) (k : Bytes) {st st' : Status} (hst : st ≠ .full) (hst' : st' ≠ .absent)
    (h : (SMap.get (rowsFor W st b) k).isSome = true) : (SMap.get (rowsFor W st' b) k).isSome = true := by
  cases st with
  | absent => cases h
  | full => exact absurd rfl hst
  | half =>
  cases st' with
  | absent => exact absurd rfl hst'
  | half => exact h
  | full =>
  -- each of the partial rows has its key among the full rows
  obtain ⟨v, hv⟩ := Option.isSome_iff_exists.mp h
  have hm : (k, v) ∈ partialRows W b := get_some_mem hv
  show (SMap.get (fullRowsAt W b _) k).isSome = true
  simp only [partialRows, List.mem_cons] at hm
  rcases hm with e | e | hm
  · cases e; exact get_isSome_of_mem List.mem_cons_self
  · cases e; exact get_isSome_of_mem (List.mem_cons_of_mem _ List.mem_cons_self)
  · split at hm
    · rename_i s t d hk
      cases List.mem_singleton.mp hm
      refine get_isSome_of_mem (v := [keyIdOf W s]) (List.mem_cons_of_mem _ (List.mem_cons_of_mem _ ?_))
      unfold kindRowsAt; rw [hk]; exact List.mem_cons_self
    · cases hm

theorem commit_rows (W : World) (rows rows' : SMap Bytes) (hr : R2 W rows) (b : Ref)
    (hb : stOf W rows b ≠ .full) (st' : Status) (hst : st' ≠ .absent)
    (hrows : ∀ k, isMissingKey k = false → SMap.get rows' k = SMap.get (SMap.union (rowsFor W st' b) rows) k) :
    stOf W rows' b = st' ∧ (∀ b', b' ≠ b → stOf W rows' b' = stOf W rows b') ∧ R2 W rows' ∧
    SMap.get rows' kSchema = SMap.get rows kSchema := by
  have hget : ∀ k, isMissingKey k = false → SMap.get rows' k = match SMap.get (rowsFor W st' b) k with
      | some v => some v | none => SMap.get rows k := fun k hk => by
    rw [hrows k hk, get_union]; cases SMap.get (rowsFor W st' b) k <;> rfl
  have hown : ∀ k v, SMap.get (rowsFor W st' b) k = some v → Good W b (k, v) :=
    fun k v h => get_good (good_rowsFor W st' b) h
  have hst_b : stOf W rows' b = st' := by
    unfold stOf
    rw [hget _ rfl, get_rowsFor_have, if_pos rfl]
    cases st' with
    | absent => exact absurd rfl hst
    | half => simp [haveVal_ne]
    | full => simp
  have hst_o : ∀ b', b' ≠ b → stOf W rows' b' = stOf W rows b' := by
    intro b' hne
    unfold stOf
    rw [hget _ rfl, get_rowsFor_have, if_neg hne]
  refine ⟨hst_b, hst_o, ?_, ?_⟩
  · intro k v hk hs
    rw [hget k hk]
    constructor
    · intro h
      cases hm : SMap.get (rowsFor W st' b) k with
      | some v' =>
        rw [hm] at h
        exact ⟨b, by rw [hst_b, hm]; exact h⟩
      | none =>
        rw [hm] at h
        obtain ⟨b0, hb0⟩ := (hr k v hk hs).mp h
        by_cases e : b0 = b
        · -- the old rows of `b` are overwritten: `k` would be a key of the new ones
          have := rowsFor_keys_mono W b k hb hst (e ▸ hb0 ▸ rfl)
          rw [hm] at this; cases this
        · exact ⟨b0, by rw [hst_o b0 e]; exact hb0⟩
    · rintro ⟨b0, hb0⟩
      by_cases e : b0 = b
      · subst e
        rw [hst_b] at hb0; rw [hb0]
      · rw [hst_o b0 e] at hb0
        have hold : SMap.get rows k = some v := (hr k v hk hs).mpr ⟨b0, hb0⟩
        cases hm : SMap.get (rowsFor W st' b) k with
        | none => exact hold
        | some v' =>
          rw [owns_compat W (fun h => e h.symm) (hown k v' hm).1 (get_good (good_rowsFor W _ b0) hb0).1]
  · rw [hget _ rfl]
    cases hm : SMap.get (rowsFor W st' b) kSchema with
    | none => rfl
    | some v' => exact absurd rfl (hown kSchema v' hm).2.2

/-- `neededBy` is `needs` reversed -/
def J3 (s : State) : Prop := ∀ b m, (m, b) ∈ s.neededBy ↔ (b, m) ∈ s.needs

theorem nbi_fields (s : State) (br : Ref) :
    (s.noteBlobIndexed br).src = s.src ∧ (s.noteBlobIndexed br).deletes = s.deletes ∧
    (s.noteBlobIndexed br).corpus = s.corpus :=
  have h := foldl_noteOne_fields br (needsOf s.neededBy br) s
  ⟨h.1, h.2.1, h.2.2.1⟩

theorem kMissing_isMissing (h n : Ref) : isMissingKey (kMissing h n) = true := rfl

/-- noteBlobIndexedLocked in closed form: `br` is nobody's dependency any more, the `missing|` rows that named
it are gone, and the blobs that waited for `br` alone are ready -/
theorem noteBlobIndexed_spec (s : State) (br : Ref) (hj : J3 s) (hk : KAsc s.rows) :
    KAsc (s.noteBlobIndexed br).rows ∧
    (∀ k, isMissingKey k = false → SMap.get (s.noteBlobIndexed br).rows k = SMap.get s.rows k) ∧
    (∀ x y, SMap.get (s.noteBlobIndexed br).rows (kMissing x y) =
      if y = br ∧ (x, br) ∈ s.needs then none else SMap.get s.rows (kMissing x y)) ∧
    J3 (s.noteBlobIndexed br) ∧
    (∀ x y, (x, y) ∈ (s.noteBlobIndexed br).needs ↔ (x, y) ∈ s.needs ∧ y ≠ br) ∧
    (∀ x, x ∈ (s.noteBlobIndexed br).ready ↔
      x ∈ s.ready ∨ ((x, br) ∈ s.needs ∧ ∀ m, (x, m) ∈ s.needs → m = br)) := by
  have hns : ∀ x, x ∈ needsOf s.neededBy br ↔ (x, br) ∈ s.needs := fun x => by rw [mem_needsOf, hj]
  have hneeds : ∀ x y, (x, y) ∈ ((needsOf s.neededBy br).foldl (noteOne br) s).needs ↔ (x, y) ∈ s.needs ∧ y ≠ br :=
    fun x y => by
      rw [foldl_noteOne_needs, hns]
      exact and_congr_right fun h => ⟨fun h' e => h' ⟨e ▸ h, e⟩, fun h' e => h' e.2⟩
  refine ⟨foldl_noteOne_kasc br _ s hk, fun k hkm => ?_, fun x y => ?_, fun x y => ?_, hneeds, fun x => ?_⟩
  · show SMap.get ((needsOf s.neededBy br).foldl (noteOne br) s).rows k = _
    rw [foldl_noteOne_get br _ s hk, if_neg]
    rintro ⟨n, _, e⟩
    rw [e] at hkm; cases hkm
  · show SMap.get ((needsOf s.neededBy br).foldl (noteOne br) s).rows _ = _
    rw [foldl_noteOne_get br _ s hk]
    have : (∃ n ∈ needsOf s.neededBy br, kMissing x y = kMissing n br) ↔ y = br ∧ (x, br) ∈ s.needs := by
      constructor
      · rintro ⟨n, hn, e⟩
        obtain ⟨rfl, rfl⟩ : x = n ∧ y = br := by simpa [kMissing] using e
        exact ⟨rfl, (hns x).1 hn⟩
      · rintro ⟨rfl, h⟩
        exact ⟨x, (hns x).2 h, rfl⟩
    exact ite_congr (propext this) (fun _ => rfl) (fun _ => rfl)
  · show (y, x) ∈ List.filter _ ((needsOf s.neededBy br).foldl (noteOne br) s).neededBy ↔
      (x, y) ∈ ((needsOf s.neededBy br).foldl (noteOne br) s).needs
    rw [List.mem_filter, (foldl_noteOne_fields br _ s).2.2.2, hneeds, hj x y]
    exact and_congr_right fun _ => bne_iff_ne
  · show x ∈ ((needsOf s.neededBy br).foldl (noteOne br) s).ready ↔ _
    rw [foldl_noteOne_ready, hns]

def keepNotOf (b : Ref) (k : Bytes) : Bool :=
  match k with
  | [3, h, _] => h != b
  | _ => true

theorem rme_get (s : State) (b : Ref) (hk : KAsc s.rows) (k : Bytes) :
    SMap.get (s.removeAllMissingEdges b).rows k = if keepNotOf b k then SMap.get s.rows k else none :=
  get_filter_key (keepNotOf b) _ k

theorem keepNotOf_missing (b h n : Ref) : keepNotOf b (kMissing h n) = (h != b) := rfl

theorem keepNotOf_other (b : Ref) (k : Bytes) (h : isMissingKey k = false) : keepNotOf b k = true := by
  unfold keepNotOf
  split
  · cases h
  · rfl

theorem noteNeeded_get_other (s : State) (b m : Ref) (k : Bytes) (h : isMissingKey k = false) :
    SMap.get (s.noteNeeded b m).rows k = SMap.get s.rows k := by
  show SMap.get (SMap.ins (kMissing b m) [1] s.rows) k = _
  rw [get_ins, if_neg]
  intro e; rw [e, kMissing_isMissing] at h; cases h

/-- `noteNeeded` as `inv_step` sees it: `b` now needs `m` as well -/
theorem mem_noteNeeded_needs (s : State) (b m x y : Ref) :
    (x, y) ∈ (s.noteNeeded b m).needs ↔ (x, y) ∈ s.needs ∨ (x = b ∧ some m = some y) := by
  show (x, y) ∈ s.needs ++ [(b, m)] ↔ _
  rw [List.mem_append, List.mem_singleton, Prod.mk.injEq, Option.some.injEq, eq_comm (a := m)]

theorem noteNeeded_missing (s : State) (b m x y : Ref) :
    SMap.get (s.noteNeeded b m).rows (kMissing x y) =
      if x = b ∧ some m = some y then some [1] else SMap.get s.rows (kMissing x y) := by
  show SMap.get (SMap.ins (kMissing b m) [1] s.rows) _ = _
  rw [get_ins]
  refine ite_congr (propext ?_) (fun _ => rfl) (fun _ => rfl)
  show [3, x, y] = [3, b, m] ↔ _
  rw [List.cons.injEq, List.cons.injEq, List.cons.injEq, Option.some.injEq, eq_comm (a := m)]
  exact ⟨fun h => ⟨h.2.1, h.2.2.1⟩, fun h => ⟨rfl, h.1, h.2, rfl⟩⟩

/-- `seen`: the blobs delivered so far. `skip`: a blob exempt from `j1` (it is just being re-indexed). -/
structure Inv (W : World) (ver : Nat) (s : State) (seen : List Ref) (skip : Option Ref) : Prop where
  kasc : KAsc s.rows
  schema : SMap.get s.rows kSchema = some [ver]
  /-- the rows other than `missing|` rows are those of the blobs, as far as each got -/
  r2 : R2 W s.rows
  /-- the `missing|` rows are the needs of the blobs that are not fully indexed -/
  r3 : ∀ b m, SMap.get s.rows (kMissing b m) =
        if (b, m) ∈ s.needs ∧ stOf W s.rows b ≠ .full then some [1] else none
  j3 : J3 s
  /-- what is needed is not committed -/
  j2 : ∀ b m, (b, m) ∈ s.needs → stOf W s.rows m = .absent
  irr : ∀ b, (b, b) ∉ s.needs
  /-- a delivered blob that is not fully indexed waits for something or is queued for re-indexing -/
  j1 : ∀ b ∈ seen, some b ≠ skip → stOf W s.rows b ≠ .full → (∃ m, (b, m) ∈ s.needs) ∨ b ∈ s.ready
  /-- an absent blob waits for a fetch dependency, all earlier ones being in the source -/
  j4a : ∀ b m, (b, m) ∈ s.needs → stOf W s.rows b = .absent →
        ∃ pre post, fdeps W b = pre ++ m :: post ∧ ∀ x ∈ pre, x ∈ s.src
  /-- a half-indexed blob waits for its target, or still for a fetch dependency noted before its first pass -/
  j4b : ∀ b m, (b, m) ∈ s.needs → stOf W s.rows b = .half → idep W b = some m ∨ m ∈ fdeps W b
  /-- a committed blob has all its fetch dependencies in the source -/
  j4c : ∀ b, stOf W s.rows b ≠ .absent → firstMissing W s.src b = none
  /-- the target of a fully indexed delete claim is committed -/
  j4d : ∀ b t, stOf W s.rows b = .full → idep W b = some t → stOf W s.rows t ≠ .absent
  s1 : ∀ b, stOf W s.rows b ≠ .absent → b ∈ s.src
  s2 : ∀ b m, (b, m) ∈ s.needs → b ∈ s.src
  seenSrc : ∀ b ∈ seen, b ∈ s.src

theorem Inv.weaken {W : World} {ver : Nat} {s : State} {seen seen' : List Ref} {skip : Option Ref}
    (h : Inv W ver s seen none) (hs : ∀ b ∈ seen', b ∈ seen) : Inv W ver s seen' skip :=
  { h with j1 := fun b hb _ hst => h.j1 b (hs b hb) (by simp) hst, seenSrc := fun b hb => h.seenSrc b (hs b hb) }

/-- ReceiveBlob of an already indexed blob -/
theorem inv_receive_full {W : World} {ver : Nat} {s : State} {seen : List Ref} {b : Ref}
    (h : Inv W ver s seen (some b)) (hb : b ∈ s.src) (hst : stOf W s.rows b = .full) :
    Inv W ver s (b :: seen) none :=
  { h with
    j1 := fun x hx _ hx2 =>
      have e : x ≠ b := fun e => hx2 (e ▸ hst)
      h.j1 x (List.mem_of_ne_of_mem e hx) (fun e' => e (Option.some.inj e')) hx2
    seenSrc := fun x hx => (List.mem_cons.mp hx).elim (fun e => e ▸ hb) (h.seenSrc x) }

/-- One `ReceiveBlob` of a blob `b` that is not fully indexed yet, seen from the invariant. `b` ends in
status `st'` (`.absent`: a fetch dependency is missing and nothing is committed); `add` is the dependency
noted on the way and `N` the needs with it. When something is committed, `b` is nobody's dependency any
more, and the blobs that waited for `b` alone become ready. The three outcomes of `ReceiveBlob` that change
the state are instances. -/
theorem inv_step {W : World} {ver : Nat} {s s' : State} {seen : List Ref} {b : Ref} {st' : Status}
    {add : Option Ref} {N : List (Ref × Ref)}
    (h : Inv W ver s seen (some b)) (hb : b ∈ s.src) (hst : stOf W s.rows b ≠ .full)
    (hN : ∀ x y, (x, y) ∈ N ↔ (x, y) ∈ s.needs ∨ (x = b ∧ add = some y))
    (kasc : KAsc s'.rows) (schema : SMap.get s'.rows kSchema = some [ver]) (r2 : R2 W s'.rows)
    (stb : stOf W s'.rows b = st') (sto : ∀ x, x ≠ b → stOf W s'.rows x = stOf W s.rows x)
    (src : s'.src = s.src) (j3 : J3 s')
    (needs : ∀ x y, (x, y) ∈ s'.needs ↔ (x, y) ∈ N ∧ (st' = .absent ∨ y ≠ b))
    (ready : ∀ x, x ∈ s'.ready ↔ x ∈ s.ready ∨ (st' ≠ .absent ∧ (x, b) ∈ N ∧ ∀ m, (x, m) ∈ N → m = b))
    (missing : ∀ x y, SMap.get s'.rows (kMissing x y) =
      if (st' = .full ∧ x = b) ∨ (st' ≠ .absent ∧ y = b ∧ (x, b) ∈ N) then none
      else if x = b ∧ add = some y then some [1] else SMap.get s.rows (kMissing x y))
    (hgrow : st' = .absent → stOf W s.rows b = .absent)
    (hfm : st' ≠ .absent → firstMissing W s.src b = none)
    (hadd : ∀ m, add = some m → m ≠ b ∧ stOf W s.rows m = .absent ∧
      if st' = .absent then ∃ pre post, fdeps W b = pre ++ m :: post ∧ ∀ x ∈ pre, x ∈ s.src
      else idep W b = some m)
    (hnote : st' ≠ .full → ∃ m, add = some m)
    (hfull : st' = .full → add = none ∧ ∀ t, idep W b = some t → stOf W s.rows t ≠ .absent) :
    Inv W ver s' (b :: seen) none := by
  -- what holds of `b` at its new status, and held of every other blob at its status, holds of every blob
  have every : ∀ (P : Ref → Status → Prop), P b st' → (∀ x, x ≠ b → P x (stOf W s.rows x)) →
      ∀ x, P x (stOf W s'.rows x) := fun P hPb hPo x => by
    by_cases e : x = b
    · rw [e, stb]; exact hPb
    · rw [sto x e]; exact hPo x e
  have mono : ∀ x, stOf W s.rows x ≠ .absent → stOf W s'.rows x ≠ .absent :=
    every (fun x st => stOf W s.rows x ≠ .absent → st ≠ .absent) (fun hx e' => hx (hgrow e')) (fun _ _ hx => hx)
  have hNo : ∀ x y, x ≠ b → ((x, y) ∈ N ↔ (x, y) ∈ s.needs) := fun x y e => by
    rw [hN]; exact ⟨fun h' => h'.elim id (fun h'' => absurd h''.1 e), Or.inl⟩
  have hNb : ∀ x, (x, b) ∈ N ↔ (x, b) ∈ s.needs := fun x => by
    rw [hN]; exact ⟨fun h' => h'.elim id (fun h'' => absurd rfl (hadd b h''.2).1), Or.inl⟩
  refine { kasc := kasc, schema := schema, r2 := r2, j3 := j3, r3 := ?_, j2 := ?_, irr := ?_, j1 := ?_,
           j4a := ?_, j4b := ?_, j4c := ?_, j4d := ?_, s1 := ?_, s2 := ?_, seenSrc := ?_ }
  · -- r3
    intro x y
    rw [missing]
    by_cases hA : (st' = .full ∧ x = b) ∨ (st' ≠ .absent ∧ y = b ∧ (x, b) ∈ N)
    · rw [if_pos hA, if_neg]
      rintro ⟨h1, h2⟩
      rcases hA with ⟨e1, e2⟩ | ⟨e1, e2, _⟩
      · exact h2 (by rw [e2, stb, e1])
      · exact ((needs x y).mp h1).2.elim e1 (fun e => e e2)
    · rw [if_neg hA]
      by_cases hB : x = b ∧ add = some y
      · rw [if_pos hB, if_pos]
        refine ⟨(needs x y).mpr ⟨(hN x y).mpr (Or.inr hB), Or.inr (hadd y hB.2).1⟩, ?_⟩
        rw [hB.1, stb]
        intro e; rw [(hfull e).1] at hB; cases hB.2
      · rw [if_neg hB, h.r3 x y]
        have hxy : (x, y) ∈ N ↔ (x, y) ∈ s.needs := by
          rw [hN]; exact ⟨fun h' => h'.elim id (fun h'' => absurd h'' hB), Or.inl⟩
        have hstx : stOf W s'.rows x ≠ .full ↔ stOf W s.rows x ≠ .full := by
          by_cases e : x = b
          · rw [e, stb]; exact ⟨fun _ => hst, fun _ e1 => hA (Or.inl ⟨e1, e⟩)⟩
          · rw [sto x e]
        refine (ite_congr (propext ?_) (fun _ => rfl) (fun _ => rfl)).symm
        rw [needs, hxy, hstx]
        refine ⟨fun h' => ⟨h'.1.1, h'.2⟩, fun h' => ⟨⟨h'.1, ?_⟩, h'.2⟩⟩
        by_cases e1 : st' = .absent
        · exact Or.inl e1
        · exact Or.inr (fun e2 => hA (Or.inr ⟨e1, e2, e2 ▸ hxy.mpr h'.1⟩))
  · -- j2
    intro x y hxy
    obtain ⟨h1, h2⟩ := (needs x y).mp hxy
    have hy : stOf W s.rows y = .absent := ((hN x y).mp h1).elim (h.j2 x y) (fun h' => (hadd y h'.2).2.1)
    by_cases e : y = b
    · rw [e, stb]; exact h2.resolve_right (fun h' => h' e)
    · rw [sto y e]; exact hy
  · -- irr
    intro x hx
    exact ((hN x x).mp ((needs x x).mp hx).1).elim (h.irr x) (fun h' => (hadd x h'.2).1 h'.1)
  · -- j1
    intro x hx _ hx2
    by_cases e : x = b
    · obtain ⟨m, hm⟩ := hnote (by rw [← stb, ← e]; exact hx2)
      exact Or.inl ⟨m, (needs x m).mpr ⟨(hN x m).mpr (Or.inr ⟨e, hm⟩), Or.inr (hadd m hm).1⟩⟩
    · rw [sto x e] at hx2
      rcases h.j1 x (List.mem_of_ne_of_mem e hx) (fun e' => e (Option.some.inj e')) hx2 with ⟨y, hy⟩ | h1
      · by_cases hex : st' = .absent ∨ ∃ m, (x, m) ∈ s.needs ∧ m ≠ b
        · rcases hex with e1 | ⟨m, hm, hmb⟩
          · exact Or.inl ⟨y, (needs x y).mpr ⟨(hNo x y e).mpr hy, Or.inl e1⟩⟩
          · exact Or.inl ⟨m, (needs x m).mpr ⟨(hNo x m e).mpr hm, Or.inr hmb⟩⟩
        · have hall : ∀ m, (x, m) ∈ s.needs → m = b := fun m hm =>
            Classical.byContradiction fun hmb => hex (Or.inr ⟨m, hm, hmb⟩)
          refine Or.inr ((ready x).mpr (Or.inr ⟨fun e1 => hex (Or.inl e1), ?_, fun m hm => hall m ((hNo x m e).mp hm)⟩))
          exact (hNb x).mpr (hall y hy ▸ hy)
      · exact Or.inr ((ready x).mpr (Or.inl h1))
  · -- j4a
    intro x y hxy hx
    rw [src]
    obtain ⟨h1, _⟩ := (needs x y).mp hxy
    by_cases e : x = b
    · rw [e, stb] at hx
      rcases (hN x y).mp h1 with h2 | h2
      · exact h.j4a x y h2 (e ▸ hgrow hx)
      · have := (hadd y h2.2).2.2
        rw [if_pos hx] at this
        rw [e]; exact this
    · rw [sto x e] at hx
      exact h.j4a x y ((hNo x y e).mp h1) hx
  · -- j4b
    intro x y hxy hx
    obtain ⟨h1, _⟩ := (needs x y).mp hxy
    by_cases e : x = b
    · subst e
      rw [stb] at hx
      rcases (hN x y).mp h1 with h2 | h2
      · cases hs : stOf W s.rows x with
        | absent =>
          obtain ⟨pre, post, hsp, _⟩ := h.j4a x y h2 hs
          exact Or.inr (by rw [hsp]; simp)
        | half => exact h.j4b x y h2 hs
        | full => exact absurd hs hst
      · have := (hadd y h2.2).2.2
        rw [if_neg (by rw [hx]; simp)] at this
        exact Or.inl this
    · rw [sto x e] at hx
      exact h.j4b x y ((hNo x y e).mp h1) hx
  · -- j4c
    rw [src]
    exact every (fun x st => st ≠ .absent → firstMissing W s.src x = none) hfm (fun x _ => h.j4c x)
  · -- j4d
    exact every (fun x st => ∀ t, st = .full → idep W x = some t → stOf W s'.rows t ≠ .absent)
      (fun t e ht => mono t ((hfull e).2 t ht)) (fun x _ t hx ht => mono t (h.j4d x t hx ht))
  · -- s1
    rw [src]
    exact every (fun x st => st ≠ .absent → x ∈ s.src) (fun _ => hb) (fun x _ => h.s1 x)
  · -- s2
    intro x y hxy
    rw [src]
    exact ((hN x y).mp ((needs x y).mp hxy).1).elim (h.s2 x y) (fun h' => h'.1 ▸ hb)
  · -- seenSrc
    intro x hx
    rw [src]
    exact (List.mem_cons.mp hx).elim (fun e => e ▸ hb) (h.seenSrc x)

theorem noteNeeded_J3 (s : State) (hj : J3 s) (b t : Ref) : J3 (s.noteNeeded b t) := by
  intro x y
  show (y, x) ∈ s.neededBy ++ [(t, b)] ↔ (x, y) ∈ s.needs ++ [(b, t)]
  simp only [List.mem_append, List.mem_singleton, Prod.mk.injEq, hj x y, and_comm]

/-- ReceiveBlob of a blob one of whose fetch dependencies is not in the source -/
theorem inv_receive_fetchmiss {W : World} {ver : Nat} {s : State} {seen : List Ref} {b m : Ref}
    (h : Inv W ver s seen (some b)) (hb : b ∈ s.src) (hm : firstMissing W s.src b = some m) :
    Inv W ver (s.noteNeeded b m) (b :: seen) none := by
  obtain ⟨pre, post, hsplit, hpre, hmsrc⟩ := (firstMissing_some_iff W s.src b m).mp hm
  have hsame := noteNeeded_get_other s b m
  have hstq := stOf_congr W s.rows _ hsame
  have hbabs : stOf W s.rows b = .absent := Classical.byContradiction fun e => by
    rw [h.j4c b e] at hm; cases hm
  refine inv_step (st' := .absent) (add := some m) (N := (s.noteNeeded b m).needs) h hb (by rw [hbabs]; simp)
    (hN := mem_noteNeeded_needs s b m)
    (kasc := kasc_ins _ _ h.kasc)
    (schema := by rw [hsame _ rfl]; exact h.schema)
    (r2 := R2_congr W _ _ hsame h.r2)
    (stb := by rw [hstq]; exact hbabs)
    (sto := fun x _ => hstq x)
    (src := rfl)
    (j3 := noteNeeded_J3 s h.j3 b m)
    (needs := fun x y => ⟨fun h => ⟨h, Or.inl rfl⟩, And.left⟩)
    (ready := fun x => ⟨Or.inl, fun h => h.elim id (fun h' => absurd rfl h'.1)⟩)
    (missing := fun x y => (noteNeeded_missing s b m x y).trans
      (if_neg (fun h => h.elim (fun h => nomatch h.1) (fun h => h.1 rfl))).symm)
    (hgrow := fun _ => hbabs)
    (hfm := fun e => absurd rfl e)
    (hadd := ?_)
    (hnote := fun _ => ⟨m, rfl⟩)
    (hfull := fun e => by cases e)
  intro m' e
  cases e
  exact ⟨fun e => hmsrc (e ▸ hb), Classical.byContradiction fun e => hmsrc (h.s1 m e),
    by rw [if_pos rfl]; exact ⟨pre, post, hsplit, hpre⟩⟩

theorem corpusAdd_fields (s : State) (b : Ref) (mm : List Row) (r : Bool) :
    (s.corpusAdd b mm r).rows = s.rows ∧ (s.corpusAdd b mm r).needs = s.needs ∧
    (s.corpusAdd b mm r).neededBy = s.neededBy ∧ (s.corpusAdd b mm r).ready = s.ready ∧
    (s.corpusAdd b mm r).src = s.src ∧ (s.corpusAdd b mm r).deletes = s.deletes ∧
    (s.corpusAdd b mm r).corpus = s.corpus.map (fun c => c.addBlob b mm r) := by
  unfold State.corpusAdd
  cases h : s.corpus with
  | none => exact ⟨rfl, rfl, rfl, rfl, rfl, rfl, h⟩
  | some c => exact ⟨rfl, rfl, rfl, rfl, rfl, rfl, rfl⟩

/-- `s'` is `s0` after the rows of `b` at status `st'` were committed and handed to the corpus and `b` was
noted as indexed; `rm`: the `missing|` rows of `b` were removed as well -/
structure Committed (W : World) (s0 s' : State) (b : Ref) (st' : Status) (r rm : Bool) : Prop where
  kasc : KAsc s'.rows
  rows : ∀ k, isMissingKey k = false → SMap.get s'.rows k = SMap.get (SMap.union (rowsFor W st' b) s0.rows) k
  missing : ∀ x y, SMap.get s'.rows (kMissing x y) =
    if (rm = true ∧ x = b) ∨ (y = b ∧ (x, b) ∈ s0.needs) then none else SMap.get s0.rows (kMissing x y)
  src : s'.src = s0.src
  j3 : J3 s'
  needs : ∀ x y, (x, y) ∈ s'.needs ↔ (x, y) ∈ s0.needs ∧ y ≠ b
  ready : ∀ x, x ∈ s'.ready ↔ x ∈ s0.ready ∨ ((x, b) ∈ s0.needs ∧ ∀ m, (x, m) ∈ s0.needs → m = b)
  corpus : s'.corpus = s0.corpus.map (fun c => c.addBlob b (rowsFor W st' b) r)
  deletes : s'.deletes = s0.deletes ++ delsOfMM (rowsFor W st' b)

theorem committed_commitAll (W : World) (s0 : State) (b : Ref) (st' : Status) (r : Bool)
    (hk : KAsc s0.rows) (hj : J3 s0) : Committed W s0 (s0.commitAll b (rowsFor W st' b) r) b st' r false := by
  obtain ⟨(hrows : _ = SMap.union (rowsFor W st' b) s0.rows), (hneeds : _ = s0.needs), (hnb : _ = s0.neededBy),
      (hready : _ = s0.ready), (hsrc : _ = s0.src), (hdel : _ = s0.deletes ++ delsOfMM (rowsFor W st' b)), hcorp⟩ :=
    corpusAdd_fields (s0.commit (rowsFor W st' b)) b (rowsFor W st' b) r
  have hk1 : KAsc ((s0.commit (rowsFor W st' b)).corpusAdd b (rowsFor W st' b) r).rows := by
    rw [hrows]; exact kasc_union _ hk
  have hj1 : J3 ((s0.commit (rowsFor W st' b)).corpusAdd b (rowsFor W st' b) r) := fun x y => by
    rw [hnb, hneeds]; exact hj x y
  have hf := nbi_fields ((s0.commit (rowsFor W st' b)).corpusAdd b (rowsFor W st' b) r) b
  obtain ⟨n1, n2, n3, n4, n5, n6⟩ := noteBlobIndexed_spec _ b hj1 hk1
  unfold State.commitAll
  exact
    { kasc := n1
      rows := fun k hkm => by rw [n2 k hkm, hrows]
      missing := fun x y => by
        rw [n3, hneeds, hrows, get_union, rowsFor_no_missing _ _ _ (kMissing_isMissing x y)]
        simp
      src := hf.1.trans hsrc
      j3 := n4
      needs := fun x y => by rw [n5, hneeds]
      ready := fun x => by rw [n6, hneeds, hready]
      corpus := hf.2.2.trans hcorp
      deletes := hf.2.1.trans hdel }

theorem Committed.rme {W : World} {s0 s1 : State} {b : Ref} {st' : Status} {r : Bool}
    (hc : Committed W s0 s1 b st' r false) : Committed W s0 (s1.removeAllMissingEdges b) b st' r true :=
  { hc with
    kasc := kasc_filter _ hc.kasc
    rows := fun k hk => by rw [rme_get _ b hc.kasc, keepNotOf_other b k hk, if_pos rfl, hc.rows k hk]
    missing := fun x y => by
      rw [rme_get _ b hc.kasc, keepNotOf_missing, hc.missing]
      by_cases e : x = b <;> simp [e] }

/-- ReceiveBlob of a blob that can be indexed completely -/
theorem inv_receive_commit_full {W : World} {ver : Nat} {s : State} {seen : List Ref} {b : Ref}
    (h : Inv W ver s seen (some b)) (hb : b ∈ s.src) (hst : stOf W s.rows b ≠ .full)
    (hfm : firstMissing W s.src b = none) (hdep : ∀ t, idep W b = some t → stOf W s.rows t ≠ .absent)
    {s' : State} {r : Bool} (hc : Committed W s s' b .full r true) : Inv W ver s' (b :: seen) none := by
  obtain ⟨stb, sto, r2, sch⟩ := commit_rows W s.rows _ h.r2 b hst .full (by simp) hc.rows
  exact inv_step (st' := .full) (add := none) (N := s.needs) h hb hst
    (hN := fun x y => by simp)
    (kasc := hc.kasc) (schema := sch ▸ h.schema) (r2 := r2) (stb := stb) (sto := sto) (src := hc.src) (j3 := hc.j3)
    (needs := fun x y => by rw [hc.needs]; simp)
    (ready := fun x => by rw [hc.ready]; simp)
    (missing := fun x y => by rw [hc.missing]; simp)
    (hgrow := fun e => by cases e)
    (hfm := fun _ => hfm)
    (hadd := fun m e => by cases e)
    (hnote := fun e => absurd rfl e)
    (hfull := fun _ => ⟨rfl, hdep⟩)

/-- ReceiveBlob of a delete claim whose target has no meta row yet: noted, committed partially -/
theorem inv_receive_commit_half {W : World} {ver : Nat} {s : State} {seen : List Ref} {b t : Ref}
    (h : Inv W ver s seen (some b)) (hb : b ∈ s.src) (hst : stOf W s.rows b ≠ .full)
    (hfm : firstMissing W s.src b = none) (hdep : idep W b = some t) (ht : stOf W s.rows t = .absent)
    (htb : t ≠ b) {s' : State} {r : Bool} (hc : Committed W (s.noteNeeded b t) s' b .half r false) :
    Inv W ver s' (b :: seen) none := by
  have hsame := noteNeeded_get_other s b t
  have hstq := stOf_congr W s.rows _ hsame
  obtain ⟨stb, sto, r2, sch⟩ := commit_rows W (s.noteNeeded b t).rows _ (R2_congr W _ _ hsame h.r2) b
    (by rw [hstq]; exact hst) .half (by simp) hc.rows
  exact inv_step (st' := .half) (add := some t) (N := (s.noteNeeded b t).needs) h hb hst
    (hN := mem_noteNeeded_needs s b t)
    (kasc := hc.kasc)
    (schema := by rw [sch, hsame _ rfl]; exact h.schema)
    (r2 := r2) (stb := stb)
    (sto := fun x e => by rw [sto x e, hstq])
    (src := hc.src) (j3 := hc.j3)
    (needs := fun x y => (hc.needs x y).trans (and_congr_right fun _ => ⟨Or.inr, fun h => h.resolve_left nofun⟩))
    (ready := fun x => (hc.ready x).trans (or_congr_right ⟨fun h => ⟨nofun, h⟩, And.right⟩))
    (missing := fun x y => by
      rw [hc.missing, noteNeeded_missing]
      exact ite_congr (propext (by simp)) (fun _ => rfl) (fun _ => rfl))
    (hgrow := fun e => by cases e)
    (hfm := fun _ => hfm)
    (hadd := fun m e => by cases e; exact ⟨htb, ht, by rw [if_neg (by simp)]; exact hdep⟩)
    (hnote := fun _ => ⟨t, rfl⟩)
    (hfull := fun e => by cases e)

/-- the corpus `c` is what a load of `rows` gives: nothing merged twice, the slurped rows, the deletions the
rows record -/
def COk (rows : SMap Bytes) (c : Corpus) : Prop :=
  c.bad = false ∧ KAsc c.m ∧ (∀ k, SMap.get c.m k = if slurped k then SMap.get rows k else none) ∧
  (∀ d, d ∈ c.deletes ↔ d ∈ delsOfRows rows)

/-- the corpus mirror: the live corpus, if there is one, is what a load of the rows gives (`COk`) -/
def CorpusOk (s : State) : Prop :=
  ∀ c, s.corpus = some c → c.bad = false ∧ KAsc c.m ∧
    (∀ k, SMap.get c.m k = if slurped k then SMap.get s.rows k else none) ∧
    (∀ d, d ∈ c.deletes ↔ d ∈ delsOfRows s.rows)

theorem corpusOk_iff (s : State) : CorpusOk s ↔ ∀ c, s.corpus = some c → COk s.rows c := Iff.rfl

/-- the deletes mirror: the index's deletes cache holds the deletions the rows record -/
def DelOk (s : State) : Prop := ∀ d, d ∈ s.deletes ↔ d ∈ delsOfRows s.rows

theorem metaType_eq (W : World) (s : State) (hr : R2 W s.rows) (hc : CorpusOk s) (t : Ref) :
    s.metaType t = if stOf W s.rows t = .absent then none else some (tcode W t) := by
  have hrow : s.metaRow t = SMap.get s.rows (kMeta t) := by
    unfold State.metaRow
    cases hcs : s.corpus with
    | none => rfl
    | some c => exact (hc c hcs).2.2.1 (kMeta t)
  unfold State.metaType
  rw [hrow, meta_of_R2 W s.rows hr t]
  by_cases e : stOf W s.rows t = .absent
  · simp [e]
  · simp [e, metaVal]

theorem fullRowsAt_eq (W : World) (b t : Ref) (h : idep W b = some t) : fullRowsAt W b (tcode W t) = fullRows W b := by
  unfold fullRows targetType; rw [h]

theorem receive_cases {W : World} {s : State} (hW : WF W) (hr : R2 W s.rows) (hc : CorpusOk s) (b : Ref) :
    (stOf W s.rows b = .full ∧ s.receive W b = s) ∨
    (∃ m, stOf W s.rows b ≠ .full ∧ firstMissing W s.src b = some m ∧ s.receive W b = s.noteNeeded b m) ∨
    (∃ t, stOf W s.rows b ≠ .full ∧ firstMissing W s.src b = none ∧ idep W b = some t ∧
        stOf W s.rows t = .absent ∧ t ≠ b ∧
        s.receive W b = (s.noteNeeded b t).commitAll b (rowsFor W .half b) (SMap.get s.rows (kHave b)).isSome) ∨
    (stOf W s.rows b ≠ .full ∧ firstMissing W s.src b = none ∧ (∀ t, idep W b = some t → stOf W s.rows t ≠ .absent) ∧
        s.receive W b =
          (s.commitAll b (rowsFor W .full b) (SMap.get s.rows (kHave b)).isSome).removeAllMissingEdges b) := by
  unfold State.receive
  by_cases hfull : stOf W s.rows b = .full
  · rw [if_pos ((indexedVal_iff W s.rows hr b).mpr hfull)]
    exact Or.inl ⟨hfull, rfl⟩
  · rw [if_neg (fun hh => hfull ((indexedVal_iff W s.rows hr b).mp hh))]
    cases hfm : firstMissing W s.src b with
    | some m => exact Or.inr (Or.inl ⟨m, hfull, rfl, rfl⟩)
    | none =>
      cases hdep : idep W b with
      | none => exact Or.inr (Or.inr (Or.inr ⟨hfull, rfl, (fun t ht => by cases ht), rfl⟩))
      | some t =>
        simp only
        rw [metaType_eq W s hr hc t]
        by_cases hta : stOf W s.rows t = .absent
        · rw [if_pos hta]
          exact Or.inr (Or.inr (Or.inl ⟨t, hfull, trivial, rfl, hta, (fun e => hW.2 b (by rw [hdep, e])), rfl⟩))
        · rw [if_neg hta]
          simp only
          rw [fullRowsAt_eq W b t hdep]
          exact Or.inr (Or.inr (Or.inr ⟨hfull, trivial, (fun t' ht' => by cases ht'; exact hta), rfl⟩))

theorem mem_filterMap_key {α : Type} (f : Row → Option α) (key : α → Bytes)
    (hf : ∀ r a, f r = some a ↔ r.1 = key a) (l : List Row) (a : α) :
    a ∈ l.filterMap f ↔ (SMap.get l (key a)).isSome = true := by
  rw [List.mem_filterMap]
  constructor
  · rintro ⟨⟨k, v⟩, hr, hd⟩
    have : k = key a := (hf (k, v) a).mp hd
    exact this ▸ get_isSome_of_mem hr
  · intro h
    obtain ⟨v, hg⟩ := Option.isSome_iff_exists.mp h
    exact ⟨(key a, v), get_some_mem hg, (hf _ a).mpr rfl⟩

theorem delOfRow_some (r : Row) (d : Del) : delOfRow r = some d ↔ r.1 = kDeleted d.target d.date d.deleter := by
  obtain ⟨k, v⟩ := r
  obtain ⟨t, dl, date⟩ := d
  unfold delOfRow
  split
  · rename_i t' date' d' v' heq
    obtain ⟨rfl, rfl⟩ := Prod.mk.inj heq
    simp [kDeleted]
    intro _
    exact ⟨fun h => ⟨h.2, h.1⟩, fun h => ⟨h.2, h.1⟩⟩
  · rename_i hne
    exact ⟨nofun, fun h => (hne t date dl v (by rw [show k = _ from h]; rfl)).elim⟩

theorem mem_delsOfRows (l : List Row) (d : Del) :
    d ∈ delsOfRows l ↔ (SMap.get l (kDeleted d.target d.date d.deleter)).isSome = true :=
  mem_filterMap_key delOfRow _ delOfRow_some l d

theorem delsOfRows_congr (rows rows' : SMap Bytes)
    (h : ∀ k, isMissingKey k = false → SMap.get rows' k = SMap.get rows k) (d : Del) :
    d ∈ delsOfRows rows' ↔ d ∈ delsOfRows rows := by
  rw [mem_delsOfRows, mem_delsOfRows, h _ (rfl : isMissingKey (kDeleted d.target d.date d.deleter) = false)]

theorem delsOfRows_union {rows1 rows : SMap Bytes} {mm : List Row}
    (h : ∀ k, isMissingKey k = false → SMap.get rows1 k = SMap.get (SMap.union mm rows) k) (d : Del) :
    d ∈ delsOfRows rows1 ↔ d ∈ delsOfRows rows ∨ d ∈ delsOfMM mm := by
  rw [delsOfMM, mem_delsOfRows, mem_delsOfRows, mem_delsOfRows,
    h _ (rfl : isMissingKey (kDeleted d.target d.date d.deleter) = false), get_union]
  cases SMap.get mm (kDeleted d.target d.date d.deleter) <;> simp

/-- the merge loop of `corpus.addBlob`: every row of `L` whose key is not in `skip` is merged -/
def mergeAll (skip : Bytes → Bool) (L : SMap Bytes) (c : Corpus) : Corpus :=
  L.foldl (fun c r => if skip r.1 then c else c.merge r.1 r.2) c

theorem fold_merge (skip : Bytes → Bool) (L : SMap Bytes) (hL : KAsc L) (c : Corpus) (hc : KAsc c.m)
    (hfree : ∀ k v, SMap.get L k = some v → skip k = false → SMap.get c.m k = none) :
    (mergeAll skip L c).bad = c.bad ∧ KAsc (mergeAll skip L c).m ∧ (mergeAll skip L c).deletes = c.deletes ∧
    ∀ k, SMap.get (mergeAll skip L c).m k =
      if skip k then SMap.get c.m k else (SMap.get L k).or (SMap.get c.m k) := by
  unfold mergeAll
  induction L generalizing c with
  | nil => exact ⟨rfl, hc, rfl, fun k => by simp [SMap.get]⟩
  | cons p rest ih =>
    obtain ⟨k0, v0⟩ := p
    have hrest : ∀ k, k ≠ k0 → SMap.get ((k0, v0) :: rest) k = SMap.get rest k := fun k hk => by
      simp only [SMap.get, hk, if_false]
    have hk0 : SMap.get rest k0 = none := get_eq_none_of_all_gt k0 (kasc_head_lt hL)
    have hne : ∀ k v, SMap.get rest k = some v → k ≠ k0 := fun k v hg e => by rw [e, hk0] at hg; cases hg
    rw [List.foldl_cons]
    by_cases hs : skip k0 = true
    · rw [if_pos hs]
      obtain ⟨i1, i2, i3, i4⟩ := ih (kasc_tail hL) c hc
        (fun k v hg => hfree k v (by rw [hrest k (hne k v hg)]; exact hg))
      refine ⟨i1, i2, i3, fun k => ?_⟩
      rw [i4 k]
      by_cases e : k = k0
      · rw [e, if_pos hs, if_pos hs]
      · rw [hrest k e]
    · have hs' : skip k0 = false := Bool.eq_false_iff.mpr hs
      have hmerge : c.merge k0 v0 = { c with m := SMap.ins k0 v0 c.m } := by
        unfold Corpus.merge; rw [has_eq, hfree k0 v0 (by simp [SMap.get]) hs']; rfl
      rw [if_neg hs, hmerge]
      obtain ⟨i1, i2, i3, i4⟩ := ih (kasc_tail hL) { c with m := SMap.ins k0 v0 c.m } (kasc_ins _ _ hc)
        (fun k v hg hsk => by
          rw [get_ins, if_neg (hne k v hg)]
          exact hfree k v (by rw [hrest k (hne k v hg)]; exact hg) hsk)
      refine ⟨i1, i2, i3, fun k => ?_⟩
      rw [i4 k]
      show (if _ then SMap.get (SMap.ins k0 v0 c.m) k else (SMap.get rest k).or (SMap.get (SMap.ins k0 v0 c.m) k)) = _
      rw [get_ins]
      by_cases e : k = k0
      · rw [e, if_neg hs, if_neg hs, hk0]; simp [SMap.get]
      · rw [if_neg e, hrest k e]

theorem fold_updateDeletes (ds : List Del) (c : Corpus) :
    (ds.foldl Corpus.updateDeletes c).m = c.m ∧ (ds.foldl Corpus.updateDeletes c).bad = c.bad ∧
    (∀ d, d ∈ (ds.foldl Corpus.updateDeletes c).deletes ↔ d ∈ c.deletes ∨ d ∈ ds) := by
  induction ds generalizing c with
  | nil => exact ⟨rfl, rfl, fun d => by simp⟩
  | cons a rest ih =>
    rw [List.foldl_cons]
    obtain ⟨i1, i2, i3⟩ := ih (c.updateDeletes a)
    have hu : (c.updateDeletes a).m = c.m ∧ (c.updateDeletes a).bad = c.bad ∧
        (∀ d, d ∈ (c.updateDeletes a).deletes ↔ d ∈ c.deletes ∨ d = a) := by
      unfold Corpus.updateDeletes
      by_cases hcon : c.deletes.contains a = true
      · rw [if_pos hcon]
        exact ⟨rfl, rfl, fun d => ⟨Or.inl, fun h => h.elim id (fun e => e ▸ List.contains_iff_mem.mp hcon)⟩⟩
      · rw [if_neg hcon]
        exact ⟨rfl, rfl, fun d => by simp⟩
    refine ⟨i1.trans hu.1, i2.trans hu.2.1, fun d => ?_⟩
    rw [i3 d, hu.2.2 d, List.mem_cons, or_assoc]

/-- `corpus.addBlob` when the blob is not skipped as a duplicate: merge what is slurped, except the meta row of
a blob the corpus knows already; then note the deletions -/
theorem addBlob_eq (c : Corpus) (b : Ref) (mm : List Row) (resumed : Bool)
    (h : (SMap.has c.m (kMeta b) && !resumed) = false) :
    c.addBlob b mm resumed =
      (delsOfMM mm).foldl Corpus.updateDeletes
        (mergeAll (fun k => !slurped k || (SMap.has c.m (kMeta b) && decide (k = kMeta b))) (SMap.union mm []) c) := by
  unfold Corpus.addBlob mergeAll
  simp only [h, Bool.false_eq_true, if_false]
  congr 2
  funext c' r
  by_cases hs : slurped r.1 = true <;> simp [hs]

theorem slurped_not_missing (k : Bytes) (h : slurped k = true) : isMissingKey k = false := by
  unfold isMissingKey
  split
  · cases h
  · rfl

theorem slurped_keys_of_partial (W : World) (b : Ref) (k : Bytes) (v : Bytes)
    (h : SMap.get (partialRows W b) k = some v) (hs : slurped k = true) : k = kMeta b := by
  have hmem := get_some_mem h
  simp only [partialRows, List.mem_cons] at hmem
  rcases hmem with e | e | e
  · exact (Prod.mk.inj e).1
  · rw [(Prod.mk.inj e).1] at hs; cases hs
  · split at e
    · rw [List.mem_singleton] at e; rw [(Prod.mk.inj e).1] at hs; cases hs
    · cases e

theorem slurped_row_again (W : World) (rows : SMap Bytes) (hr : R2 W rows) (b : Ref) (hst : stOf W rows b ≠ .full)
    (st' : Status) (k v v' : Bytes) (hnew : SMap.get (rowsFor W st' b) k = some v)
    (hold : SMap.get rows k = some v') (hs : slurped k = true) : k = kMeta b ∧ stOf W rows b = .half := by
  have g := get_good (good_rowsFor W st' b) hnew
  have ho : owner k = some b := g.1.elim id (fun ⟨s, e⟩ => by rw [(Prod.mk.inj e).1] at hs; cases hs)
  rw [get_of_R2 W rows hr ho g.2.1 g.2.2] at hold
  cases hs0 : stOf W rows b with
  | absent => rw [hs0] at hold; cases hold
  | full => exact absurd hs0 hst
  | half => rw [hs0] at hold; exact ⟨slurped_keys_of_partial W b k v' hold hs, rfl⟩

/-- corpus.addBlob of the rows just committed keeps the corpus equal to what a load of the rows gives -/
theorem addBlob_ok (W : World) (rows : SMap Bytes) (c : Corpus) (hr : R2 W rows) (hc : COk rows c) (b : Ref)
    (hst : stOf W rows b ≠ .full) (st' : Status) (hst' : st' ≠ .absent) (rows1 : SMap Bytes)
    (h1 : ∀ k, isMissingKey k = false → SMap.get rows1 k = SMap.get (SMap.union (rowsFor W st' b) rows) k) :
    COk rows1 (c.addBlob b (rowsFor W st' b) (SMap.get rows (kHave b)).isSome) := by
  obtain ⟨cb, ck, cm, cd⟩ := hc
  -- the corpus knows `b` iff this is a resumed pass, and then has its meta row
  have hdup : SMap.has c.m (kMeta b) = (SMap.get rows (kHave b)).isSome := by
    have hsl : slurped (kMeta b) = true := rfl
    rw [has_eq, cm (kMeta b), if_pos hsl, meta_of_R2 W rows hr b, have_of_R2 W rows hr b]
    cases stOf W rows b <;> rfl
  have hdupst : SMap.has c.m (kMeta b) = true ↔ stOf W rows b ≠ .absent := by
    rw [hdup]; exact resumed_iff W rows hr b
  rw [addBlob_eq c b _ _ (by rw [hdup]; cases (SMap.get rows (kHave b)).isSome <;> rfl)]
  have hskip : ∀ k, (!slurped k || (SMap.has c.m (kMeta b) && decide (k = kMeta b))) = false ↔
      slurped k = true ∧ ¬(SMap.has c.m (kMeta b) = true ∧ k = kMeta b) := fun k => by
    cases slurped k <;> simp
  obtain ⟨f1, f2, f3, f4⟩ := fold_merge (fun k => !slurped k || (SMap.has c.m (kMeta b) && decide (k = kMeta b)))
    _ (kasc_union (rowsFor W st' b) kasc_nil) c ck (fun k v hg hsk => by
      obtain ⟨hsl, hmeta⟩ := (hskip k).mp hsk
      rw [get_union_nil] at hg
      rw [cm k, if_pos hsl]
      cases hrow : SMap.get rows k with
      | none => rfl
      | some v' =>
        obtain ⟨e1, e2⟩ := slurped_row_again W rows hr b hst st' k v v' hg hrow hsl
        exact absurd ⟨hdupst.mpr (by rw [e2]; simp), e1⟩ hmeta)
  generalize mergeAll _ (SMap.union (rowsFor W st' b) []) c = c1 at f1 f2 f3 f4 ⊢
  obtain ⟨u1, u2, u3⟩ := fold_updateDeletes (delsOfMM (rowsFor W st' b)) c1
  refine ⟨by rw [u2, f1]; exact cb, by rw [u1]; exact f2, fun k => ?_, fun d => ?_⟩
  · rw [u1, f4 k, get_union_nil, cm k]
    by_cases hsl : slurped k = true
    · rw [if_pos hsl, if_pos hsl, h1 k (slurped_not_missing k hsl), get_union]
      by_cases hsk : (!slurped k || (SMap.has c.m (kMeta b) && decide (k = kMeta b))) = false
      · rw [if_neg (by rw [hsk]; simp)]
        cases SMap.get (rowsFor W st' b) k <;> rfl
      · -- the meta row of a resumed pass: skipped, and in the index already
        have hk : SMap.has c.m (kMeta b) = true ∧ k = kMeta b :=
          Classical.byContradiction fun hn => hsk ((hskip k).mpr ⟨hsl, hn⟩)
        rw [if_pos ((Bool.not_eq_false _).mp hsk), hk.2, get_rowsFor_meta, if_neg hst',
          meta_of_R2 W rows hr b, if_neg (hdupst.mp hk.1)]
    · rw [if_neg hsl, if_neg hsl, if_pos (by rw [Bool.eq_false_iff.mpr hsl]; rfl)]
  · rw [u3, f3, cd, delsOfRows_union h1]

theorem COk_congr (rows rows' : SMap Bytes) (c : Corpus)
    (h : ∀ k, isMissingKey k = false → SMap.get rows' k = SMap.get rows k) (hc : COk rows c) : COk rows' c := by
  obtain ⟨c1, c2, c3, c4⟩ := hc
  refine ⟨c1, c2, ?_, ?_⟩
  · intro k
    rw [c3 k]
    by_cases hs : slurped k = true
    · rw [if_pos hs, if_pos hs, h k (slurped_not_missing k hs)]
    · rw [if_neg hs, if_neg hs]
  · intro d
    rw [c4, delsOfRows_congr _ _ h]

/-- the mirrors after a committing ReceiveBlob; `s0` is `s`, possibly with one more noted dependency -/
theorem mirrors_committed {W : World} {s s0 s' : State} {b : Ref} {st' : Status} {rm : Bool}
    (hc : Committed W s0 s' b st' (SMap.get s.rows (kHave b)).isSome rm)
    (hrows : ∀ k, isMissingKey k = false → SMap.get s0.rows k = SMap.get s.rows k)
    (hcorp : s0.corpus = s.corpus) (hdel : s0.deletes = s.deletes) (hr : R2 W s.rows)
    (hco : CorpusOk s) (hd : DelOk s) (hst : stOf W s.rows b ≠ .full) (hst' : st' ≠ .absent) :
    CorpusOk s' ∧ DelOk s' := by
  have h1 : ∀ k, isMissingKey k = false →
      SMap.get s'.rows k = SMap.get (SMap.union (rowsFor W st' b) s.rows) k := fun k hk => by
    rw [hc.rows k hk, get_union, get_union, hrows k hk]
  constructor
  · intro c' hc'
    rw [hc.corpus, hcorp] at hc'
    cases hcs : s.corpus with
    | none => rw [hcs] at hc'; cases hc'
    | some c =>
      rw [hcs] at hc'
      cases hc'
      exact addBlob_ok W s.rows c hr ((corpusOk_iff s).1 hco c hcs) b hst st' hst' s'.rows h1
  · intro d
    rw [hc.deletes, hdel, List.mem_append, hd, delsOfRows_union h1]

theorem mirrors_noteNeeded (s : State) (hk : KAsc s.rows) (hc : CorpusOk s) (hd : DelOk s) (b t : Ref) :
    KAsc (s.noteNeeded b t).rows ∧ CorpusOk (s.noteNeeded b t) ∧ DelOk (s.noteNeeded b t) := by
  have hsame := noteNeeded_get_other s b t
  refine ⟨kasc_ins _ _ hk, (corpusOk_iff _).2 fun c hcc => COk_congr _ _ c hsame ((corpusOk_iff s).1 hc c hcc), fun d => ?_⟩
  show d ∈ s.deletes ↔ _
  rw [hd, delsOfRows_congr _ _ hsame]

theorem receive_keeps {W : World} {ver : Nat} {s : State} {seen : List Ref} {b : Ref} (hW : WF W)
    (h : Inv W ver s seen (some b)) (hc : CorpusOk s) (hd : DelOk s) (hb : b ∈ s.src) :
    Inv W ver (s.receive W b) (b :: seen) none ∧ CorpusOk (s.receive W b) ∧ DelOk (s.receive W b) := by
  rcases receive_cases hW h.r2 hc b with ⟨hst, e⟩ | ⟨m, _, hm, e⟩ | ⟨t, hst, hfm, hdep, ht, htb, e⟩ | ⟨hst, hfm, hdep, e⟩ <;>
    rw [e]
  · exact ⟨inv_receive_full h hb hst, hc, hd⟩
  · exact ⟨inv_receive_fetchmiss h hb hm, (mirrors_noteNeeded s h.kasc hc hd b m).2⟩
  · have hcm := committed_commitAll W (s.noteNeeded b t) b .half (SMap.get s.rows (kHave b)).isSome
      (kasc_ins _ _ h.kasc) (noteNeeded_J3 s h.j3 b t)
    exact ⟨inv_receive_commit_half h hb hst hfm hdep ht htb hcm,
      mirrors_committed hcm (noteNeeded_get_other s b t) rfl rfl h.r2 hc hd hst (by simp)⟩
  · have hcm := (committed_commitAll W s b .full (SMap.get s.rows (kHave b)).isSome h.kasc h.j3).rme
    exact ⟨inv_receive_commit_full h hb hst hfm hdep hcm,
      mirrors_committed hcm (fun _ _ => rfl) rfl rfl h.r2 hc hd hst (by simp)⟩

def AllInv (W : World) (ver : Nat) (s : State) (seen : List Ref) : Prop :=
  Inv W ver s seen none ∧ CorpusOk s ∧ DelOk s

theorem inv_src_mono {W : World} {ver : Nat} {s : State} {seen : List Ref} {skip : Option Ref}
    (h : Inv W ver s seen skip) (src' : List Ref) (hs : ∀ x ∈ s.src, x ∈ src') :
    Inv W ver { s with src := src' } seen skip :=
  { h with
    j4a := fun b m hbm hst => by
      obtain ⟨pre, post, e, hp⟩ := h.j4a b m hbm hst
      exact ⟨pre, post, e, fun x hx => hs x (hp x hx)⟩
    j4c := fun b hb => firstMissing_mono W s.src src' b hs (h.j4c b hb)
    s1 := fun b hb => hs b (h.s1 b hb)
    s2 := fun b m hbm => hs b (h.s2 b m hbm)
    seenSrc := fun b hb => hs b (h.seenSrc b hb) }

theorem allInv_srcAdd {W : World} {ver : Nat} {s : State} {seen : List Ref} (h : AllInv W ver s seen) (b : Ref) :
    AllInv W ver (s.srcAdd b) seen := by
  unfold State.srcAdd
  split
  · exact h
  · exact ⟨inv_src_mono h.1 _ (fun x hx => by simp [hx]), h.2.1, h.2.2⟩

theorem allInv_receive {W : World} {ver : Nat} {s : State} {seen : List Ref} (hW : WF W) (h : AllInv W ver s seen)
    (b : Ref) (hb : b ∈ s.src) : AllInv W ver (s.receive W b) (b :: seen) :=
  receive_keeps hW (h.1.weaken (fun _ hx => hx)) h.2.1 h.2.2 hb

theorem allInv_reidx {W : World} {ver : Nat} {s : State} {seen : List Ref} (hW : WF W) (h : AllInv W ver s seen)
    (b : Ref) : AllInv W ver (s.reidx W b) seen := by
  unfold State.reidx
  split
  · rename_i hc
    simp only [Bool.and_eq_true, List.contains_iff_mem] at hc
    have h0 : Inv W ver { s with ready := s.ready.filter (fun x => x != b) } seen (some b) :=
      { h.1 with
        j1 := fun x hx hne hst => by
          have e : x ≠ b := fun e => hne (by rw [e])
          rcases h.1.j1 x hx (by simp) hst with h1 | h1
          · exact Or.inl h1
          · exact Or.inr (by simp [List.mem_filter, h1, e]) }
    have hr := receive_keeps hW h0 h.2.1 h.2.2 hc.2
    exact ⟨hr.1.weaken (fun x hx => List.mem_cons_of_mem _ hx), hr.2⟩
  · exact h

theorem missOfRow_some (r : Row) (p : Ref × Ref) : missOfRow r = some p ↔ r.1 = kMissing p.1 p.2 := by
  obtain ⟨k, v⟩ := r
  obtain ⟨h, n⟩ := p
  unfold missOfRow
  split
  · rename_i h' n' v' heq
    obtain ⟨rfl, rfl⟩ := Prod.mk.inj heq
    simp [kMissing]
  · rename_i hne
    exact ⟨nofun, fun hh => (hne h n v (by rw [show k = _ from hh]; rfl)).elim⟩

theorem mem_missingPairs (l : List Row) (h n : Ref) :
    (h, n) ∈ missingPairs l ↔ (SMap.get l (kMissing h n)).isSome = true :=
  mem_filterMap_key missOfRow _ missOfRow_some l (h, n)

theorem COk_load (rows : SMap Bytes) (hk : KAsc rows) : COk rows (Corpus.load rows) := by
  refine ⟨rfl, kasc_filter _ hk, ?_, fun d => Iff.rfl⟩
  intro k
  exact get_filter_key slurped _ k

/-- a restart of a running index: the rows stay (they hold at least the schema row); `needs`, `neededBy`, the
deletes cache and the corpus are read back from them -/
theorem restart_eq {W : World} {ver : Nat} {s : State} {seen : List Ref} {skip : Option Ref}
    (h : Inv W ver s seen skip) :
    s.restart ver =
      { rows := s.rows, src := s.src, needs := missingPairs s.rows,
        neededBy := (missingPairs s.rows).map (fun p => (p.2, p.1)), ready := [],
        deletes := delsOfRows s.rows, corpus := if s.corpus.isSome then some (Corpus.load s.rows) else none } := by
  have hne : s.rows.isEmpty = false := by
    cases hr : s.rows with
    | nil => have := h.schema; rw [hr] at this; cases this
    | cons _ _ => rfl
  unfold State.restart reopen
  simp only [hne, Bool.false_eq_true, if_false]

theorem restart_rows {W : World} {ver : Nat} {s : State} {seen : List Ref} {skip : Option Ref}
    (h : Inv W ver s seen skip) : (s.restart ver).rows = s.rows := by
  rw [restart_eq h]

theorem restart_needs {W : World} {ver : Nat} {s : State} {seen : List Ref} {skip : Option Ref}
    (h : Inv W ver s seen skip) (b m : Ref) :
    (b, m) ∈ (s.restart ver).needs ↔ ((b, m) ∈ s.needs ∧ stOf W s.rows b ≠ .full) := by
  rw [restart_eq h]
  show (b, m) ∈ missingPairs s.rows ↔ _
  rw [mem_missingPairs, h.r3 b m]
  by_cases e : (b, m) ∈ s.needs ∧ stOf W s.rows b ≠ .full <;> simp [e]

theorem allInv_restart {W : World} {ver : Nat} {s : State} {seen : List Ref} (h : AllInv W ver s seen)
    (hq : s.ready = []) : AllInv W ver (s.restart ver) seen := by
  have hmem := restart_needs h.1
  rw [restart_eq h.1] at hmem ⊢
  refine ⟨?_, ?_, fun d => Iff.rfl⟩
  · exact
      { kasc := h.1.kasc, schema := h.1.schema, r2 := h.1.r2
        r3 := fun b m => by
          rw [h.1.r3 b m]
          show _ = if (b, m) ∈ missingPairs s.rows ∧ _ then _ else _
          simp only [hmem]
          by_cases e : (b, m) ∈ s.needs ∧ stOf W s.rows b ≠ .full
          · rw [if_pos e, if_pos ⟨e, e.2⟩]
          · rw [if_neg e, if_neg (fun hh => e hh.1)]
        j3 := fun b m => by
          show (m, b) ∈ (missingPairs s.rows).map (fun p => (p.2, p.1)) ↔ (b, m) ∈ missingPairs s.rows
          rw [List.mem_map]
          exact ⟨fun ⟨p, hp, e⟩ => by cases e; exact hp, fun hp => ⟨(b, m), hp, rfl⟩⟩
        j2 := fun b m hbm => h.1.j2 b m ((hmem b m).mp hbm).1
        irr := fun b hb => h.1.irr b ((hmem b b).mp hb).1
        j1 := fun b hb _ hst => by
          rcases h.1.j1 b hb (by simp) hst with ⟨m, hm⟩ | h1
          · exact Or.inl ⟨m, (hmem b m).mpr ⟨hm, hst⟩⟩
          · rw [hq] at h1; cases h1
        j4a := fun b m hbm hst => h.1.j4a b m ((hmem b m).mp hbm).1 hst
        j4b := fun b m hbm hst => h.1.j4b b m ((hmem b m).mp hbm).1 hst
        j4c := h.1.j4c, j4d := h.1.j4d, s1 := h.1.s1, seenSrc := h.1.seenSrc
        s2 := fun b m hbm => h.1.s2 b m ((hmem b m).mp hbm).1 }
  · intro c hc
    cases hcs : s.corpus.isSome with
    | false => rw [hcs] at hc; cases hc
    | true =>
      rw [hcs] at hc
      cases hc
      exact COk_load s.rows h.1.kasc

theorem allInv_reopen_nil (W : World) (ver : Nat) (src : List Ref) (c : Bool) :
    AllInv W ver (reopen ver [] src c) [] := by
  have hst : ∀ b, stOf W [schemaRow ver] b = .absent := fun _ => rfl
  have hget : ∀ k, k ≠ kSchema → SMap.get [schemaRow ver] k = none := fun k hk => if_neg hk
  have hk : KAsc [schemaRow ver] := List.pairwise_singleton _ _
  refine ⟨?_, ?_, fun d => Iff.rfl⟩
  · exact
      { kasc := hk
        schema := rfl
        r2 := fun k v _ hs => by
          show SMap.get [schemaRow ver] k = some v ↔ ∃ b, SMap.get (rowsFor W (stOf W [schemaRow ver] b) b) k = some v
          rw [hget k hs]
          exact ⟨nofun, fun ⟨b, hb⟩ => by rw [hst b] at hb; cases hb⟩
        r3 := fun b m => (hget (kMissing b m) nofun).trans (if_neg (fun h => nomatch h.1)).symm
        j3 := fun b m => ⟨nofun, nofun⟩
        j2 := fun b m h => nomatch h
        irr := fun b h => nomatch h
        j1 := fun b h => nomatch h
        j4a := fun b m h => nomatch h
        j4b := fun b m h => nomatch h
        j4c := fun b hb => absurd (hst b) hb
        j4d := fun b t hb => by rw [show stOf W (reopen ver [] src c).rows b = .absent from hst b] at hb; cases hb
        s1 := fun b hb => absurd (hst b) hb
        s2 := fun b m h => nomatch h
        seenSrc := fun b h => nomatch h }
  · intro cc hc
    cases c with
    | false => cases hc
    | true => cases hc; exact COk_load _ hk

theorem allInv_init (W : World) (ver : Nat) (c : Bool) : AllInv W ver (State.init ver c) [] :=
  allInv_reopen_nil W ver [] c

end Pk.Index
