import PkVerif.Model.Encrypt
/-!
# Lemmas for the encrypt store model (C11)

* the decimal round trip (`parseUint32_decEnc`); `NoSep`, `GoodLine`; a lemma named `…_no c` says that byte
  `c` does not occur
* the meta text format round-trips (`parseMeta_fmtMeta`, `linesOf_encrypt`, `process_of_linesOf`)
* `setAll` under consistent rows
* membership facts of the `container/heap` model and the generic invariant of `recordMeta`
* `delMetas`, the packer's sorted lines (`packedLines_spec`), the answers of `fetch` (`fetch_cases`)
-/
namespace Pk.Encrypt
open Pk Pk.SMap

theorem parseDigits_append (a : Nat) (xs ys : Bytes) :
    parseDigits a (xs ++ ys) = (parseDigits a xs).bind (fun v => parseDigits v ys) := by
  induction xs generalizing a with
  | nil => simp [parseDigits]
  | cons x xs ih =>
    simp only [List.cons_append, parseDigits]
    split
    · exact ih _
    · simp

theorem isDigit_48 {d : Nat} (h : d < 10) : isDigit (48 + d) = true := by
  unfold isDigit
  rw [Bool.and_eq_true, decide_eq_true_eq, decide_eq_true_eq]
  omega

theorem decEncAux_spec (fuel n : Nat) (h : n < fuel) (acc : Bytes) :
    ∃ ds, decEncAux fuel n acc = ds ++ acc ∧ ds ≠ [] ∧ (∀ d ∈ ds, isDigit d = true) ∧
      ∀ a, parseDigits a ds = some (a * 10 ^ ds.length + n) := by
  induction fuel generalizing n acc with
  | zero => exact absurd h (Nat.not_lt_zero n)
  | succ f ih =>
    unfold decEncAux
    by_cases hn : n < 10
    · have hd := isDigit_48 hn
      refine ⟨[48 + n], by rw [if_pos hn]; rfl, List.cons_ne_nil _ _,
        fun d hd' => by rw [List.mem_singleton.mp hd']; exact hd, fun a => ?_⟩
      simp [parseDigits, hd]
    · have hd := isDigit_48 (Nat.mod_lt n (by decide : 10 > 0))
      obtain ⟨ds', h1, _, h3, h4⟩ := ih (n / 10) (by omega) ((48 + n % 10) :: acc)
      refine ⟨ds' ++ [48 + n % 10], by rw [if_neg hn, h1, List.append_assoc]; rfl, by simp, fun d hd' => ?_,
        fun a => ?_⟩
      · rcases List.mem_append.mp hd' with hd' | hd'
        · exact h3 d hd'
        · rw [List.mem_singleton.mp hd']; exact hd
      · rw [parseDigits_append, h4 a]
        simp only [Option.bind_some, parseDigits, hd, if_true, List.length_append, List.length_cons,
          List.length_nil, Nat.pow_succ, Nat.add_sub_cancel_left, Nat.zero_add, ← Nat.mul_assoc]
        rw [Nat.add_mul, Nat.add_assoc, Nat.div_add_mod' n 10]

theorem decEnc_digits (n : Nat) : ∀ d ∈ decEnc n, isDigit d = true := by
  obtain ⟨ds, h1, _, h3, _⟩ := decEncAux_spec (n + 1) n (by omega) []
  unfold decEnc; rw [h1]; simpa using h3

theorem decEnc_ne_nil (n : Nat) : decEnc n ≠ [] := by
  obtain ⟨ds, h1, h2, _, _⟩ := decEncAux_spec (n + 1) n (by omega) []
  unfold decEnc; rw [h1]; simpa using h2

theorem parseDigits_decEnc (n : Nat) : parseDigits 0 (decEnc n) = some n := by
  obtain ⟨ds, h1, _, _, h4⟩ := decEncAux_spec (n + 1) n (by omega) []
  unfold decEnc; rw [h1]; simpa using h4 0

theorem parseUint32_decEnc (n : Nat) (h : n < 4294967296) : parseUint32 (decEnc n) = some n := by
  unfold parseUint32
  have := decEnc_ne_nil n
  cases hd : decEnc n with
  | nil => exact absurd hd this
  | cons x xs => rw [← hd, parseDigits_decEnc]; simp [h, this]

theorem decEnc_no (c : Nat) (hc : isDigit c = false) (n : Nat) : c ∉ decEnc n := by
  intro h
  have := decEnc_digits n c h
  rw [hc] at this; cases this

theorem splitOn_ne_nil (sep : Nat) (s : Bytes) : splitOn sep s ≠ [] := by
  induction s with
  | nil => simp [splitOn]
  | cons c cs ih =>
    simp only [splitOn]
    split
    · simp
    · split
      · simp
      · simp

theorem splitOn_nosep (sep : Nat) (a : Bytes) (h : sep ∉ a) : splitOn sep a = [a] := by
  induction a with
  | nil => rfl
  | cons c cs ih =>
    have hc : c ≠ sep := by intro e; subst e; simp at h
    have hcs : sep ∉ cs := by intro e; exact h (by simp [e])
    simp [splitOn, hc, ih hcs]

theorem splitOn_append (sep : Nat) (a b : Bytes) (h : sep ∉ a) :
    splitOn sep (a ++ sep :: b) = a :: splitOn sep b := by
  induction a with
  | nil => simp [splitOn]
  | cons c cs ih =>
    have hc : c ≠ sep := by intro e; subst e; simp at h
    have hcs : sep ∉ cs := by intro e; exact h (by simp [e])
    simp [splitOn, hc, ih hcs]

/-- a byte string without `/` and newline -/
def NoSep (b : Bytes) : Prop := 47 ∉ b ∧ 10 ∉ b

/-- a line `plain ↦ size/enc` as ReceiveBlob and makePackedMetaBlob write them -/
def GoodLine (P : Params) (pv : Bytes × Bytes) : Prop :=
  P.parseKnown pv.1 = true ∧ NoSep pv.1 ∧ ∃ a b, pv.2 = a ++ 47 :: b ∧ NoSep a ∧ NoSep b

theorem headerLine_no10 : 10 ∉ headerLine := by decide

theorem parseLine_good (P : Params) (pv : Bytes × Bytes) (h : GoodLine P pv) :
    parseLine P (pv.1 ++ 47 :: pv.2) = some pv := by
  obtain ⟨hk, hp, a, b, hv, ha, hb⟩ := h
  unfold parseLine
  rw [splitOn_append 47 _ _ hp.1, hv, splitOn_append 47 _ _ ha.1, splitOn_nosep 47 _ hb.1]
  simp only [hk, if_true]
  rw [← hv]

theorem line_no10 (P : Params) (pv : Bytes × Bytes) (h : GoodLine P pv) : 10 ∉ pv.1 ++ 47 :: pv.2 := by
  obtain ⟨_, hp, a, b, hv, ha, hb⟩ := h
  rw [hv]
  intro hm
  simp only [List.mem_append, List.mem_cons] at hm
  rcases hm with h1 | h1 | h1 | h1 | h1
  · exact hp.2 h1
  · cases h1
  · exact ha.2 h1
  · cases h1
  · exact hb.2 h1

theorem metaLine_eq (pv : Bytes × Bytes) : metaLine pv = (pv.1 ++ 47 :: pv.2) ++ 10 :: [] := by
  simp [metaLine]

theorem splitOn_lines (P : Params) (ls : List (Bytes × Bytes)) (h : ∀ pv ∈ ls, GoodLine P pv) :
    splitOn 10 ((ls.map metaLine).flatten) = ls.map (fun pv => pv.1 ++ 47 :: pv.2) ++ [[]] := by
  induction ls with
  | nil => rfl
  | cons pv rest ih =>
    have h1 := line_no10 P pv (h pv (by simp))
    have ih' := ih (fun q hq => h q (by simp [hq]))
    have e : (List.map metaLine (pv :: rest)).flatten =
        (pv.1 ++ 47 :: pv.2) ++ 10 :: (List.map metaLine rest).flatten := by
      simp [metaLine]
    rw [e, splitOn_append 10 _ _ h1, ih']
    simp

theorem parseAll_good (P : Params) (ls : List (Bytes × Bytes)) (h : ∀ pv ∈ ls, GoodLine P pv) :
    parseAll P (ls.map (fun pv => pv.1 ++ 47 :: pv.2)) = some ls := by
  induction ls with
  | nil => rfl
  | cons pv rest ih =>
    simp only [List.map_cons, parseAll, parseLine_good P pv (h pv (by simp)),
      ih (fun q hq => h q (by simp [hq]))]

theorem bodyLines_fmtMeta (P : Params) (ls : List (Bytes × Bytes)) (h : ∀ pv ∈ ls, GoodLine P pv) :
    bodyLines (fmtMeta ls) = some (ls.map (fun pv => pv.1 ++ 47 :: pv.2), []) := by
  unfold bodyLines fmtMeta
  rw [splitOn_append 10 _ _ headerLine_no10, splitOn_lines P ls h]
  cases hl : ls.map (fun pv => pv.1 ++ 47 :: pv.2) ++ [[]] with
  | nil => simp at hl
  | cons x xs =>
    simp only [if_true]
    rw [← hl]
    simp

/-- the format round-trips: what ReceiveBlob / makePackedMetaBlob write, the start-up scan reads back -/
theorem parseMeta_fmtMeta (P : Params) (ls : List (Bytes × Bytes)) (h : ∀ pv ∈ ls, GoodLine P pv) :
    parseMeta P (fmtMeta ls) = some ls := by
  unfold parseMeta
  rw [bodyLines_fmtMeta P ls h]
  exact parseAll_good P ls h

theorem decrypt_encrypt (P : Params) (r : Nat) (t : Bytes) : decryptBlob P (encryptBlob P r t) = some t := by
  simp [decryptBlob, encryptBlob, P.A.dec_enc]

theorem linesOf_encrypt (P : Params) (r : Nat) (ls : List (Bytes × Bytes)) (h : ∀ pv ∈ ls, GoodLine P pv) :
    linesOf P (encryptBlob P r (fmtMeta ls)) = some ls := by
  simp [linesOf, decrypt_encrypt, parseMeta_fmtMeta P ls h]

/-- whatever decrypts is `version ‖ enc key r plaintext` for some randomness (the idealised integrity
law, lifted to the blob format) -/
theorem decrypt_some (P : Params) (c t : Bytes) (h : decryptBlob P c = some t) :
    ∃ r, c = encryptBlob P r t := by
  cases c with
  | nil => simp [decryptBlob] at h
  | cons v rest =>
    simp only [decryptBlob] at h
    split at h
    · rename_i hv
      obtain ⟨r, hr⟩ := P.A.integrity _ _ _ h
      exact ⟨r, by simp [encryptBlob, hv, hr]⟩
    · cases h

/-! ## processEncryptedMetaBlob in terms of `linesOf` -/

theorem processLines_ok (P : Params) (idx : SMap Bytes) (acc : List Bytes) (ls : List Bytes)
    (pvs : List (Bytes × Bytes)) (h : parseAll P ls = some pvs) :
    processLines P idx acc ls = (setAll pvs idx, some (acc ++ pvs.map (·.1))) := by
  induction ls generalizing idx acc pvs with
  | nil => simp [parseAll] at h; subst h; simp [processLines, setAll]
  | cons l rest ih =>
    simp only [parseAll] at h
    cases hl : parseLine P l with
    | none => simp [hl] at h
    | some pv =>
      cases hr : parseAll P rest with
      | none => simp [hl, hr] at h
      | some r =>
        simp only [hl, hr] at h
        injection h with h; subst h
        simp only [processLines, hl, ih _ _ _ hr, setAll, List.foldl_cons, List.map_cons,
          List.append_assoc, List.cons_append, List.nil_append]

theorem process_of_linesOf (P : Params) (idx : SMap Bytes) (dat : Bytes) (pvs : List (Bytes × Bytes))
    (h : linesOf P dat = some pvs) :
    processEncryptedMetaBlob P idx dat = (setAll pvs idx, some (pvs.map (·.1))) := by
  unfold linesOf at h
  cases hd : decryptBlob P dat with
  | none => simp [hd] at h
  | some text =>
    simp only [hd, Option.bind_some] at h
    unfold parseMeta at h
    unfold processEncryptedMetaBlob
    simp only [hd]
    cases hb : bodyLines text with
    | none => simp [hb] at h
    | some lt =>
      obtain ⟨ls, tr⟩ := lt
      cases tr with
      | nil =>
        simp only [hb] at h
        simp [processLines_ok P idx [] ls pvs h]
      | cons x xs => simp [hb] at h

theorem kasc_setAll (ls : List (Bytes × Bytes)) (idx : SMap Bytes) (h : KAsc idx) : KAsc (setAll ls idx) := by
  induction ls generalizing idx with
  | nil => exact h
  | cons pv rest ih => exact ih _ (kasc_ins _ _ h)

theorem get_setAll (F : Bytes → Option Bytes) (ls : List (Bytes × Bytes)) (idx : SMap Bytes)
    (hls : ∀ pv ∈ ls, F pv.1 = some pv.2) (hidx : ∀ p v, get idx p = some v → F p = some v) :
    (∀ p v, get (setAll ls idx) p = some v → F p = some v) ∧
    (∀ p v, get idx p = some v → get (setAll ls idx) p = some v) ∧
    (∀ pv ∈ ls, get (setAll ls idx) pv.1 = some pv.2) := by
  induction ls generalizing idx with
  | nil => exact ⟨hidx, fun _ _ h => h, fun _ h => absurd h List.not_mem_nil⟩
  | cons pv rest ih =>
    have hF := hls pv List.mem_cons_self
    have hidx' : ∀ p v, get (ins pv.1 pv.2 idx) p = some v → F p = some v := fun p v hg => by
      rcases get_ins_some hg with ⟨rfl, rfl⟩ | ⟨_, hg⟩
      · exact hF
      · exact hidx p v hg
    obtain ⟨i1, i2, i3⟩ := ih (ins pv.1 pv.2 idx) (fun q hq => hls q (List.mem_cons_of_mem pv hq)) hidx'
    refine ⟨i1, fun p v hg => i2 p v ?_, fun q hq => ?_⟩
    · by_cases hp : p = pv.1
      · rw [hp, get_ins_self, ← hF, ← hp, hidx p v hg]
      · exact get_ins_of_ne _ hp hg
    · rcases List.mem_cons.mp hq with rfl | hq
      · exact i2 _ _ (get_ins_self _ _ _)
      · exact i3 q hq

theorem mem_swap {α : Type} (l : List α) (i j : Nat) (x : α) (h : x ∈ swap l i j) : x ∈ l := by
  unfold swap at h
  split at h
  · rename_i a b ha hb
    have ha' : a ∈ l := List.mem_of_getElem? ha
    have hb' : b ∈ l := List.mem_of_getElem? hb
    rcases List.mem_or_eq_of_mem_set h with h | h
    · rcases List.mem_or_eq_of_mem_set h with h | h
      · exact h
      · rw [h]; exact hb'
    · rw [h]; exact ha'
  · exact h

theorem mem_up (fuel : Nat) (h : List MetaBlob) (j : Nat) (x : MetaBlob) (hx : x ∈ up fuel h j) : x ∈ h := by
  induction fuel generalizing h j with
  | zero => exact hx
  | succ f ih =>
    simp only [up] at hx
    split at hx
    · exact hx
    · exact mem_swap _ _ _ _ (ih _ _ hx)

theorem mem_down (fuel : Nat) (h : List MetaBlob) (i n : Nat) (x : MetaBlob) (hx : x ∈ down fuel h i n) : x ∈ h := by
  induction fuel generalizing h i with
  | zero => exact hx
  | succ f ih =>
    unfold down at hx
    extract_lets j1 j at hx
    split at hx
    · exact hx
    · split at hx
      · exact hx
      · exact mem_swap _ _ _ _ (ih _ _ hx)

theorem mem_push (h : List MetaBlob) (a x : MetaBlob) (hx : x ∈ push h a) : x ∈ h ∨ x = a := by
  have := mem_up _ _ _ _ hx
  simpa using this

theorem mem_pop (h : List MetaBlob) (m : MetaBlob) (h' : List MetaBlob) (hp : pop h = some (m, h')) :
    m ∈ h ∧ ∀ x ∈ h', x ∈ h := by
  unfold pop at hp
  simp only at hp
  split at hp
  · cases hp
  · rename_i m' hm
    injection hp with hp
    injection hp with h1 h2
    subst h1; subst h2
    have hsub : ∀ x ∈ down h.length (swap h 0 (h.length - 1)) 0 (h.length - 1), x ∈ h :=
      fun x hx => mem_swap _ _ _ _ (mem_down _ _ _ _ _ hx)
    refine ⟨hsub _ (List.mem_of_getLast? hm), ?_⟩
    intro x hx
    exact hsub x (List.dropLast_subset _ hx)

/-! ## recordMeta keeps any invariant of the form "`T br plains`, monotone in `plains`" -/

section record
variable (P : Params) (T : Bytes → List Bytes → Prop)
  (mono : ∀ n pl pl', T n pl → (∀ p ∈ pl, p ∈ pl') → T n pl')
include mono

theorem compactLoop_inv (fuel : Nat) (h : List MetaBlob) (pl td : List Bytes)
    (js : List (List Bytes × List Bytes))
    (hh : ∀ e ∈ h, T e.br e.plains) (hacc : ∀ n ∈ td, T n pl)
    (hjs : ∀ j ∈ js, ∀ n ∈ j.2, T n j.1) :
    (∀ e ∈ (compactLoop P fuel h pl td js).1, T e.br e.plains) ∧
    (∀ n ∈ (compactLoop P fuel h pl td js).2.2.1, T n (compactLoop P fuel h pl td js).2.1) ∧
    (∀ j ∈ (compactLoop P fuel h pl td js).2.2.2, ∀ n ∈ j.2, T n j.1) := by
  induction fuel generalizing h pl td js with
  | zero => exact ⟨hh, hacc, hjs⟩
  | succ f ih =>
    simp only [compactLoop]
    cases hp : pop h with
    | none => exact ⟨hh, hacc, hjs⟩
    | some mh =>
      obtain ⟨m, h'⟩ := mh
      obtain ⟨hm, hsub⟩ := mem_pop h m h' hp
      have hh' : ∀ e ∈ h', T e.br e.plains := fun e he => hh e (hsub e he)
      have hacc' : ∀ n ∈ td ++ [m.br], T n (pl ++ m.plains) := fun n hn =>
        (List.mem_append.mp hn).elim (fun hn => mono n pl _ (hacc n hn) fun _ => List.mem_append_left _)
          fun hn => List.mem_singleton.mp hn ▸ mono _ _ _ (hh m hm) fun _ => List.mem_append_right _
      dsimp only
      by_cases hfull : (pl ++ m.plains).length > P.full
      · rw [if_pos hfull]
        exact ih h' [] [] _ hh' (fun _ hn => nomatch hn) fun j hj =>
          (List.mem_append.mp hj).elim (hjs j) fun hj => List.mem_singleton.mp hj ▸ hacc'
      · rw [if_neg hfull]; exact ih h' _ _ js hh' hacc' hjs

theorem recordMeta_inv (heap : List MetaBlob) (b : MetaBlob)
    (hh : ∀ e ∈ heap, T e.br e.plains) (hb : T b.br b.plains) :
    (∀ e ∈ (recordMeta P heap b).1, T e.br e.plains) ∧
    (∀ j ∈ (recordMeta P heap b).2, ∀ n ∈ j.2, T n j.1) := by
  have hnil : ∀ j ∈ ([] : List (List Bytes × List Bytes)), ∀ n ∈ j.2, T n j.1 := fun _ hj => nomatch hj
  unfold recordMeta
  by_cases hfull : b.plains.length > P.full
  · rw [if_pos hfull]; exact ⟨hh, hnil⟩
  rw [if_neg hfull]
  have hpush : ∀ e ∈ push heap b, T e.br e.plains := fun e he =>
    (mem_push _ _ _ he).elim (hh e) fun he => he ▸ hb
  dsimp only
  by_cases hsmall : (push heap b).length > P.small
  · rw [if_pos hsmall]
    obtain ⟨c1, c2, c3⟩ := compactLoop_inv P T mono (push heap b).length (push heap b) [] [] [] hpush
      (fun _ hn => nomatch hn) hnil
    generalize compactLoop P (push heap b).length (push heap b) [] [] [] = res at c1 c2 c3
    obtain ⟨h', pl, td, js⟩ := res
    dsimp only at c1 c2 c3 ⊢
    split
    · exact ⟨c1, c3⟩
    · rename_i x
      exact ⟨fun e he => (mem_push _ _ _ he).elim (c1 e) fun he => he ▸ c2 x List.mem_cons_self, c3⟩
    · exact ⟨c1, fun j hj => (List.mem_append.mp hj).elim (c3 j) fun hj => List.mem_singleton.mp hj ▸ c2⟩
  · rw [if_neg hsmall]; exact ⟨hpush, hnil⟩

end record

/-- removing names from the meta store: the fold of `jobStep`'s remove step (equal to it by `rfl`) -/
def delMetas (td : List Bytes) (m : SMap Bytes) : SMap Bytes := td.foldl (fun m n => del n m) m

theorem kasc_delMetas (td : List Bytes) {m : SMap Bytes} (h : KAsc m) : KAsc (delMetas td m) := by
  induction td generalizing m with
  | nil => exact h
  | cons n rest ih => exact ih (kasc_del n h)

theorem get_delMetas (td : List Bytes) {m : SMap Bytes} (h : KAsc m) (x : Bytes) :
    get (delMetas td m) x = if x ∈ td then none else get m x := by
  induction td generalizing m with
  | nil => simp [delMetas]
  | cons n rest ih =>
    simp only [delMetas, List.foldl_cons]
    have := ih (kasc_del n h)
    simp only [delMetas] at this
    rw [this, get_del n h]
    by_cases h1 : x ∈ rest
    · simp [h1]
    · by_cases h2 : x = n
      · simp [h2]
      · simp [h1, h2]

/-- the lines of a packed meta blob: one index row for each of the refs, and nothing else -/
theorem packedLines_spec (idx : SMap Bytes) (l : List Bytes) (ls : List (Bytes × Bytes))
    (h : packedLines idx l = some ls) :
    (∀ pv ∈ ls, pv.1 ∈ l ∧ get idx pv.1 = some pv.2) ∧ ∀ p ∈ l, ∃ v, (p, v) ∈ ls := by
  induction l generalizing ls with
  | nil => cases h; exact ⟨fun _ h => absurd h List.not_mem_nil, fun _ h => absurd h List.not_mem_nil⟩
  | cons p ps ih =>
    simp only [packedLines] at h
    cases hg : get idx p with
    | none => simp [hg] at h
    | some v =>
      cases hr : packedLines idx ps with
      | none => simp [hg, hr] at h
      | some r =>
        simp only [hg, hr] at h
        cases h
        obtain ⟨i1, i2⟩ := ih r hr
        constructor
        · intro pv hpv
          rcases List.mem_cons.mp hpv with rfl | e
          · exact ⟨List.mem_cons_self, hg⟩
          · exact ⟨List.mem_cons_of_mem _ (i1 pv e).1, (i1 pv e).2⟩
        · intro q hq
          rcases List.mem_cons.mp hq with rfl | e
          · exact ⟨v, List.mem_cons_self⟩
          · exact (i2 q e).imp fun _ h => List.mem_cons_of_mem _ h

theorem mem_mergeRefs (fuel : Nat) (xs ys : List Bytes) (p : Bytes) :
    p ∈ mergeRefs fuel xs ys ↔ p ∈ xs ∨ p ∈ ys := by
  induction fuel generalizing xs ys with
  | zero => simp [mergeRefs]
  | succ f ih =>
    cases xs with
    | nil => simp [mergeRefs]
    | cons x xs =>
      cases ys with
      | nil => simp [mergeRefs]
      | cons y ys =>
        simp only [mergeRefs]
        split <;> simp only [List.mem_cons, ih, or_assoc, or_left_comm]

theorem mem_msortRefs (fuel : Nat) (l : List Bytes) (p : Bytes) : p ∈ msortRefs fuel l ↔ p ∈ l := by
  induction fuel generalizing l with
  | zero => simp [msortRefs]
  | succ f ih =>
    simp only [msortRefs]
    split
    · exact Iff.rfl
    · rw [mem_mergeRefs, ih, ih]
      have := List.take_append_drop (l.length / 2) l
      constructor
      · rintro (h | h)
        · exact List.mem_of_mem_take h
        · exact List.mem_of_mem_drop h
      · intro h
        rw [← this] at h
        exact List.mem_append.mp h

theorem mem_sortRefs (l : List Bytes) (p : Bytes) : p ∈ sortRefs l ↔ p ∈ l := mem_msortRefs _ l p

theorem mem_reinsert {α : Type} {l : List α} {i : Nat} {a x : α} (h : x ∈ l.take i ++ a :: l.drop i) :
    x ∈ a :: l := by
  rcases List.mem_append.mp h with h | h
  · exact List.mem_cons_of_mem _ (List.mem_of_mem_take h)
  · exact List.mem_cons.mpr ((List.mem_cons.mp h).imp id List.mem_of_mem_drop)

/-- every answer of Fetch: an error, or bytes with the digest asked for and their true size -/
theorem fetch_cases (P : Params) (s : St) (ref : Bytes) :
    fetch P s ref = .notExist ∨ fetch P s ref = .err ∨ fetch P s ref = .corrupt ∨
      ∃ plain, P.digest plain = ref ∧ fetch P s ref = .bytes plain plain.length := by
  unfold fetch
  cases fetchMeta P s.index ref with
  | notExist => exact .inl rfl
  | err => exact .inr (.inl rfl)
  | ok sz e =>
    dsimp only
    cases get s.blobs e with
    | none => exact .inr (.inl rfl)
    | some enc =>
      dsimp only
      by_cases h1 : P.digest enc ≠ e
      · rw [if_pos h1]; exact .inr (.inr (.inl rfl))
      rw [if_neg h1]
      cases decryptBlob P enc with
      | none => exact .inr (.inl rfl)
      | some plain =>
        dsimp only
        by_cases hc : P.digest plain ≠ ref ∨ plain.length ≠ sz
        · rw [if_pos hc]; exact .inr (.inr (.inl rfl))
        rw [if_neg hc]
        have hc' := not_or.mp hc
        exact .inr (.inr (.inr ⟨plain, Decidable.not_not.mp hc'.1, by rw [Decidable.not_not.mp hc'.2]⟩))

theorem fetch_not_refs (P : Params) (s : St) (ref : Bytes) (l : List (Bytes × Nat)) :
    fetch P s ref ≠ .refs l := by
  rcases fetch_cases P s ref with h | h | h | ⟨_, _, h⟩ <;> rw [h] <;> exact fun e => Res.noConfusion e

theorem fetch_not_sized (P : Params) (s : St) (ref : Bytes) (n : Nat) : fetch P s ref ≠ .sized n := by
  rcases fetch_cases P s ref with h | h | h | ⟨_, _, h⟩ <;> rw [h] <;> exact fun e => Res.noConfusion e

end Pk.Encrypt
