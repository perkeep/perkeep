import PkVerif.Lemmas.EncryptInv
import PkVerif.Spec.RefMap
/-!
# The encrypt store refines the reference map (receive / fetch / stat / enumerate) – C11

`encImpl` is the storage API of the model under the driver's schedule (packers run to their end after
every receive); `RemoveBlobs` is not implemented by the store (`ErrNotImplemented`), so histories with
`rm` are outside the statement.  `AckOK`/`ack_reach`: an acknowledged receive has its index row.
-/
namespace Pk.Encrypt
open Pk Pk.SMap

/-- the reference map has one error answer and no size next to the bytes: `corrupt` and `err` both map to
`err`, the size of `bytes` is dropped -/
def toOut : Res → RefMap.Out
  | .sized n => .sized n
  | .bytes b _ => .bytes b
  | .notExist => .notExist
  | .corrupt => .err
  | .err => .err
  | .refs l => .refs l

/-- the storage API as an implementation of the reference-map interface -/
def encImpl (P : Params) : RefMap.Impl where
  σ := St
  init := {}
  step := fun s op =>
    match op with
    | .recv k v => ((receiveBlob P goodR goodP false s k v).1, toOut (receiveBlob P goodR goodP false s k v).2)
    | .fetch k => (s, toOut (fetch P s k))
    | .stat k => (s, toOut (statBlob P s k))
    | .enum after limit => (s, toOut (enumerateBlobs P s after limit))
    | .rm _ => (s, .err)

/-- a well-keyed operation of the encrypt store: received bytes are the content of their ref, the ref is
their digest, sizes fit 32 bits; enumerate asks for at least one ref (`enumRows` reads limit 0 as "no
limit", `RefMap.enumOf` as "no entry"); no remove -/
def OpOK (P : Params) (content : Bytes → Bytes) : RefMap.Op → Prop
  | .recv k v => v = content k ∧ k = P.digest v ∧ v.length < 4294967296
  | .enum _ limit => 0 < limit
  | .rm _ => False
  | _ => True

/-- the abstract map: every indexed ref with the content it denotes; the row values are not looked at -/
def absOf (content : Bytes → Bytes) (idx : SMap Bytes) : SMap Bytes := idx.map (fun kv => (kv.1, content kv.1))

variable {P : Params}

theorem get_absOf (content : Bytes → Bytes) (idx : SMap Bytes) (k : Bytes) :
    get (absOf content idx) k = (get idx k).map (fun _ => content k) := by
  induction idx with
  | nil => rfl
  | cons p rest ih =>
    obtain ⟨k', v'⟩ := p
    by_cases hk : k = k'
    · subst hk; simp [absOf, SMap.get]
    · simp only [absOf, List.map_cons, SMap.get, hk, if_false] at ih ⊢
      exact ih

theorem absOf_ins (content : Bytes → Bytes) (k v : Bytes) (idx : SMap Bytes) :
    absOf content (ins k v idx) = ins k (content k) (absOf content idx) := by
  induction idx with
  | nil => rfl
  | cons p rest ih =>
    obtain ⟨k', v'⟩ := p
    simp only [absOf, List.map_cons, ins] at ih ⊢
    split
    · rfl
    · split
      · rfl
      · simp only [List.map_cons, ih]

/-- what a packer step leaves alone; `s'` is the state after, `s` the state before.  `failMeta` goes one
way only: a successful upload counts an armed fault down, and no fault is armed in the histories of the
refinement -/
structure SameFrame (s' s : St) : Prop where
  index : s'.index = s.index
  recv : s'.recv = s.recv
  lastFailed : s'.lastFailed = s.lastFailed
  failBlobs : s'.failBlobs = s.failBlobs
  failMeta : s.failMeta = 0 → s'.failMeta = 0
  failIndex : s'.failIndex = s.failIndex

theorem SameFrame.refl (s : St) : SameFrame s s := ⟨rfl, rfl, rfl, rfl, fun h => h, rfl⟩

theorem SameFrame.trans {a b c : St} (h1 : SameFrame a b) (h2 : SameFrame b c) : SameFrame a c :=
  ⟨h1.index.trans h2.index, h1.recv.trans h2.recv, h1.lastFailed.trans h2.lastFailed,
   h1.failBlobs.trans h2.failBlobs, fun h => h1.failMeta (h2.failMeta h), h1.failIndex.trans h2.failIndex⟩

theorem jobStep_frame (s0 : St) (j : Job) : SameFrame (jobStep P goodP s0 j).1 s0 := by
  unfold jobStep
  cases j.rest with
  | nil => exact SameFrame.refl _
  | cons a rest =>
    cases a with
    | upload =>
      dsimp only
      cases packedLines s0.index (sortRefs j.plains) with
      | none => exact SameFrame.refl _
      | some ls =>
        dsimp only
        by_cases hf : s0.failMeta = 1
        · rw [if_pos hf]; exact ⟨rfl, rfl, rfl, rfl, fun _ => rfl, rfl⟩
        · rw [if_neg hf]; exact ⟨rfl, rfl, rfl, rfl, fun h => congrArg (· - 1) h, rfl⟩
    | record =>
      dsimp only
      cases j.packed with
      | none => exact SameFrame.refl _
      | some br => dsimp only; split <;> exact ⟨rfl, rfl, rfl, rfl, fun h => h, rfl⟩
    | remove => exact ⟨rfl, rfl, rfl, rfl, fun h => h, rfl⟩

theorem stepJob_frame (s : St) (i : Nat) : SameFrame (stepJob P goodP s i) s := by
  unfold stepJob
  cases s.jobs[i]? with
  | none => exact SameFrame.refl _
  | some j =>
    have key := jobStep_frame (P := P) { s with jobs := s.jobs.eraseIdx i } j
    simp only
    generalize jobStep P goodP { s with jobs := s.jobs.eraseIdx i } j = res at key
    obtain ⟨s1, oj⟩ := res
    cases oj <;> exact ⟨key.index, key.recv, key.lastFailed, key.failBlobs, key.failMeta, key.failIndex⟩

theorem drain_frame (fuel : Nat) (s : St) : SameFrame (drain P goodP fuel s) s := by
  induction fuel generalizing s with
  | zero => exact SameFrame.refl _
  | succ f ih =>
    simp only [drain]
    split
    · exact SameFrame.refl _
    · exact (ih (stepJob P goodP s 0)).trans (stepJob_frame (P := P) s 0)

theorem inv_drain (I : Ideal P) (fuel : Nat) {s : St} (h : Inv P s) : Inv P (drain P goodP fuel s) := by
  induction fuel generalizing s with
  | zero => exact h
  | succ f ih =>
    simp only [drain]
    split
    · exact h
    · exact ih (inv_stepJob I h 0)

/-- a ReceiveBlob of a ref the index does not know succeeds; `recvAll P s v` is the state it leaves to the
packers it started -/
theorem receiveBlob_new (I : Ideal P) {s : St} (h : Inv P s) (h0 : s.recv = none) (k v : Bytes)
    (hk : k = P.digest v) (hlen : v.length < 4294967296) (hnone : get s.index k = none)
    (hfb : s.failBlobs = 0) (hfmt : s.failMeta = 0) (hfi : s.failIndex = 0) :
    receiveBlob P goodR goodP false s k v =
      (drain P goodP (drainFuel (recvAll P s v)) (recvAll P s v), .sized v.length) ∧
    Inv P (recvAll P s v) ∧ (recvAll P s v).recv = none ∧
    (recvAll P s v).index = ins k (packIndexEntry v.length (P.digest (encryptBlob P s.nonce v))) s.index ∧
    (recvAll P s v).failBlobs = 0 ∧ (recvAll P s v).failMeta = 0 ∧ (recvAll P s v).lastFailed = false ∧
    (recvAll P s v).failIndex = 0 := by
  subst hk
  have hfm : fetchMeta P s.index (P.digest v) = .notExist := by simp [fetchMeta, hnone]
  have hb : recvBegin P goodR s (P.digest v) v = ((recvBegin P goodR s (P.digest v) v).1, none) := by
    simp [recvBegin, hfm]
  have i0 := inv_recvBegin I h _ v h0 hlen hb
  have g0 : (recvBegin P goodR s (P.digest v) v).1.failIndex = 0 := by simp [recvBegin, hfm, hfi]
  have g1 := recvStep_failIndex (P := P) _ g0
  have g2 := recvStep_failIndex (P := P) _ g1
  have g3 := recvStep_failIndex (P := P) _ g2
  have g4 := recvStep_failIndex (P := P) _ g3
  have i1 := inv_recvStep I i0 g0
  have i2 := inv_recvStep I i1 g1
  have i3 := inv_recvStep I i2 g2
  have i4 := inv_recvStep I i3 g3
  have i5 := inv_recvStep I i4 g4
  -- the five micro-steps are evaluated once, on the state `recvBegin` leaves
  obtain ⟨s1, hs1⟩ :
      ∃ s1, recvRun P goodP false (goodR.length + 1) (recvBegin P goodR s (P.digest v) v).1 = s1 := ⟨_, rfl⟩
  have key : s1 = recvStep P goodP (recvStep P goodP (recvStep P goodP (recvStep P goodP (recvStep P goodP
        (recvBegin P goodR s (P.digest v) v).1)))) ∧ s1.recv = none ∧
      s1.index = ins (P.digest v) (packIndexEntry v.length (P.digest (encryptBlob P s.nonce v))) s.index ∧
      s1.failBlobs = 0 ∧ s1.failMeta = 0 ∧ s1.lastFailed = false ∧ s1.failIndex = 0 := by
    subst hs1
    simp [recvBegin, hfm, recvRun, recvStep, goodR, St.record, hfb, hfmt, hfi]
  obtain ⟨e, hrest⟩ := key
  have e' : s1 = recvAll P s v := e
  subst e'
  refine ⟨?_, i5, hrest⟩
  unfold receiveBlob
  rw [hb]
  dsimp only
  rw [hs1, hrest.2.2.2.2.1]
  rfl

theorem enumRows_good (limit : Nat) (f : Bytes → Nat) (rows : List (Bytes × Bytes))
    (hrows : ∀ kv ∈ rows, ∃ e, unpackIndexEntry P kv.2 = some (f kv.1, e)) (n : Nat) (hn : n < limit) :
    enumRows P limit n rows = some ((rows.map (fun kv => (kv.1, f kv.1))).take (limit - n)) := by
  induction rows generalizing n with
  | nil => rw [List.map_nil, List.take_nil]; rfl
  | cons kv rest ih =>
    obtain ⟨e, he⟩ := hrows kv List.mem_cons_self
    have hsub : limit - n = (limit - (n + 1)) + 1 := (Nat.succ_pred_eq_of_pos (Nat.sub_pos_of_lt hn)).symm
    rw [hsub, List.map_cons, List.take_succ_cons]
    show (match unpackIndexEntry P kv.2 with
      | none => none
      | some (sz, _) =>
        if limit ≠ 0 ∧ n + 1 ≥ limit then some [(kv.1, sz)]
        else (enumRows P limit (n + 1) rest).map ((kv.1, sz) :: ·)) = _
    rw [he]
    dsimp only
    by_cases hstop : limit ≠ 0 ∧ n + 1 ≥ limit
    · rw [if_pos hstop, Nat.sub_eq_zero_of_le hstop.2, List.take_zero]
    · rw [if_neg hstop, ih (fun q hq => hrows q (List.mem_cons_of_mem kv hq)) (n + 1)
        (Nat.lt_of_not_le fun h => hstop ⟨Nat.ne_of_gt (Nat.lt_of_le_of_lt (Nat.zero_le n) hn), h⟩)]
      rfl

theorem sizes_absOf_filter (content : Bytes → Bytes) (after : Bytes) (idx : SMap Bytes) :
    RefMap.sizes ((absOf content idx).filter (fun p => ltB after p.1)) =
      (idx.filter (fun kv => ltB after kv.1)).map (fun kv => (kv.1, (content kv.1).length)) := by
  induction idx with
  | nil => rfl
  | cons p rest ih =>
    obtain ⟨k, v⟩ := p
    simp only [absOf, List.map_cons, List.filter_cons] at ih ⊢
    split
    · simp only [RefMap.sizes, List.map_cons] at ih ⊢
      rw [ih]
    · exact ih

/-- what the simulation keeps: the invariant, no ReceiveBlob in flight between API calls, and every
index key is the digest of the content the reference map associates with it -/
structure Sim (P : Params) (content : Bytes → Bytes) (s : St) : Prop where
  inv : Inv P s
  quiet : s.recv = none
  keys : ∀ k v, get s.index k = some v → k = P.digest (content k) ∧ (content k).length < 4294967296
  noBlobsFault : s.failBlobs = 0
  noMetaFault : s.failMeta = 0
  noIndexFault : s.failIndex = 0

theorem Sim.row (I : Ideal P) {content : Bytes → Bytes} {s : St} (h : Sim P content s) {k v : Bytes}
    (hg : get s.index k = some v) :
    ∃ r, get s.blobs (P.digest (encryptBlob P r (content k))) = some (encryptBlob P r (content k)) ∧
      v = packIndexEntry (content k).length (P.digest (encryptBlob P r (content k))) ∧
      fetchMeta P s.index k = .ok (content k).length (P.digest (encryptBlob P r (content k))) := by
  obtain ⟨plain, r, h1, h2, h3, h4⟩ := h.inv.row_ok hg
  obtain ⟨k1, _⟩ := h.keys k v hg
  simp only at h1 h3
  have : plain = content k := I.digest_inj _ _ (by rw [← h1, ← k1])
  subst this
  exact ⟨r, h4, h3, by simp only [fetchMeta, hg, h3, unpack_pack I _ h2]⟩

theorem sim_step (I : Ideal P) (content : Bytes → Bytes) {s : St} (h : Sim P content s) (op : RefMap.Op)
    (hop : OpOK P content op) :
    ((encImpl P).step s op).2 = RefMap.out (absOf content s.index) op ∧
    absOf content ((encImpl P).step s op).1.index = RefMap.next (absOf content s.index) op ∧
    Sim P content ((encImpl P).step s op).1 := by
  cases op with
  | rm k => exact absurd hop (by simp [OpOK])
  | fetch k =>
    refine ⟨?_, rfl, h⟩
    simp only [encImpl, RefMap.out, get_absOf]
    cases hg : get s.index k with
    | none => simp [fetch, fetchMeta, hg, toOut]
    | some v =>
      obtain ⟨r, r1, _, r3⟩ := h.row I hg
      obtain ⟨k1, _⟩ := h.keys k v hg
      have : fetch P s k = .bytes (content k) (content k).length := by
        simp only [fetch, r3, r1, decrypt_encrypt, ne_eq, not_true_eq_false, if_false, ← k1, or_self]
      simp [this, toOut]
  | stat k =>
    refine ⟨?_, rfl, h⟩
    simp only [encImpl, RefMap.out, get_absOf]
    cases hg : get s.index k with
    | none => simp [statBlob, fetchMeta, hg, toOut]
    | some v =>
      obtain ⟨r, _, _, r3⟩ := h.row I hg
      simp [statBlob, r3, toOut]
  | enum after limit =>
    refine ⟨?_, rfl, h⟩
    have hl : 0 < limit := hop
    have hrows : ∀ kv ∈ s.index.filter (fun kv => ltB after kv.1),
        ∃ e, unpackIndexEntry P kv.2 = some ((content kv.1).length, e) := by
      intro kv hkv
      have hmem := (List.mem_filter.mp hkv).1
      have hg : get s.index kv.1 = some kv.2 := mem_get h.inv.kI hmem
      obtain ⟨r, _, r2, _⟩ := h.row I hg
      obtain ⟨_, k2⟩ := h.keys _ _ hg
      exact ⟨_, by rw [r2]; exact unpack_pack I _ k2 _⟩
    have := enumRows_good (P := P) limit (fun k => (content k).length) _ hrows 0 hl
    simp only [encImpl, enumerateBlobs, this, toOut, RefMap.out, RefMap.enumOf, sizes_absOf_filter, Nat.sub_zero]
  | recv k v =>
    obtain ⟨hv, hk, hlen⟩ := hop
    subst hv
    simp only [encImpl, RefMap.out, RefMap.next]
    cases hg : get s.index k with
    | some row =>
      obtain ⟨r, _, _, r3⟩ := h.row I hg
      have hrb : receiveBlob P goodR goodP false s k (content k) = (s, .sized (content k).length) := by
        simp [receiveBlob, recvBegin, r3]
      have hhas : has (absOf content s.index) k = true := by simp [has, get_absOf, hg]
      rw [hrb]
      simp only [toOut, hhas, if_true]
      exact ⟨trivial, trivial, h⟩
    | none =>
      obtain ⟨hrb, i1, q1, x1, f1, f2, _, f4⟩ :=
        receiveBlob_new I h.inv h.quiet k (content k) hk hlen hg h.noBlobsFault h.noMetaFault h.noIndexFault
      have hhas : has (absOf content s.index) k = false := by simp [has, get_absOf, hg]
      generalize recvAll P s (content k) = s1 at hrb i1 q1 x1 f1 f2 f4
      have d := drain_frame (P := P) (drainFuel s1) s1
      rw [hrb]
      simp only [toOut, hhas, Bool.false_eq_true, if_false, d.index, x1, absOf_ins]
      refine ⟨trivial, trivial, inv_drain I _ i1, d.recv.trans q1, ?_, d.failBlobs.trans f1, d.failMeta f2,
        d.failIndex.trans f4⟩
      intro k' v' hg'
      rw [d.index, x1] at hg'
      rcases get_ins_some hg' with ⟨rfl, _⟩ | ⟨_, hg'⟩
      · exact ⟨hk, hlen⟩
      · exact h.keys k' v' hg'

/-- the encrypt store answers every history of well-keyed receive / fetch / stat / enumerate operations
exactly as the reference content-addressed map does -/
theorem refines_refmap (I : Ideal P) (content : Bytes → Bytes) (ops : List RefMap.Op)
    (hops : ∀ op ∈ ops, OpOK P content op) (s : St) (h : Sim P content s) :
    (encImpl P).run s ops = RefMap.run (absOf content s.index) ops := by
  induction ops generalizing s with
  | nil => rfl
  | cons op ops ih =>
    obtain ⟨ho, ha, hs⟩ := sim_step I content h op (hops op (by simp))
    simp only [RefMap.Impl.run, RefMap.run, ho]
    rw [ih (fun o ho' => hops o (by simp [ho'])) _ hs, ha]

theorem sim_init (content : Bytes → Bytes) : Sim P content ({} : St) :=
  ⟨inv_init, rfl, by intro k v hg; simp [SMap.get] at hg, rfl, rfl, rfl⟩

/-! ## acknowledged ⇒ the index has the row (also in histories with failing wrapped stores) -/

/-- when the ReceiveBlob in flight has run its program to the end and no wrapped store failed – i.e. it is
about to return success – the index knows its blob -/
def AckOK (s : St) : Prop :=
  ∀ x, s.recv = some x → x.rest = [] → s.lastFailed = false → ∃ v, get s.index x.plainBR = some v

theorem ack_step {s s' : St} (h : Inv P s) (ha : AckOK s) (st : Step P goodR goodP s s') : AckOK s' := by
  cases st with
  | recvBegin ref plain _ h0 hlen hb =>
    obtain ⟨_, _, rfl⟩ := recvBegin_none hb
    intro x hx hr
    cases hx
    cases hr
  | recvStep hne hfi =>
    unfold recvStep
    cases hx : s.recv with
    | none => rw [hx] at hne; exact absurd rfl hne
    | some x =>
      obtain ⟨_, _, _, r4⟩ := h.recv x hx
      rcases r4 with ⟨hm, hr | hr | hr⟩ | ⟨m, hm, _, hr | ⟨hr | hr, _⟩⟩
      · simp only [hr, goodR]      -- putBlobs
        split
        · intro y _ _ hl; cases hl
        · intro y hy hr'; cases hy; cases hr'
      · simp only [hr]             -- putMeta
        split
        · intro y _ _ hl; cases hl
        · intro y hy hr'; cases hy; cases hr'
      · simp only [hr]; intro y hy; cases hy      -- return after a failed write
      · simp only [hr]; intro y hy; cases hy      -- return
      · simp only [hr, hm]         -- record
        intro y hy hr'
        cases hy
        cases hr'
      · simp only [hr, hfi, Nat.zero_ne_one, if_false]      -- setIndex
        intro y hy _ _
        cases hy
        exact ⟨_, get_ins_self _ _ _⟩
  | jobStep i =>
    have f := stepJob_frame (P := P) s i
    intro x hx hr hl
    rw [f.recv] at hx; rw [f.lastFailed] at hl; rw [f.index]
    exact ha x hx hr hl
  | restart wipe order hord =>
    intro x hx
    unfold restart at hx
    rw [(readAll_frame _ _ _).recv] at hx
    simp [crash] at hx
  | arm b m => exact ha

theorem ack_reach (I : Ideal P) {s : St} (hr : Reach P goodR goodP s) : AckOK s := by
  induction hr with
  | init => intro x hx; cases hx
  | step s s' hr' st ih => exact ack_step (inv_reach I hr') ih st

end Pk.Encrypt
