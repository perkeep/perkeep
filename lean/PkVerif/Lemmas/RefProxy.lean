import PkVerif.Lemmas.Stores
/-!
C01, C13: the evicting memory cache satisfies the weak cache contract (`memCacheCaches`); the
fault-tolerant cache contract `FCaches`; proxycache over ANY fault-tolerant origin and ANY such cache
is fault-tolerant (`proxy_fstep`).  An origin that refines the reference map and a cache satisfying
`Caches` are an origin and a cache that never fail, which gives `proxyRefines`.
-/
namespace Pk.Stores
open Pk Pk.SMap Pk.RefMap

-- a bare `Sub` is also core's subtraction class, which the elaborator tries (and fails) at a price
-- each time: hence `SMap.Sub` in the statements here
theorem good_of_sub {content : Bytes → Bytes} {a b : SMap Bytes} (ha : KAsc a) (h : SMap.Sub a b)
    (hb : Good content b) : Good content a :=
  ⟨ha, fun k v hg => hb.2 k v (h k v hg)⟩

theorem good_ins {content : Bytes → Bytes} {m : SMap Bytes} (h : Good content m) (k v : Bytes)
    (hop : (Op.recv k v).WK content) : Good content (ins k v m) :=
  next_recv_good h k v hop.1 ▸ good_next h _ hop

theorem sub_ins_self {content : Bytes → Bytes} {m : SMap Bytes} (hm : Good content m) (k v : Bytes)
    (hop : (Op.recv k v).WK content) : SMap.Sub m (ins k v m) := by
  intro x w hx
  rw [get_ins]
  by_cases e : x = k
  · subst e; simp only [if_true]; rw [(hm.2 x w hx).1, hop.1]
  · simp only [e, if_false]; exact hx

theorem sub_ins_next {content : Bytes → Bytes} {a m : SMap Bytes} (hm : Good content m) (h : Sub a m)
    (k v : Bytes) (hop : (Op.recv k v).WK content) : Sub (ins k v a) (next m (.recv k v)) :=
  next_recv_good hm k v hop.1 ▸ sub_ins_ins k v h

/-- the eviction loop only deletes entries -/
theorem evict_ok (max : Nat) : ∀ (fuel : Nat) (c : MemCache), KAsc c.m →
    KAsc (MemCache.evict max fuel c).m ∧ SMap.Sub (MemCache.evict max fuel c).m c.m
  | 0, c, h => ⟨h, Sub.refl _⟩
  | fuel + 1, c, h => by
    simp only [MemCache.evict]
    by_cases hb : max ≠ 0 ∧ c.size > max
    · rw [if_pos hb]
      cases c.lru.getLast? with
      | none => exact ⟨h, Sub.refl _⟩
      | some key =>
        simp only
        cases hg : SMap.get c.m key with
        | none => exact evict_ok max fuel _ h
        | some v =>
          obtain ⟨h1, h2⟩ := evict_ok max fuel
            { m := del key c.m, lru := c.lru.dropLast, size := c.size - v.length } (kasc_del _ h)
          exact ⟨h1, h2.trans (sub_del_self _ h)⟩
    · rw [if_neg hb]; exact ⟨h, Sub.refl _⟩

theorem mc_recv {content : Bytes → Bytes} (max : Nat) (c : MemCache) (k v : Bytes)
    (h : Good content c.m) (hop : (Op.recv k v).WK content) :
    ((memCacheImpl max).step c (.recv k v)).2 = .sized v.length ∧
    KAsc (MemCache.m ((memCacheImpl max).step c (.recv k v)).1) ∧
    SMap.Sub (MemCache.m ((memCacheImpl max).step c (.recv k v)).1) (ins k v c.m) := by
  simp only [memCacheImpl]
  cases hg : SMap.get c.m k with
  | some w =>
    simp only [has, hg, Option.isSome_some, if_true]
    exact ⟨trivial, h.1, sub_ins_self h k v hop⟩
  | none =>
    simp only [has, hg, Option.isSome_none, Bool.false_eq_true, if_false]
    exact ⟨trivial, evict_ok max _ _ (kasc_ins k v h.1)⟩

theorem mc_rm (max : Nat) (c : MemCache) (k : Bytes) (h : KAsc c.m) :
    ((memCacheImpl max).step c (.rm k)).2 = .ok ∧
    KAsc (MemCache.m ((memCacheImpl max).step c (.rm k)).1) ∧
    SMap.Sub (MemCache.m ((memCacheImpl max).step c (.rm k)).1) (del k c.m) := by
  simp only [memCacheImpl]
  cases hg : SMap.get c.m k with
  | some w => exact ⟨trivial, kasc_del k h, Sub.refl _⟩
  | none =>
    refine ⟨trivial, h, ?_⟩
    intro x u hx
    rw [get_del k h]
    by_cases hxk : x = k
    · subst hxk; rw [hg] at hx; cases hx
    · simp only [hxk, if_false]; exact hx

theorem mc_read (max : Nat) (c : MemCache) (op : Op)
    (hr : match op with | .fetch _ | .stat _ | .enum _ _ => True | _ => False) :
    ((memCacheImpl max).step c op).2 = out c.m op ∧
    MemCache.m ((memCacheImpl max).step c op).1 = c.m := by
  cases op with
  | recv _ _ => cases hr
  | rm _ => cases hr
  | fetch k =>
    simp only [memCacheImpl]
    refine ⟨trivial, ?_⟩
    split <;> rfl
  | stat k => exact ⟨rfl, rfl⟩
  | enum a l => exact ⟨rfl, rfl⟩

/-- memory.NewCache(max) satisfies the cache contract; nothing is needed about `lru`/`size`:
whatever they hold, eviction and removal only delete entries of `m` -/
def memCacheCaches (content : Bytes → Bytes) (max : Nat) : Caches content (memCacheImpl max) where
  abs := fun (c : MemCache) => c.m
  Inv := fun (c : MemCache) => Good content c.m
  init_inv := good_nil content
  init_abs := rfl
  good := fun _ h => h
  step_inv := by
    intro c op h hop
    cases op with
    | recv k v =>
      obtain ⟨_, h1, h2⟩ := mc_recv max c k v h hop
      exact good_of_sub h1 h2 (good_ins h k v hop)
    | rm k =>
      obtain ⟨_, h1, h2⟩ := mc_rm max c k h.1
      exact good_of_sub h1 (h2.trans (sub_del_self k h.1)) h
    | fetch k => show Good content (MemCache.m _); rw [(mc_read max c (.fetch k) trivial).2]; exact h
    | stat k => exact h
    | enum a l => exact h
  read_ok := by
    intro c op h hr
    obtain ⟨h1, h2⟩ := mc_read max c op hr
    exact ⟨h1, by show Sub (MemCache.m _) _; rw [h2]; exact Sub.refl _⟩
  recv_ok := by
    intro c k v h hop
    obtain ⟨h1, _, h3⟩ := mc_recv max c k v h hop
    exact ⟨h1, h3⟩
  rm_ok := by
    intro c k h
    obtain ⟨h1, _, h3⟩ := mc_rm max c k h.1
    exact ⟨h1, h3⟩

end Pk.Stores

namespace Pk.RefMap
open Pk Pk.SMap Pk.Stores

theorem out_fetch_bytes {m : SMap Bytes} {k v : Bytes} (h : out m (.fetch k) = .bytes v) :
    get m k = some v := by
  simp only [out] at h
  split at h
  · injection h with h; subst h; assumption
  · cases h

theorem out_stat_sized {m : SMap Bytes} {k : Bytes} {n : Nat} (h : out m (.stat k) = .sized n) :
    ∃ v, get m k = some v ∧ n = v.length := by
  simp only [out] at h
  split at h
  · injection h with h; exact ⟨_, by assumption, h.symm⟩
  · cases h

theorem sub_grow {content : Bytes → Bytes} {m : SMap Bytes} (hm : Good content m) (op : Op)
    (hop : op.WK content) : SMap.Sub m (grow m op) := by
  cases op with
  | recv k v => exact sub_ins_self hm k v hop
  | _ => exact Sub.refl _

section CachesFacts
variable {content : Bytes → Bytes} {I : Impl} (C : Caches content I)

theorem Caches.step_sub (s : I.σ) (op : Op) (h : C.Inv s) (hop : op.WK content) :
    SMap.Sub (C.abs (I.step s op).1) (grow (C.abs s) op) := by
  cases op with
  | recv k v => exact (C.recv_ok s k v h hop).2
  | rm k =>
    exact (C.rm_ok s k h).2.trans (sub_del_self k (C.good s h).1)
  | _ => exact (C.read_ok s _ h trivial).2

theorem Caches.step_out (s : I.σ) (op : Op) (h : C.Inv s) (hop : op.WK content) :
    (I.step s op).2 = out (C.abs s) op := by
  cases op with
  | recv k v => exact (C.recv_ok s k v h hop).1
  | rm k => exact (C.rm_ok s k h).1
  | _ => exact (C.read_ok s _ h trivial).1

end CachesFacts

def Caches.toF {content : Bytes → Bytes} {I : Impl} (C : Caches content I) : FCaches content I where
  abs := C.abs
  Inv := C.Inv
  Quiet := fun _ => True
  init_inv := C.init_inv
  init_abs := C.init_abs
  good := C.good
  step_inv := C.step_inv
  step_sub := C.step_sub
  fetch_ok := fun s k _ h ho => out_fetch_bytes ((C.step_out s (.fetch k) h trivial).symm.trans ho)
  stat_ok := fun s k _ h ho => out_stat_sized ((C.step_out s (.stat k) h trivial).symm.trans ho)
  rm_ok := fun s k h _ => (C.rm_ok s k h).2
  quiet_step := fun s op h _ hop => ⟨C.step_out s op h hop, trivial⟩

end Pk.RefMap

namespace Pk.Stores
open Pk Pk.SMap Pk.RefMap

/-- `FRefines.sub` for an origin call, as the two cases the proxy proofs split on -/
theorem ostep {content : Bytes → Bytes} {origin : Impl} (Fo : FRefines content origin)
    (os : origin.σ) (op : Op) (h : Fo.Inv os) (hop : op.WK content) :
    Fo.Inv (origin.step os op).1 ∧
    (((origin.step os op).2 = out (Fo.abs os) op ∧
        Fo.abs (origin.step os op).1 = next (Fo.abs os) op ∧
        (Fo.Quiet os → Fo.Quiet (origin.step os op).1)) ∨
     ((origin.step os op).2 = .err ∧
        (Fo.abs (origin.step os op).1 = Fo.abs os ∨ Fo.abs (origin.step os op).1 = next (Fo.abs os) op) ∧
        ¬ Fo.Quiet os)) := by
  obtain ⟨hi, hs⟩ := Fo.step_ok os op h hop
  refine ⟨hi, ?_⟩
  rcases hs with ⟨ho, ha⟩ | ⟨ho, ha⟩
  · exact Or.inl ⟨ho, ha, fun hq => (Fo.quiet_step os op h hq hop).2.2⟩
  · exact Or.inr ⟨ho, ha, Fo.not_quiet_of_err os op h hop ho⟩

/-- `StepSpec.exact` and `StepSpec.failed` with the invariant in front: the two ways a `PStepR` is
established -/
theorem mk_exact {abs abs' : SMap Bytes} {o : Out} {op : Op} {I Q Q' : Prop} (hi : I)
    (ho : o = out abs op) (ha : abs' = next abs op) (hq : Q → Q') :
    I ∧ StepOK abs abs' o op ∧ (Q → o = out abs op ∧ abs' = next abs op ∧ Q') :=
  ⟨hi, StepSpec.exact ho ha hq⟩

theorem mk_err {abs abs' : SMap Bytes} {o : Out} {op : Op} {I Q Q' : Prop} (hi : I)
    (ho : o = .err) (ha : abs' = abs ∨ abs' = next abs op) (hq : ¬ Q) :
    I ∧ StepOK abs abs' o op ∧ (Q → o = out abs op ∧ abs' = next abs op ∧ Q') :=
  ⟨hi, StepSpec.failed ho ha hq⟩

section Proxy
variable {content : Bytes → Bytes} {origin cache : Impl}
  (Fo : FRefines content origin) (Cc : FCaches content cache) (max : Nat)

theorem fclean_ok : ∀ (fuel : Nat) (cs : cache.σ) (b : ProxyBook), Cc.Inv cs →
    Cc.Inv (proxyClean cache max fuel cs b).1 ∧
    SMap.Sub (Cc.abs (proxyClean cache max fuel cs b).1) (Cc.abs cs) ∧
    (Cc.Quiet cs → Cc.Quiet (proxyClean cache max fuel cs b).1)
  | 0, cs, b, h => ⟨h, Sub.refl _, id⟩
  | fuel + 1, cs, b, h => by
    simp only [proxyClean]
    by_cases hb : b.cacheBytes > max
    · simp only [hb, if_true]
      cases b.lru.getLast? with
      | none => exact ⟨h, Sub.refl _, id⟩
      | some p =>
        obtain ⟨k, sz⟩ := p
        simp only
        have hi := Cc.step_inv cs (.rm k) h trivial
        have hs := Cc.step_sub cs (.rm k) h trivial
        have hq : Cc.Quiet cs → Cc.Quiet (cache.step cs (.rm k)).1 :=
          fun q => (Cc.quiet_step cs (.rm k) h q trivial).2
        generalize cache.step cs (.rm k) = pr at hi hs hq
        obtain ⟨cs', o⟩ := pr
        simp only at hi hs hq
        by_cases hk : o = .ok
        · subst hk
          simp only
          obtain ⟨h1, h2, h3⟩ := fclean_ok fuel cs' _ hi
          exact ⟨h1, h2.trans hs, fun q => h3 (hq q)⟩
        · simp only
          exact ⟨hi, hs, hq⟩
    · simp only [hb, if_false]; exact ⟨h, Sub.refl _, id⟩

theorem ftouch_ok (cs : cache.σ) (b : ProxyBook) (k : Bytes) (sz : Nat) (h : Cc.Inv cs) :
    Cc.Inv (proxyTouch cache max cs b k sz).1 ∧
    SMap.Sub (Cc.abs (proxyTouch cache max cs b k sz).1) (Cc.abs cs) ∧
    (Cc.Quiet cs → Cc.Quiet (proxyTouch cache max cs b k sz).1) := by
  unfold proxyTouch
  split
  · exact ⟨h, Sub.refl _, id⟩
  · exact fclean_ok Cc max _ cs _ h

theorem cstep (cs : cache.σ) (op : Op) (h : Cc.Inv cs) (hop : op.WK content) :
    Cc.Inv (cache.step cs op).1 ∧ SMap.Sub (Cc.abs (cache.step cs op).1) (grow (Cc.abs cs) op) ∧
    (Cc.Quiet cs → (cache.step cs op).2 = out (Cc.abs cs) op ∧ Cc.Quiet (cache.step cs op).1) :=
  ⟨Cc.step_inv cs op h hop, Cc.step_sub cs op h hop, fun q => Cc.quiet_step cs op h q hop⟩

def PInv (s : (proxyImpl origin cache max).σ) : Prop :=
  Fo.Inv s.1 ∧ Cc.Inv s.2.1 ∧ Sub (Cc.abs s.2.1) (Fo.abs s.1)

def PQuiet (s : (proxyImpl origin cache max).σ) : Prop := Fo.Quiet s.1 ∧ Cc.Quiet s.2.1

/-- `PInv` of the result and `StepSpec` on the origin's contents, written out -/
def PStepR (s : (proxyImpl origin cache max).σ) (op : Op)
    (r : (proxyImpl origin cache max).σ × Out) : Prop :=
  PInv Fo Cc max r.1 ∧
  StepOK (Fo.abs s.1) (Fo.abs r.1.1) r.2 op ∧
  (PQuiet Fo Cc max s →
    r.2 = out (Fo.abs s.1) op ∧ Fo.abs r.1.1 = next (Fo.abs s.1) op ∧ PQuiet Fo Cc max r.1)

def PStep (s : (proxyImpl origin cache max).σ) (op : Op) : Prop :=
  PStepR Fo Cc max s op ((proxyImpl origin cache max).step s op)

theorem proxy_enum (os : origin.σ) (cs : cache.σ) (b : ProxyBook) (a : Bytes) (l : Nat)
    (hI : PInv Fo Cc max (os, cs, b)) : PStep Fo Cc max (os, cs, b) (.enum a l) := by
  obtain ⟨hR, hC, hS⟩ := hI
  obtain ⟨hoi, hO⟩ := ostep Fo os (.enum a l) hR trivial
  have hsub : ∀ m, Fo.abs (origin.step os (.enum a l)).1 = m → SMap.Sub (Cc.abs cs) m → 
      SMap.Sub (Cc.abs cs) (Fo.abs (origin.step os (.enum a l)).1) := fun m e h => e ▸ h
  unfold PStep
  dsimp only [proxyImpl]
  rcases hO with ⟨ho, ha, hq⟩ | ⟨ho, ha, hq⟩
  · exact mk_exact ⟨hoi, hC, hsub _ ha hS⟩ ho ha (fun q => ⟨hq q.1, q.2⟩)
  · refine mk_err ⟨hoi, hC, ?_⟩ ho ha (fun q => hq q.1)
    rcases ha with ha | ha <;> exact hsub _ ha hS

theorem proxy_fetch (os : origin.σ) (cs : cache.σ) (b : ProxyBook) (k : Bytes)
    (hI : PInv Fo Cc max (os, cs, b)) : PStep Fo Cc max (os, cs, b) (.fetch k) := by
  obtain ⟨hR, hC, hS⟩ := hI
  have hGo := Fo.good os hR
  obtain ⟨hci, hcs, hcq⟩ := cstep Cc cs (.fetch k) hC trivial
  have hcf := fun v => Cc.fetch_ok cs k v hC
  obtain ⟨hoi, hO⟩ := ostep Fo os (.fetch k) hR trivial
  unfold PStep
  dsimp only [proxyImpl]
  generalize cache.step cs (.fetch k) = pc at hci hcs hcq hcf
  obtain ⟨cs1, oc⟩ := pc
  simp only [grow] at hci hcs hcq hcf
  have hS1 := hcs.trans hS
  by_cases hb : ∃ v, oc = .bytes v
  · -- cache hit: the origin holds the same bytes
    obtain ⟨v, rfl⟩ := hb
    have hgo := hS k v (hcf v rfl)
    simp only
    obtain ⟨ht1, ht2, ht3⟩ := ftouch_ok Cc max cs1 b k v.length hci
    generalize proxyTouch cache max cs1 b k v.length = pt at ht1 ht2 ht3
    obtain ⟨cs2, b2⟩ := pt
    refine mk_exact ⟨hR, ht1, ht2.trans hS1⟩ ?_ rfl (fun q => ⟨q.1, ht3 (hcq q.2).2⟩)
    simp only [out, hgo]
  · have hmiss : ∀ v, oc = .bytes v → False := fun v h => hb ⟨v, h⟩
    simp only
    generalize origin.step os (.fetch k) = po at hoi hO
    obtain ⟨os1, oo⟩ := po
    simp only at hoi hO
    rcases hO with ⟨ho, ha, hq⟩ | ⟨ho, ha, hq⟩
    · have hS2 : SMap.Sub (Cc.abs cs1) (Fo.abs os1) := by rw [ha]; exact hS1
      cases hgo : SMap.get (Fo.abs os) k with
      | none =>
        simp only [out, hgo] at ho; subst ho
        simp only
        refine mk_exact ⟨hoi, hci, hS2⟩ ?_ ha (fun q => ⟨hq q.1, (hcq q.2).2⟩)
        simp only [out, hgo]
      | some v =>
        -- the origin's bytes are offered to the cache; whatever the cache answers, they are served
        simp only [out, hgo] at ho; subst ho
        simp only
        have hwk : (Op.recv k v).WK content := hGo.2 k v hgo
        obtain ⟨hri, hrs, hrq⟩ := cstep Cc cs1 (.recv k v) hci hwk
        have hS3 : SMap.Sub (Cc.abs (cache.step cs1 (.recv k v)).1) (Fo.abs os1) := by
          rw [ha]; exact hrs.trans (sub_ins_of_get hS1 hgo)
        clear hrs
        generalize cache.step cs1 (.recv k v) = pr at hri hS3 hrq
        obtain ⟨cs2, orr⟩ := pr
        simp only at hri hS3 hrq
        have hans : Out.bytes v = out (Fo.abs os) (.fetch k) := by simp only [out, hgo]
        by_cases hz : ∃ n, orr = .sized n
        · obtain ⟨n, rfl⟩ := hz
          simp only
          obtain ⟨ht1, ht2, ht3⟩ := ftouch_ok Cc max cs2 b k v.length hri
          generalize proxyTouch cache max cs2 b k v.length = pt at ht1 ht2 ht3
          obtain ⟨cs3, b3⟩ := pt
          exact mk_exact ⟨hoi, ht1, ht2.trans hS3⟩ hans ha
            (fun q => ⟨hq q.1, ht3 (hrq (hcq q.2).2).2⟩)
        · have hnz : ∀ n, orr = .sized n → False := fun n h => hz ⟨n, h⟩
          simp only
          exact mk_exact ⟨hoi, hri, hS3⟩ hans ha (fun q => ⟨hq q.1, (hrq (hcq q.2).2).2⟩)
    · subst ho
      simp only
      refine mk_err ⟨hoi, hci, ?_⟩ rfl ha (fun q => hq q.1)
      rcases ha with ha | ha <;> (rw [ha]; exact hS1)

theorem proxy_stat (os : origin.σ) (cs : cache.σ) (b : ProxyBook) (k : Bytes)
    (hI : PInv Fo Cc max (os, cs, b)) : PStep Fo Cc max (os, cs, b) (.stat k) := by
  obtain ⟨hR, hC, hS⟩ := hI
  obtain ⟨hci, hcs, hcq⟩ := cstep Cc cs (.stat k) hC trivial
  have hcf := fun n => Cc.stat_ok cs k n hC
  obtain ⟨hoi, hO⟩ := ostep Fo os (.stat k) hR trivial
  unfold PStep
  dsimp only [proxyImpl]
  generalize cache.step cs (.stat k) = pc at hci hcs hcq hcf
  obtain ⟨cs1, oc⟩ := pc
  simp only [grow] at hci hcs hcq hcf
  have hS1 := hcs.trans hS
  by_cases hz : ∃ n, oc = .sized n
  · obtain ⟨n, rfl⟩ := hz
    obtain ⟨v, hgc, hn⟩ := hcf n rfl
    subst hn
    have hgo := hS k v hgc
    simp only
    obtain ⟨ht1, ht2, ht3⟩ := ftouch_ok Cc max cs1 b k v.length hci
    generalize proxyTouch cache max cs1 b k v.length = pt at ht1 ht2 ht3
    obtain ⟨cs2, b2⟩ := pt
    refine mk_exact ⟨hR, ht1, ht2.trans hS1⟩ ?_ rfl (fun q => ⟨q.1, ht3 (hcq q.2).2⟩)
    simp only [out, hgo]
  by_cases hn : oc = .notExist
  · subst hn
    simp only
    generalize origin.step os (.stat k) = po at hoi hO
    obtain ⟨os1, oo⟩ := po
    simp only at hoi hO
    rcases hO with ⟨ho, ha, hq⟩ | ⟨ho, ha, hq⟩
    · have hS2 : SMap.Sub (Cc.abs cs1) (Fo.abs os1) := by rw [ha]; exact hS1
      cases hgo : SMap.get (Fo.abs os) k with
      | none =>
        simp only [out, hgo] at ho; subst ho
        simp only
        refine mk_exact ⟨hoi, hci, hS2⟩ ?_ ha (fun q => ⟨hq q.1, (hcq q.2).2⟩)
        simp only [out, hgo]
      | some v =>
        simp only [out, hgo] at ho; subst ho
        simp only
        obtain ⟨ht1, ht2, ht3⟩ := ftouch_ok Cc max cs1 b k v.length hci
        generalize proxyTouch cache max cs1 b k v.length = pt at ht1 ht2 ht3
        obtain ⟨cs2, b2⟩ := pt
        refine mk_exact ⟨hoi, ht1, ht2.trans hS2⟩ ?_ ha (fun q => ⟨hq q.1, ht3 (hcq q.2).2⟩)
        simp only [out, hgo]
    · subst ho
      simp only
      refine mk_err ⟨hoi, hci, ?_⟩ rfl ha (fun q => hq q.1)
      rcases ha with ha | ha <;> (rw [ha]; exact hS1)
  · -- any other cache answer is passed on as an error; a quiet cache gives none
    have hns : ∀ n, oc = .sized n → False := fun n h => hz ⟨n, h⟩
    simp only
    refine mk_err ⟨hR, hci, hS1⟩ rfl (Or.inl rfl) (fun q => ?_)
    have := (hcq q.2).1
    simp only [out] at this
    split at this
    · exact hns _ this
    · exact hn this

theorem proxy_recv (os : origin.σ) (cs : cache.σ) (b : ProxyBook) (k v : Bytes)
    (hop : (Op.recv k v).WK content)
    (hI : PInv Fo Cc max (os, cs, b)) : PStep Fo Cc max (os, cs, b) (.recv k v) := by
  obtain ⟨hR, hC, hS⟩ := hI
  have hGo := Fo.good os hR
  obtain ⟨hci, hcs, hcq⟩ := cstep Cc cs (.recv k v) hC hop
  obtain ⟨hoi, hO⟩ := ostep Fo os (.recv k v) hR hop
  have hS0 :=
    (sub_ins_self (Cc.good cs hC) k v hop).trans (sub_ins_next hGo hS k v hop)
  have hS1 :=
    hcs.trans (sub_ins_next hGo hS k v hop)
  clear hcs
  unfold PStep
  dsimp only [proxyImpl]
  generalize origin.step os (.recv k v) = po at hoi hO
  obtain ⟨os1, oo⟩ := po
  simp only at hoi hO
  rcases hO with ⟨ho, ha, hq⟩ | ⟨ho, ha, hq⟩
  · simp only [out] at ho; subst ho
    simp only
    generalize cache.step cs (.recv k v) = pr at hci hcq hS1
    obtain ⟨cs1, orr⟩ := pr
    simp only at hci hcq hS1
    by_cases hz : ∃ n, orr = .sized n
    · obtain ⟨n, rfl⟩ := hz
      simp only
      obtain ⟨ht1, ht2, ht3⟩ := ftouch_ok Cc max cs1 b k v.length hci
      generalize proxyTouch cache max cs1 b k v.length = pt at ht1 ht2 ht3
      obtain ⟨cs2, b2⟩ := pt
      exact mk_exact ⟨hoi, ht1, by rw [ha]; exact ht2.trans hS1⟩ rfl ha
        (fun q => ⟨hq q.1, ht3 (hcq q.2).2⟩)
    · -- the origin stored the blob: a cache failure does not fail the call
      have hnz : ∀ n, orr = .sized n → False := fun n h => hz ⟨n, h⟩
      simp only
      exact mk_exact ⟨hoi, hci, by rw [ha]; exact hS1⟩ rfl ha (fun q => ⟨hq q.1, (hcq q.2).2⟩)
  · subst ho
    simp only
    refine mk_err ⟨hoi, hC, ?_⟩ rfl ha (fun q => hq q.1)
    rcases ha with ha | ha
    · rw [ha]; exact hS
    · rw [ha]; exact hS0

/-- remove (cache first, the origin only if the cache's removal answered `.ok`): a failing cache
removal leaves the origin untouched, so the cache stays within the origin whether or not the failed
removal took effect -/
theorem proxy_rm (os : origin.σ) (cs : cache.σ) (b : ProxyBook) (k : Bytes)
    (hI : PInv Fo Cc max (os, cs, b)) : PStep Fo Cc max (os, cs, b) (.rm k) := by
  obtain ⟨hR, hC, hS⟩ := hI
  have hGo := Fo.good os hR
  have hGc := Cc.good cs hC
  obtain ⟨hci, hcs, hcq⟩ := cstep Cc cs (.rm k) hC trivial
  have hcr := Cc.rm_ok cs k hC
  obtain ⟨hoi, hO⟩ := ostep Fo os (.rm k) hR trivial
  have hdd := sub_del_del k hGc.1 hGo.1 hS
  have hd := (sub_del_self k hGc.1).trans hS
  unfold PStep
  dsimp only [proxyImpl]
  generalize cache.step cs (.rm k) = pr at hci hcs hcq hcr
  obtain ⟨cs1, orr⟩ := pr
  simp only [grow, out] at hci hcs hcq hcr
  have hS1 := hcs.trans hS
  by_cases hk : orr = .ok
  · subst hk
    have hs := hcr rfl
    simp only
    generalize origin.step os (.rm k) = po at hoi hO
    obtain ⟨os1, oo⟩ := po
    simp only [next, out] at hoi hO
    rcases hO with ⟨ho, ha, hq⟩ | ⟨ho, ha, hq⟩
    · subst ho
      simp only
      exact mk_exact ⟨hoi, hci, by rw [ha]; exact hs.trans hdd⟩ rfl ha
        (fun q => ⟨hq q.1, (hcq q.2).2⟩)
    · subst ho
      simp only
      refine mk_err ⟨hoi, hci, ?_⟩ rfl ha (fun q => hq q.1)
      rcases ha with ha | ha
      · rw [ha]; exact hs.trans hd
      · rw [ha]; exact hs.trans hdd
  · simp only
    exact mk_err ⟨hR, hci, hS1⟩ rfl (Or.inl rfl) (fun q => hk (hcq q.2).1)

/-- every proxycache step, with any failures in origin and cache, keeps the invariant, is exact or
answers `.err` leaving the before- or after-contents, and is exact from quiet states -/
theorem proxy_fstep (s : (proxyImpl origin cache max).σ) (op : Op) (hop : op.WK content)
    (hI : PInv Fo Cc max s) : PStep Fo Cc max s op := by
  obtain ⟨os, cs, b⟩ := s
  cases op with
  | recv k v => exact proxy_recv Fo Cc max os cs b k v hop hI
  | fetch k => exact proxy_fetch Fo Cc max os cs b k hI
  | stat k => exact proxy_stat Fo Cc max os cs b k hI
  | enum a l => exact proxy_enum Fo Cc max os cs b a l hI
  | rm k => exact proxy_rm Fo Cc max os cs b k hI

end Proxy

theorem proxyTouch_ok {content : Bytes → Bytes} {cache : Impl} (Cc : Caches content cache) (max : Nat)
    (cs : cache.σ) (b : ProxyBook) (k : Bytes) (sz : Nat) (h : Cc.Inv cs) :
    Cc.Inv (proxyTouch cache max cs b k sz).1 ∧
    Sub (Cc.abs (proxyTouch cache max cs b k sz).1) (Cc.abs cs) :=
  ⟨(ftouch_ok Cc.toF max cs b k sz h).1, (ftouch_ok Cc.toF max cs b k sz h).2.1⟩

/-- proxycache refines the reference map whenever its origin does and its cache satisfies the cache
contract.  The abstract map is the origin's; the cache only ever holds blobs the origin holds. -/
def proxyRefines {content : Bytes → Bytes} {origin cache : Impl} (Ro : Refines content origin)
    (Cc : Caches content cache) (max : Nat) : Refines content (proxyImpl origin cache max) where
  abs := fun s => Ro.abs s.1
  Inv := fun s => Ro.Inv s.1 ∧ Cc.Inv s.2.1 ∧ Sub (Cc.abs s.2.1) (Ro.abs s.1)
  init_inv := ⟨Ro.init_inv, Cc.init_inv, by
    show SMap.Sub (Cc.abs cache.init) _
    rw [Cc.init_abs]; intro k v h; simp [SMap.get] at h⟩
  init_abs := Ro.init_abs
  good := fun s h => Ro.good s.1 h.1
  step_ok := by
    intro s op h hop
    have p := proxy_fstep Ro.toF Cc.toF max s op hop h
    exact ⟨(p.2.2 ⟨trivial, trivial⟩).1, (p.2.2 ⟨trivial, trivial⟩).2.1, p.1⟩

end Pk.Stores
