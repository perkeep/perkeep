import PkVerif.Model.Ref
import PkVerif.Gen.Facts
/-!
# pkg/blob/ref.go: what each function of the model does

Splitting at the first `-` (`splitDash_spec`, `splitDash_append`), hash names and the order of texts
(`validName_all_gt`, `ltB_names`: names sort before digests), `parse` and `parseUnknown` spelled out
(`parse_spec`, `parseUnknown_spec`) with the two round trips text → ref → text (`toText_of_parse`,
`parse_toText_known`), the digit loops of `equalString` / `hasPrefix` and their closed forms
(`equalStringKnown_eq`, `hasPrefixKnown_eq`), JSON quoting, and the regenerated table `gtbl`.
C20 states its theorems from these; the file-per-blob store (Lemmas/RefFiles) uses the order and the
round trips.
-/
namespace Pk.Ref

theorem splitDash_spec (s n h : Bytes) (hs : splitDash s = some (n, h)) : s = n ++ 45 :: h ∧ 45 ∉ n := by
  induction s generalizing n with
  | nil => cases hs
  | cons c cs ih =>
    rw [splitDash] at hs
    split at hs
    · next hc => cases hs; exact ⟨by rw [hc]; rfl, List.not_mem_nil⟩
    · next hc =>
      split at hs
      · cases hs
      · next n' h' hr =>
        cases hs
        obtain ⟨e, hn⟩ := ih n' hr
        exact ⟨by rw [e]; rfl, fun hm => (List.mem_cons.mp hm).elim (fun e => hc e.symm) hn⟩

theorem splitDash_append (n h : Bytes) (hn : 45 ∉ n) : splitDash (n ++ 45 :: h) = some (n, h) := by
  induction n with
  | nil => simp [splitDash]
  | cons c cs ih =>
    have hc : c ≠ 45 := by intro e; apply hn; simp [e]
    have : 45 ∉ cs := by intro e; apply hn; simp [e]
    simp [splitDash, hc, ih this]

theorem isNameChar_gt (c : Nat) (h : isNameChar c = true) : 45 < c := by
  unfold isNameChar at h
  simp at h
  omega

theorem validName_all_gt (n : Bytes) (h : validDigestName n = true) : ∀ c ∈ n, 45 < c := by
  unfold validDigestName at h
  simp only [Bool.and_eq_true, List.all_eq_true] at h
  intro c hc
  exact isNameChar_gt c (h.2 c hc)

theorem validName_no_dash (n : Bytes) (h : validDigestName n = true) : 45 ∉ n :=
  fun hm => Nat.lt_irrefl _ (validName_all_gt n h 45 hm)

theorem size?_mem (t : Tbl) (name : Bytes) (sz : Nat) (h : t.size? name = some sz) :
    (name, sz) ∈ t.sizes := by
  unfold Tbl.size? at h
  cases hf : t.sizes.find? (fun p => p.1 == name) with
  | none => simp [hf] at h
  | some p =>
    simp [hf] at h
    have hm := List.mem_of_find?_eq_some hf
    have hp := List.find?_some hf
    simp at hp
    obtain ⟨a, b⟩ := p
    simp at hp h
    subst hp h
    exact hm

theorem known_name_valid (t : Tbl) (ht : t.WF) (name : Bytes) (sz : Nat) (h : t.size? name = some sz) :
    validDigestName name = true ∧ 1 ≤ sz := ht _ (size?_mem t name sz h)

/-- names made only of characters above `-`: comparing `n1-…` with `n2-…` is comparing the names -/
theorem ltB_names (n1 n2 x y : Bytes) (h1 : ∀ c ∈ n1, 45 < c) (h2 : ∀ c ∈ n2, 45 < c) (hne : n1 ≠ n2) :
    ltB (n1 ++ 45 :: x) (n2 ++ 45 :: y) = ltB n1 n2 := by
  induction n1 generalizing n2 with
  | nil =>
    cases n2 with
    | nil => exact absurd rfl hne
    | cons c cs => exact ltB_cons_lt (h2 c (List.mem_cons_self ..)) _ _
  | cons c cs ih =>
    cases n2 with
    | nil => exact ltB_cons_gt (h1 c (List.mem_cons_self ..)) _ _
    | cons d ds =>
      rw [List.cons_append, List.cons_append]
      rcases Nat.lt_trichotomy c d with h | rfl | h
      · rw [ltB_cons_lt h, ltB_cons_lt h]
      · rw [ltB_cons_self, ltB_cons_self]
        exact ih ds (fun z hz => h1 z (List.mem_cons_of_mem _ hz))
          (fun z hz => h2 z (List.mem_cons_of_mem _ hz)) (fun e => hne (e ▸ rfl))
      · rw [ltB_cons_gt h, ltB_cons_gt h]

/-- the digit loop of the fixed-size `equalString`: on a string of exactly the right length it decides
equality with the hex text and never indexes out of range -/
theorem eqLoop_spec (sum rest : Bytes) (h : rest.length = 2 * sum.length) :
    eqLoop sum rest = some (decide (rest = hexEnc sum)) := by
  induction sum generalizing rest with
  | nil =>
    cases rest with
    | nil => rfl
    | cons _ _ => cases h
  | cons b bs ih =>
    cases rest with
    | nil => cases h
    | cons c1 rest =>
      cases rest with
      | nil => exact absurd h (by simp only [List.length_cons, List.length_nil]; omega)
      | cons c2 rest =>
        have hl : rest.length = 2 * bs.length := by simp only [List.length_cons] at h; omega
        rw [eqLoop, ih rest hl, hexEnc]
        by_cases h1 : c1 = hexDigit (b / 16)
        · by_cases h2 : c2 = hexDigit (b % 16)
          · simp [h1, h2]
          · simp [h1, h2]
        · simp [h1]

theorem prefixLoop_spec (sum rest : Bytes) (h : rest.length ≤ 2 * sum.length) :
    prefixLoop sum rest = rest.isPrefixOf (hexEnc sum) := by
  induction sum generalizing rest with
  | nil =>
    cases rest with
    | nil => rfl
    | cons _ _ => cases h
  | cons b bs ih =>
    cases rest with
    | nil => rfl
    | cons c1 rest =>
      cases rest with
      | nil => simp [prefixLoop, hexEnc, List.isPrefixOf]
      | cons c2 rest =>
        have hl : rest.length ≤ 2 * bs.length := by simp only [List.length_cons] at h; omega
        rw [prefixLoop, ih rest hl, hexEnc]
        by_cases h1 : c1 = hexDigit (b / 16)
        · by_cases h2 : c2 = hexDigit (b % 16)
          · simp [List.isPrefixOf, h1, h2]
          · simp [List.isPrefixOf, h1, h2]
        · simp [List.isPrefixOf, h1]

theorem cutPrefix_spec (p s : Bytes) :
    (∃ r, cutPrefix p s = some r ∧ s = p ++ r) ∨ (cutPrefix p s = none ∧ ¬ p <+: s) := by
  unfold cutPrefix
  split
  · next hp =>
    obtain ⟨r, rfl⟩ := List.isPrefixOf_iff_prefix.mp hp
    exact Or.inl ⟨_, rfl, by rw [List.drop_left]⟩
  · next hp => exact Or.inr ⟨rfl, fun h => hp (List.isPrefixOf_iff_prefix.mpr h)⟩

/-- what `parseUnknown` returns, spelled out -/
theorem parseUnknown_spec (t : Tbl) (name hex : Bytes) (r : Ref) (h : parseUnknown t name hex = some r) :
    validDigestName name = true ∧ r.name = name ∧
    ((hex.length % 2 = 0 ∧ r.odd = false ∧ hexDec hex = some r.sum ∧ 2 ≤ hex.length ∧ hex.length ≤ t.maxOther * 2) ∨
     (hex.length % 2 = 1 ∧ r.odd = true ∧ hexDec (hex ++ [48]) = some r.sum ∧ hex.length + 1 ≤ t.maxOther * 2)) := by
  unfold parseUnknown at h
  cases hv : validDigestName name with
  | false => rw [hv] at h; cases h
  | true =>
    refine ⟨rfl, ?_⟩
    rw [hv] at h
    by_cases hodd : hex.length % 2 = 0
    · have hb : (hex.length % 2 != 0) = false := by rw [hodd]; rfl
      simp only [hb, Bool.not_true, Bool.false_eq_true, if_false, Bool.or_eq_true, decide_eq_true_eq] at h
      split at h
      · cases h
      · next hlen =>
        split at h
        · cases h
        · next sum hd =>
          cases h
          exact ⟨rfl, Or.inl ⟨hodd, rfl, hd, Nat.le_of_not_lt fun h => hlen (Or.inl h),
            Nat.le_of_not_gt fun h => hlen (Or.inr h)⟩⟩
    · have hb : (hex.length % 2 != 0) = true := bne_iff_ne.mpr hodd
      simp only [hb, Bool.not_true, Bool.false_eq_true, if_false, if_true, Bool.or_eq_true, decide_eq_true_eq,
        List.length_append, List.length_singleton] at h
      split at h
      · cases h
      · next hlen =>
        split at h
        · cases h
        · next sum hd =>
          cases h
          exact ⟨rfl, Or.inr ⟨(Nat.mod_two_eq_zero_or_one _).resolve_left hodd, rfl, hd,
            Nat.le_of_not_gt fun h => hlen (Or.inr h)⟩⟩

theorem parse_spec (t : Tbl) (s : Bytes) (allowAll : Bool) (r : Ref) (h : parse t s allowAll = some r) :
    ∃ name hex, s = name ++ 45 :: hex ∧ 45 ∉ name ∧ r.name = name ∧
      ((∃ size, t.size? name = some size ∧ hex.length = size * 2 ∧ hexDec hex = some r.sum ∧ r.odd = false) ∨
       (t.size? name = none ∧ (allowAll = true ∨ t.testTypes.contains name = true) ∧
        parseUnknown t name hex = some r)) := by
  unfold parse at h
  split at h
  · cases h
  · next name hex hs =>
    obtain ⟨hsplit, hnd⟩ := splitDash_spec s name hex hs
    refine ⟨name, hex, hsplit, hnd, ?_⟩
    split at h
    · next hz =>
      split at h
      · next hcond => exact ⟨(parseUnknown_spec t name hex r h).2.1, Or.inr ⟨hz, by simpa using hcond, h⟩⟩
      · cases h
    · next size hz =>
      split at h
      · cases h
      · next hlen =>
        split at h
        · cases h
        · next sum hd =>
          cases h
          exact ⟨rfl, Or.inl ⟨size, hz, by simpa using hlen, hd, rfl⟩⟩

theorem indexDash_append (n h : Bytes) (hn : 45 ∉ n) : indexDash (n ++ 45 :: h) = some n.length := by
  induction n with
  | nil => simp [indexDash]
  | cons c cs ih =>
    have hc : c ≠ 45 := by intro e; apply hn; simp [e]
    have : 45 ∉ cs := by intro e; apply hn; simp [e]
    simp [indexDash, hc, ih this]

theorem toText_known (r : Ref) (h : r.odd = false) : toText r = r.name ++ 45 :: hexEnc r.sum := by
  simp [toText, h]

theorem text_length (n sum : Bytes) : (n ++ 45 :: hexEnc sum).length = n.length + 1 + 2 * sum.length := by
  simp only [List.length_append, List.length_cons, hexEnc_length]; omega

theorem equalStringKnown_eq (r : Ref) (s : Bytes) :
    equalStringKnown r s = some (decide (s = r.name ++ 45 :: hexEnc r.sum)) := by
  unfold equalStringKnown
  split
  · next hl =>
    rw [decide_eq_false]
    rintro rfl
    rw [text_length] at hl
    exact absurd rfl (bne_iff_ne.mp hl)
  · next hl =>
    have hl : s.length = r.name.length + 1 + 2 * r.sum.length := by simpa using hl
    rcases cutPrefix_spec (r.name ++ [45]) s with ⟨rest, hc, rfl⟩ | ⟨hc, hnp⟩
    · rw [hc]
      simp only [List.append_assoc, List.singleton_append]
      rw [eqLoop_spec]
      · simp only [List.append_cancel_left_eq, List.cons.injEq, true_and]
      · simp only [List.length_append, List.length_cons, List.length_nil] at hl; omega
    · rw [hc, decide_eq_false]
      rintro rfl
      exact hnp ⟨hexEnc r.sum, by simp⟩

theorem hasPrefixKnown_eq (r : Ref) (s : Bytes) (hpos : 1 ≤ r.sum.length) :
    hasPrefixKnown r s =
      some (s.isPrefixOf (r.name ++ 45 :: hexEnc r.sum) && decide (r.name.length + 1 < s.length)) := by
  have hT := text_length r.name r.sum
  -- every branch answers `some b`; what is left is a statement about prefixes
  have key : ∀ b : Bool, (b = true ↔ s <+: r.name ++ 45 :: hexEnc r.sum ∧ r.name.length + 1 < s.length) →
      some b = some (s.isPrefixOf (r.name ++ 45 :: hexEnc r.sum) && decide (r.name.length + 1 < s.length)) := by
    intro b hb
    rw [Option.some.injEq, Bool.eq_iff_iff, hb, Bool.and_eq_true, decide_eq_true_iff,
      List.isPrefixOf_iff_prefix]
  unfold hasPrefixKnown
  simp only [equalStringKnown_eq]
  by_cases hgt : s.length > r.name.length + 1 + 2 * r.sum.length
  · rw [if_pos hgt]
    refine key false ⟨nofun, fun ⟨hp, _⟩ => ?_⟩
    have := hp.length_le
    rw [hT] at this
    exact absurd hgt (Nat.not_lt.mpr this)
  · rw [if_neg hgt]
    by_cases heq : s.length = r.name.length + 1 + 2 * r.sum.length
    · rw [if_pos (beq_iff_eq.mpr heq)]
      refine key _ ?_
      rw [decide_eq_true_iff]
      constructor
      · rintro rfl; exact ⟨List.prefix_refl _, by omega⟩
      · exact fun ⟨hp, _⟩ => hp.eq_of_length (by rw [hT]; exact heq)
    · rw [if_neg (fun h => heq (beq_iff_eq.mp h))]
      rcases cutPrefix_spec (r.name ++ [45]) s with ⟨rest, hc, rfl⟩ | ⟨hc, hnp⟩
      · rw [hc]
        cases rest with
        | nil =>
          refine key false ⟨nofun, fun ⟨_, hlen⟩ => ?_⟩
          rw [List.append_nil, List.length_append] at hlen
          exact (Nat.lt_irrefl _ hlen).elim
        | cons c cs =>
          have hrl : (c :: cs).length ≤ 2 * r.sum.length := by
            simp only [List.length_append, List.length_cons, List.length_nil] at hgt ⊢; omega
          simp only [List.isEmpty_cons, Bool.false_eq_true, if_false]
          refine key _ ?_
          rw [prefixLoop_spec _ _ hrl, List.isPrefixOf_iff_prefix,
            ← List.singleton_append (l := hexEnc r.sum), ← List.append_assoc, List.prefix_append_right_inj]
          exact ⟨fun h => ⟨h, by simp⟩, And.left⟩
      · rw [hc]
        refine key false ⟨nofun, fun ⟨⟨u, hu⟩, hlen⟩ => (hnp ?_).elim⟩
        have h1 : r.name ++ [45] <+: s ++ u := by rw [hu]; exact ⟨hexEnc r.sum, by simp⟩
        exact List.prefix_of_prefix_length_le h1 ⟨u, rfl⟩ (by simp; omega)

theorem unmarshalJSON_quoted (t : Tbl) (x : Bytes) :
    unmarshalJSON t (34 :: (x ++ [34])) = (parseBytes t x).map some := by
  have hl : (34 :: (x ++ [34])).getLast? = some 34 := by
    rw [← List.cons_append, List.getLast?_concat]
  have hd : ((34 :: (x ++ [34])).drop 1).dropLast = x := by
    rw [List.drop_one, List.tail_cons, List.dropLast_concat]
  unfold unmarshalJSON
  rw [if_neg (by simp), if_neg (by simp [hl]), hd]
  cases parseBytes t x <;> rfl

/-- the text of whatever `parse` accepts is the input: text → ref → text is the identity
(all strings, both `Parse` and `ParseKnown`, supported and unknown hash names, odd digests included) -/
theorem toText_of_parse (t : Tbl) (s : Bytes) (allowAll : Bool) (r : Ref)
    (h : parse t s allowAll = some r) : toText r = s := by
  obtain ⟨name, hex, rfl, _, hn, hk | ⟨_, _, hu⟩⟩ := parse_spec t _ allowAll r h
  · obtain ⟨_, _, _, hd, hodd⟩ := hk
    rw [toText_known r hodd, hn, (hexEnc_hexDec _ _ hd).1]
  · obtain ⟨_, _, ⟨_, hodd, hd, _⟩ | ⟨_, hodd, hd, _⟩⟩ := parseUnknown_spec t name hex r hu
    · rw [toText_known r hodd, hn, (hexEnc_hexDec _ _ hd).1]
    · simp only [toText, hodd, if_true, hn, (hexEnc_hexDec _ _ hd).1]
      rw [← List.cons_append, ← List.append_assoc, List.dropLast_concat]

/-- the ref computed for bytes by a supported hash (name in the table, digest of the table's size)
prints to a text that both `Parse` and `ParseKnown` map back to it -/
theorem parse_toText_known (t : Tbl) (ht : t.WF) (r : Ref) (hr : WFKnown t r) (allowAll : Bool) :
    parse t (toText r) allowAll = some r := by
  obtain ⟨hsz, hb, hodd⟩ := hr
  obtain ⟨name, sum, odd⟩ := r
  cases hodd
  have hnd := validName_no_dash _ (known_name_valid t ht _ _ hsz).1
  rw [toText_known _ rfl]
  unfold parse
  simp only [splitDash_append _ _ hnd, hsz, hexEnc_length, Nat.mul_comm 2, bne_self_eq_false,
    Bool.false_eq_true, if_false, hexDec_hexEnc _ hb]

/-- the tables of ref.go as regenerated from /repo -/
def gtbl : Tbl := ⟨Gen.refSizes, Gen.testRefTypes, Gen.maxOtherDigestLen⟩

end Pk.Ref
