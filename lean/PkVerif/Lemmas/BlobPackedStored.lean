import PkVerif.Lemmas.BlobPackedPack
/-!
# Lemmas for C04: what a pack stores – the zips and their order, the `w:` rows, and which zips
`large` holds afterwards; each by the rule for the loop
-/
namespace Pk.BP
open Pk Pk.SMap
variable {C : Ref → Bytes}

def bytesOf (C : Ref → Bytes) : List Ref → Bytes
  | [] => []
  | r :: rs => C r ++ bytesOf C rs

theorem bytesOf_append (C : Ref → Bytes) (a b : List Ref) : bytesOf C (a ++ b) = bytesOf C a ++ bytesOf C b := by
  induction a with
  | nil => rfl
  | cons r rs ih => simp [bytesOf, ih]

theorem concatData_eq : ∀ (w : List (Ref × Bytes)), (∀ p ∈ w, p.2 = C p.1) →
    concatData w = bytesOf C (w.map (·.1))
  | [], _ => rfl
  | (r, v) :: rest, h => by
    simp only [concatData, List.map_cons, bytesOf]
    have hv : v = C r := h (r, v) (by simp)
    rw [concatData_eq rest (fun p hp => h p (List.mem_cons_of_mem _ hp)), hv]

theorem running_mkEntries : ∀ (w : List (Ref × Bytes)) (o : Nat), Running (mkEntries w o) o (o + (concatData w).length)
  | [], o => by simp [mkEntries, Running, concatData]
  | (r, v) :: rest, o => by
    simp only [mkEntries, Running, concatData, List.length_append, true_and]
    have := running_mkEntries rest (o + v.length)
    rwa [Nat.add_assoc] at this

theorem slice_mid (a b c : Bytes) : slice (a ++ (b ++ c)) a.length b.length = b := by
  simp [slice]

theorem chain_snoc_rec {zs : List ZipRec} (hc : Chain zs 0 0) (zr : Ref) (len ds zsz : Nat) :
    Chain (zs ++ [⟨zr, sumLen zs, zs.length, len, ds, zsz⟩]) 0 0 :=
  (chain_append zs _ 0 0).mpr ⟨hc, by simp, by simp, trivial⟩

theorem packLoop_zips (env : PackEnv) (nameOK : Bool) (tbl : List Chunk) (whole : Ref) (wsz : Nat)
    (fuel : Nat) (s : St) (bud : Budget) (remain : List Ref) (lays : List ZipLayout) (h : Inv C s) (ht : TblOK C s tbl) :
    let res := packLoop env nameOK tbl whole wsz fuel s bud remain 0 0 none lays 0 0 []
    (∀ p ∈ res.zips, GoodZip C env.c.zipMax (bytesOf C remain) whole wsz res.s p) ∧ Chain res.zips 0 0 ∧
    (res.ok = true → sumLen res.zips = (bytesOf C remain).length) := by
  -- the loop invariant: the zips stored so far are good and cover the bytes of the chunks consumed so far
  refine packLoop_rule env nameOK tbl whole wsz
    (fun s' remain' zs => ∃ consumed, remain = consumed ++ remain' ∧ sumLen zs = (bytesOf C consumed).length ∧
      (∀ p ∈ zs, GoodZip C env.c.zipMax (bytesOf C remain) whole wsz s' p) ∧ Chain zs 0 0)
    (fun s' ok zs => (∀ p ∈ zs, GoodZip C env.c.zipMax (bytesOf C remain) whole wsz s' p) ∧ Chain zs 0 0 ∧
      (ok = true → sumLen zs = (bytesOf C remain).length))
    ?_ ?_ ?_ ?_ fuel s bud remain none lays 0 0 [] h ht ⟨[], rfl, rfl, nofun, trivial⟩
  · rintro s' remain' zs _ ⟨_, _, _, hg, hc⟩
    exact ⟨hg, hc, nofun⟩
  · rintro s' zs _ ⟨consumed, hall, hsum, hg, hc⟩
    rw [List.append_nil] at hall
    exact ⟨fun p hp => (hg p hp).mono (fun _ _ hk => hk), hc, fun _ => by rw [hsum, hall]⟩
  · rintro s' remain' zs trunc lay f l z _ _ ⟨_, _, _, hg, hc⟩ _
    exact ⟨fun p hp => (hg p hp).mono (largeMono_putLarge s' l.ref z), hc, nofun⟩
  · rintro s' remain' zs trunc lay f l z refs h' ht' ⟨consumed, hall, hsum, hg, hc⟩ rdy _
    obtain ⟨hwf, _, hpre, hbytes⟩ := rdy.good h' ht'
    have hz := rdy.zip
    subst hz
    have hdata : concatData f.written = bytesOf C (remain'.take f.written.length) := by
      rw [concatData_eq f.written hbytes, hpre]
    have hsplit : bytesOf C remain = bytesOf C consumed ++
        (bytesOf C (remain'.take f.written.length) ++ bytesOf C (remain'.drop f.written.length)) := by
      rw [hall, bytesOf_append, ← bytesOf_append C (remain'.take _), List.take_append_drop]
    refine ⟨consumed ++ remain'.take f.written.length, ?_, ?_, fun p hp => ?_, chain_snoc_rec hc _ _ _ _⟩
    · rw [hall, List.append_assoc, List.take_append_drop]
    · simp only [sumLen_append, sumLen, buildZip, hdata, bytesOf_append, List.length_append, hsum, Nat.add_zero]
    · rcases List.mem_append.mp hp with hp | hp
      · exact (hg p hp).mono (largeMono_putLarge s' l.ref _)
      · rw [List.mem_singleton.mp hp]
        refine ⟨_, get_putLarge_self s' l.ref _ rdy.fresh, rdy.size, hwf, rfl, rfl, rfl, rfl, rfl, rfl, ?_, ?_, ?_⟩
        · simp only [buildZip, hdata, hsplit, hsum, List.length_append]; omega
        · simp only [buildZip, hdata, hsplit, hsum, slice_mid]
        · simpa [buildZip] using running_mkEntries f.written 0

theorem packFile_zips (env : PackEnv) (s : St) (bud : Budget) (fileRef : Ref)
    (lays : List ZipLayout) (fuel : Nat) (h : Inv C s) :
    let res := packFile env s bud fileRef lays fuel
    (∀ p ∈ res.zips, ∃ W, fileBytes env.K s fileRef = some W ∧
      GoodZip C env.c.zipMax (bytesOf C (chunkRefs env.K s fileRef)) (env.H W) W.length res.s p) ∧
    Chain res.zips 0 0 ∧
    (res.ok = true → sumLen res.zips = (bytesOf C (chunkRefs env.K s fileRef)).length) := by
  dsimp only
  rcases packFile_cases env s bud fileRef lays fuel h with e | ⟨nameOK, tbl, W, ht, hcr, hW, _, e⟩ <;> rw [e]
  · exact ⟨nofun, trivial, nofun⟩
  · have := packLoop_zips (C := C) env nameOK tbl (env.H W) W.length fuel s bud (tbl.map (·.ref)) lays h ht
    rw [hcr]
    exact ⟨fun p hp => ⟨W, hW, this.1 p hp⟩, this.2⟩

/-! ## plain files: the file's bytes are the concatenation of its chunks -/

/-- every data part covers its whole blob from offset 0, every "bytes" part covers its whole sub-tree
from offset 0 (what every file writer of perkeep produces) -/
def simpleParts (K : Ref → Kind) (C : Ref → Bytes) : Nat → List Part → Bool
  | 0, _ => false
  | _ + 1, [] => true
  | fuel + 1, p :: ps =>
    (match p.kind with
     | .blob => p.off == 0 && p.size == (C p.ref).length
     | .bytes =>
       p.off == 0 &&
         (match (K p.ref).parts? with
          | some sub => simpleParts K C fuel sub && p.size == sumSize sub
          | none => false)
     | _ => false) && simpleParts K C fuel ps

theorem simple_denote {s : St} (h : Inv C s) (K : Ref → Kind) :
    ∀ (fuel : Nat) (path : List (Ref × Bytes)) (parts : List Part) (tbl : List Chunk) (W : Bytes),
      simpleParts K C fuel parts = true → scanParts K s fuel path parts = some tbl →
      denoteParts K s fuel parts = some W →
      W = bytesOf C (tbl.map (·.ref)) ∧ W.length = sumSize parts
  | 0, _, _, _, _, hs, _, _ => by simp [simpleParts] at hs
  | fuel + 1, path, [], tbl, W, _, hsc, hd => by
    simp only [scanParts] at hsc; injection hsc with hsc; subst hsc
    simp only [denoteParts] at hd; injection hd with hd; subst hd
    exact ⟨rfl, rfl⟩
  | fuel + 1, path, p :: ps, tbl, W, hs, hsc, hd => by
    simp only [simpleParts, Bool.and_eq_true] at hs
    obtain ⟨hhere, hrest⟩ := hs
    obtain ⟨r, hr, hk⟩ := scanParts_cons hsc
    simp only [denoteParts] at hd
    cases hdr : denoteParts K s fuel ps with
    | none =>
      rw [hdr] at hd
      split at hd
      · rename_i e; cases e
      · cases hd
    | some Wr =>
    obtain ⟨r1, r2⟩ := simple_denote h K fuel path ps r Wr hrest hr hdr
    rcases hk with ⟨hk, hoff, rfl⟩ | ⟨hk, v, sub, a, hv, hkp, ha, rfl⟩
    · rw [hk] at hhere hd
      simp only [Bool.and_eq_true, beq_iff_eq] at hhere
      cases hf : fetch s p.ref with
      | notExist => simp [hf] at hd
      | err => simp [hf] at hd
      | ok v =>
        obtain ⟨_, hv⟩ := fetch_ok h hf
        simp only [hf, hdr, hoff, Nat.zero_add, hhere.2, hv, Nat.le_refl, if_true, Option.some.injEq] at hd
        subst hd
        exact ⟨by simp only [List.map_cons, bytesOf, slice, List.drop_zero, List.take_length, r1],
          by simp only [sumSize, List.length_append, r2, hhere.2, slice, List.drop_zero, List.take_length]⟩
    · rw [hk] at hhere hd
      simp only [hkp, Bool.and_eq_true, beq_iff_eq] at hhere
      obtain ⟨hoff, hsimple, hsz⟩ := hhere
      simp only [hv, hkp] at hd
      cases hds : denoteParts K s fuel sub with
      | none => simp [hds] at hd
      | some Ws =>
        obtain ⟨s1, s2⟩ := simple_denote h K fuel _ sub a Ws hsimple ha hds
        simp only [hds, hdr, hoff, Nat.zero_add, hsz, s2, Nat.le_refl, if_true, Option.some.injEq] at hd
        subst hd
        have hsl : slice Ws 0 (sumSize sub) = Ws := by rw [← s2]; simp [slice]
        rw [hsl]
        exact ⟨by rw [List.map_append, bytesOf_append, ← s1, ← r1], by simp only [sumSize, List.length_append, s2, r2, hsz]⟩

theorem packFile_zips_plain (env : PackEnv) (s : St) (bud : Budget) (fileRef : Ref)
    (lays : List ZipLayout) (fuel : Nat) (h : Inv C s) (W : Bytes) (hW : fileBytes env.K s fileRef = some W)
    (hchunks : W = bytesOf C (chunkRefs env.K s fileRef)) :
    let res := packFile env s bud fileRef lays fuel
    (∀ p ∈ res.zips, GoodZip C env.c.zipMax W (env.H W) W.length res.s p) ∧ Chain res.zips 0 0 ∧
    (res.ok = true → sumLen res.zips = W.length) := by
  obtain ⟨hg, hc, hsum⟩ := packFile_zips (C := C) env s bud fileRef lays fuel h
  rw [← hchunks] at hg hsum
  refine ⟨fun p hp => ?_, hc, hsum⟩
  obtain ⟨W', hW', hgz⟩ := hg p hp
  rw [hW] at hW'
  cases hW'
  exact hgz

/-! ## the `w:` rows a complete pack leaves for its whole ref -/

theorem packLoop_w (env : PackEnv) (nameOK : Bool) (tbl : List Chunk) (whole : Ref) (wsz : Nat)
    (fuel : Nat) (s : St) (bud : Budget) (remain : List Ref) (lays : List ZipLayout) (h : Inv C s) (ht : TblOK C s tbl)
    (hfresh : get s.w whole = none) :
    let res := packLoop env nameOK tbl whole wsz fuel s bud remain 0 0 none lays 0 0 []
    res.ok = true → get res.s.w whole = some ⟨some (wsz, res.zips.length), (res.zips.map toPart).reverse⟩ := by
  -- while the loop runs, `whole` has the part rows of the zips stored so far and no final row
  refine packLoop_rule (C := C) env nameOK tbl whole wsz (fun s' _ zs => get s'.w whole = partsOf zs ∧ Chain zs 0 0)
    (fun s' ok zs => ok = true → get s'.w whole = some ⟨some (wsz, zs.length), (zs.map toPart).reverse⟩)
    (fun _ _ => nofun) (fun _ hp _ => setWhole_partsOf hp.1 _ _) (fun _ _ _ _ => nofun) ?_
    fuel s bud remain none lays 0 0 [] h ht ⟨hfresh, trivial⟩
  rintro s' remain' zs trunc lay f l z refs _ _ ⟨hw, hc⟩ rdy _
  have hz := rdy.zip
  subst hz
  refine ⟨?_, chain_snoc_rec hc _ _ _ _⟩
  simp only [delSmall, commitZip, buildZip, get_ins_self, putLarge_w, hw]
  exact setPart_partsOf hc ⟨l.ref, sumLen zs, zs.length, _, _, _⟩ rfl

theorem packFile_w (env : PackEnv) (s : St) (bud : Budget) (fileRef : Ref)
    (lays : List ZipLayout) (fuel : Nat) (h : Inv C s) (W : Bytes) (hW : fileBytes env.K s fileRef = some W)
    (hfresh : get s.w (env.H W) = none) :
    let res := packFile env s bud fileRef lays fuel
    res.ok = true → get res.s.w (env.H W) = some ⟨some (W.length, res.zips.length), (res.zips.map toPart).reverse⟩ := by
  dsimp only
  rcases packFile_cases env s bud fileRef lays fuel h with e | ⟨nameOK, tbl, W', ht, _, hW', _, e⟩ <;> rw [e]
  · exact nofun
  · rw [hW] at hW'
    cases hW'
    exact packLoop_w (C := C) env nameOK tbl (env.H W) W.length fuel s bud _ lays h ht hfresh

/-! ## which zips are in `large` after a complete pack -/

theorem packFile_large (env : PackEnv) (s : St) (bud : Budget) (fileRef : Ref)
    (lays : List ZipLayout) (fuel : Nat) (h : Inv C s) :
    let res := packFile env s bud fileRef lays fuel
    res.ok = true → ∀ k z, get res.s.large k = some z → get s.large k = some z ∨ ∃ p ∈ res.zips, p.zr = k := by
  dsimp only
  rcases packFile_cases env s bud fileRef lays fuel h with e | ⟨nameOK, tbl, W, ht, _, _, _, e⟩ <;> rw [e]
  · exact nofun
  · refine packLoop_rule (C := C) env nameOK tbl (env.H W) W.length
      (fun s' _ zs => ∀ k z, get s'.large k = some z → get s.large k = some z ∨ ∃ p ∈ zs, p.zr = k)
      (fun s' ok zs => ok = true → ∀ k z, get s'.large k = some z → get s.large k = some z ∨ ∃ p ∈ zs, p.zr = k)
      (fun _ _ => nofun) (fun _ hb _ => hb) (fun _ _ _ _ => nofun) ?_
      fuel s bud _ none lays 0 0 [] h ht (fun _ _ hk => Or.inl hk)
    rintro s' remain' zs trunc lay f l z refs _ _ hb _ _ k0 z0 hk0
    rcases get_putLarge_cases s' l.ref z k0 z0 hk0 with hk | hk
    · rcases hb k0 z0 hk with hh | ⟨p, hp, hpz⟩
      · exact Or.inl hh
      · exact Or.inr ⟨p, List.mem_append_left _ hp, hpz⟩
    · exact Or.inr ⟨_, List.mem_append_right _ (List.mem_singleton.mpr rfl), hk.symm⟩

end Pk.BP
