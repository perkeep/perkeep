import PkVerif.Lemmas.BlobPacked
/-!
# Lemmas for C04: the pack.  One call of `writeAZip` is characterised by its outcome
(`writeAZip_cases`), the loop of `pack` gets a proof rule (`packLoop_rule`), `packFile` and `receive`
their case lemmas; the first use: every state a pack can stop in is invisible to clients.
-/
namespace Pk.BP
open Pk Pk.SMap
variable {C : Ref → Bytes}


def PairsOK (C : Ref → Bytes) (s : St) (l : List (Ref × Bytes)) : Prop :=
  ∀ p ∈ l, p.2 = C p.1 ∧ present s p.1 = true

def TblOK (C : Ref → Bytes) (s : St) (tbl : List Chunk) : Prop := ∀ ch ∈ tbl, PairsOK C s ch.path

theorem PairsOK.snoc {s : St} {l : List (Ref × Bytes)} {r : Ref} {v : Bytes} (h : PairsOK C s l)
    (hf : fetch s r = .ok v) (hi : Inv C s) : PairsOK C s (l ++ [(r, v)]) := by
  intro q hq
  rcases List.mem_append.mp hq with hq | hq
  · exact h q hq
  · obtain ⟨hp, hv⟩ := fetch_ok hi hf
    rw [List.mem_singleton.mp hq]; exact ⟨hv, hp⟩

theorem PairsOK.sameView {s s' : St} {l : List (Ref × Bytes)} (h : PairsOK C s l)
    (v : SameView s s') : PairsOK C s' l := fun p hp => ⟨(h p hp).1, by rw [v.pres]; exact (h p hp).2⟩

theorem TblOK.sameView {s s' : St} {tbl : List Chunk} (h : TblOK C s tbl)
    (v : SameView s s') : TblOK C s' tbl := fun ch hc => (h ch hc).sameView v

theorem lastChunk_mem {tbl : List Chunk} {r : Ref} {ch : Chunk} (h : lastChunk tbl r = some ch) : ch ∈ tbl := by
  have : ∀ (l : List Chunk) (acc : Option Chunk),
      l.foldl (fun acc c => if c.ref = r then some c else acc) acc = some ch → ch ∈ l ∨ acc = some ch := by
    intro l
    induction l with
    | nil => exact fun _ h => Or.inr h
    | cons c rest ih =>
      intro acc h
      rcases ih _ h with hm | he
      · exact Or.inl (List.mem_cons_of_mem _ hm)
      · simp only at he
        split at he
        · exact Or.inl (by rw [← Option.some.inj he]; exact List.mem_cons_self)
        · exact Or.inr he
  exact (this tbl none h).resolve_right nofun

theorem addParents_mem (c : Cfg) : ∀ (ps : List (Ref × Bytes)) (acc : Nat × List Ref × List (Ref × Bytes)),
    ∀ q ∈ (addParents c ps acc).2.2, q ∈ acc.2.2 ∨ q ∈ ps
  | [], _, q, hq => Or.inl hq
  | p :: ps, (a, seen, sbs), q, hq => by
    simp only [addParents] at hq
    split at hq
    · exact (addParents_mem c ps _ q hq).imp_right (List.mem_cons_of_mem _)
    · rcases addParents_mem c ps _ q hq with h | h
      · rcases List.mem_append.mp h with h | h
        · exact Or.inl h
        · exact Or.inr (by rw [List.mem_singleton.mp h]; exact List.mem_cons_self)
      · exact Or.inr (List.mem_cons_of_mem _ h)

/-- how many chunks the next `fill` can write at most: all of them, or those before the first
occurrence of the trunc hint -/
def cut (trunc : Option Ref) (remain : List Ref) : Nat :=
  match trunc with
  | none => remain.length
  | some tr => (remain.takeWhile (fun r => r != tr)).length

theorem cut_cons_ne (trunc : Option Ref) (dr : Ref) (rest : List Ref) (h : trunc ≠ some dr) :
    cut trunc (dr :: rest) = 1 + cut trunc rest := by
  unfold cut
  cases trunc with
  | none => simp; omega
  | some tr =>
    have : dr ≠ tr := fun e => h (by rw [e])
    have hb : (dr != tr) = true := by simp [this]
    simp only [List.takeWhile_cons, hb, if_true, List.length_cons]; omega

theorem cut_le (trunc : Option Ref) (remain : List Ref) : cut trunc remain ≤ remain.length := by
  cases trunc with
  | none => exact Nat.le_refl _
  | some tr => exact (List.takeWhile_prefix _).length_le

theorem fill_spec {c : Cfg} {tbl : List Chunk} {s : St} {trunc : Option Ref} :
    ∀ {remain : List Ref} {approx : Nat} {seen : List Ref} {sbs written : List (Ref × Bytes)} {f : Filled},
    fill c tbl s trunc remain approx seen sbs written = some f →
    ∃ new, f.written = written ++ new ∧ new.map (·.1) = remain.take new.length ∧ new.length ≤ cut trunc remain ∧
      (∀ p ∈ new, fetch s p.1 = .ok p.2) ∧ ∀ q ∈ f.schemaBlobs, q ∈ sbs ∨ ∃ ch ∈ tbl, q ∈ ch.path
  | [], _, _, _, _, f, hf => by
    simp only [fill] at hf; cases hf
    exact ⟨[], by simp, rfl, Nat.zero_le _, nofun, fun q hq => Or.inl hq⟩
  | dr :: rest, approx, seen, sbs, written, f, hf => by
    have stop : ∀ o, some (⟨written, sbs, o⟩ : Filled) = some f →
        ∃ new, f.written = written ++ new ∧ new.map (·.1) = (dr :: rest).take new.length ∧
          new.length ≤ cut trunc (dr :: rest) ∧ (∀ p ∈ new, fetch s p.1 = .ok p.2) ∧
          ∀ q ∈ f.schemaBlobs, q ∈ sbs ∨ ∃ ch ∈ tbl, q ∈ ch.path := fun o e => by
      cases e; exact ⟨[], by simp, rfl, Nat.zero_le _, nofun, fun q hq => Or.inl hq⟩
    by_cases htr : trunc = some dr
    · simp only [fill, htr, if_true] at hf; exact stop _ hf
    cases hch : lastChunk tbl dr with
    | none => simp [fill, htr, hch] at hf
    | some ch =>
    by_cases hov : (addParents c ch.path (approx, seen, sbs)).1 + ch.size + c.manifestApprox > c.zipMax
    · simp only [fill, htr, hch, hov, if_true, if_false] at hf; exact stop _ hf
    cases hv : fetch s dr with
    | notExist => simp [fill, htr, hch, hov, hv] at hf
    | err => simp [fill, htr, hch, hov, hv] at hf
    | ok v =>
    by_cases hlen : v.length ≠ ch.size
    · simp [fill, htr, hch, hov, hv, hlen] at hf
    simp only [fill, htr, hch, hov, hv, hlen, if_false] at hf
    obtain ⟨new, h1, h2, h3, h4, h5⟩ := fill_spec hf
    refine ⟨(dr, v) :: new, by rw [h1, List.append_assoc]; rfl, by simp [h2],
      by rw [cut_cons_ne trunc dr rest htr, List.length_cons]; omega, ?_, fun q hq => ?_⟩
    · intro p hp
      rcases List.mem_cons.mp hp with rfl | hp
      · exact hv
      · exact h4 p hp
    · rcases h5 q hq with h | h
      · exact (addParents_mem c ch.path _ q h).imp_right fun h => ⟨ch, lastChunk_mem hch, h⟩
      · exact Or.inr h

/-- a trunc hint that is the head of `remain` makes `fill` write nothing -/
theorem fill_trunc_head (c : Cfg) (tbl : List Chunk) (s : St) (dr : Ref) (rest : List Ref) (approx : Nat)
    (seen : List Ref) (sbs written : List (Ref × Bytes)) :
    fill c tbl s (some dr) (dr :: rest) approx seen sbs written = some ⟨written, sbs, false⟩ := by
  simp [fill]


/-- the call got past every check: it filled `f`, was given the layout `l`, and goes on to write the
zip `z` -/
structure Ready (env : PackEnv) (tbl : List Chunk) (whole : Ref) (wsz : Nat) (s : St) (remain : List Ref) (n : Nat)
    (trunc : Option Ref) (lay : Option ZipLayout) (f : Filled) (l : ZipLayout) (z : Zip) : Prop where
  fill : fill env.c tbl s trunc remain (env.c.fixedOverhead + env.c.perEntryOverhead) [] [] [] = some f
  lay_eq : lay = some l
  nonempty : env.c.legacy = false → f.written ≠ []
  layout : layoutOK l (concatData f.written) f.schemaBlobs = true
  size : l.size ≤ env.c.zipMax
  zip : z = buildZip l f.written f.schemaBlobs whole wsz n
  fresh : collides s.large l.ref z = false

/-- what each outcome of a call tells about the call: a retry follows a fill whose zip came out too big;
an error leaves the state alone or, when the budget ran out after the first write, with the zip stored
but not indexed; success leaves the zip stored and indexed, and some of its blobs no longer loose -/
def ZipOut.Cases (env : PackEnv) (tbl : List Chunk) (whole : Ref) (wsz : Nat) (s : St) (remain : List Ref) (n wbw : Nat)
    (trunc : Option Ref) (lay : Option ZipLayout) : ZipOut → Prop
  | .retry tr => ∃ f over, fill env.c tbl s trunc remain (env.c.fixedOverhead + env.c.perEntryOverhead) [] [] [] = some f ∧
      0 < over ∧ walkBack f.written.reverse over = some tr
  | .fail s' _ => s' = s ∨ ∃ f l z, Ready env tbl whole wsz s remain n trunc lay f l z ∧ s' = putLarge s l.ref z
  | .stored s' _ zr k len ds zsz => ∃ f l z refs, Ready env tbl whole wsz s remain n trunc lay f l z ∧
      (∀ r ∈ refs, (zipBlobRows l.ref z).any (fun p => p.1 == r) = true) ∧
      s' = delSmall (commitZip (putLarge s l.ref z) l.ref z wbw) refs ∧
      zr = l.ref ∧ k = f.written.length ∧ len = z.data.length ∧ ds = z.dataStart ∧ zsz = z.size

/-- by cases on the checks, in program order (`split` on the unfolded body is ten times dearer: it
simplifies the rest of the body, with its shared `let`s expanded, at every step) -/
theorem writeAZip_cases (env : PackEnv) (nameOK : Bool) (tbl : List Chunk) (whole : Ref) (wsz : Nat)
    (s : St) (bud : Budget) (remain : List Ref) (n wbw : Nat) (trunc : Option Ref) (lay : Option ZipLayout) :
    (writeAZip env nameOK tbl whole wsz s bud remain n wbw trunc lay).1.Cases env tbl whole wsz s remain n wbw trunc lay := by
  have base : ∀ b, (ZipOut.fail s b).Cases env tbl whole wsz s remain n wbw trunc lay := fun _ => Or.inl rfl
  cases nameOK with
  | false => exact base _
  | true =>
  cases hf : fill env.c tbl s trunc remain (env.c.fixedOverhead + env.c.perEntryOverhead) [] [] [] with
  | none => simp only [writeAZip, hf]; exact base _
  | some f =>
  by_cases hempty : (f.written.isEmpty && !env.c.legacy) = true
  · simp only [writeAZip, hf, hempty]; exact base _
  cases lay with
  | none => simp only [writeAZip, hf, hempty]; exact base _
  | some l =>
  cases hlay : layoutOK l (concatData f.written) f.schemaBlobs with
  | false => simp only [writeAZip, hf, hempty, hlay]; exact base _
  | true =>
  by_cases hsize : l.size > env.c.zipMax
  · cases hwb : walkBack f.written.reverse (l.size - env.c.zipMax) with
    | none => simp only [writeAZip, hf, hempty, hlay, hsize, hwb]; exact base _
    | some tr => simp only [writeAZip, hf, hempty, hlay, hsize, hwb]; exact ⟨f, _, hf, Nat.sub_pos_of_lt hsize, hwb⟩
  cases hcoll : collides s.large l.ref (buildZip l f.written f.schemaBlobs whole wsz n) with
  | true => simp only [writeAZip, hf, hempty, hlay, hsize, hcoll]; exact base _
  | false =>
  have rdy : Ready env tbl whole wsz s remain n trunc (some l) f l (buildZip l f.written f.schemaBlobs whole wsz n) :=
    ⟨hf, rfl, fun hleg hw => hempty (by simp [hw, hleg]), hlay, Nat.le_of_not_gt hsize, rfl, hcoll⟩
  cases h1 : bud.take.1 with
  | false => simp only [writeAZip, hf, hempty, hlay, hsize, hcoll, h1]; exact base _
  | true =>
  cases h2 : bud.take.2.take.1 with
  | false => simp only [writeAZip, hf, hempty, hlay, hsize, hcoll, h1, h2]; exact Or.inr ⟨f, l, _, rdy, rfl⟩
  | true =>
    simp only [writeAZip, hf, hempty, hlay, hsize, hcoll, h1, h2]
    obtain ⟨k, hk⟩ := delSmallB_eq (commitZip (putLarge s l.ref (buildZip l f.written f.schemaBlobs whole wsz n)) l.ref
      (buildZip l f.written f.schemaBlobs whole wsz n) wbw) bud.take.2.take.2 (f.written.map (·.1) ++ f.schemaBlobs.map (·.1))
    refine ⟨f, l, _, _, rdy, fun r hr => ?_, hk, rfl, rfl, rfl, rfl, rfl⟩
    simp only [layoutOK, Bool.and_eq_true, decide_eq_true_eq] at hlay
    exact (rows_refs_build l.ref l f.written f.schemaBlobs whole wsz n hlay.1.1 r).mpr
      (List.mem_append.mp (List.mem_of_mem_take hr))

section
variable {env : PackEnv} {tbl : List Chunk} {whole : Ref} {wsz : Nat} {s : St} {remain : List Ref} {n : Nat}
  {trunc : Option Ref} {lay : Option ZipLayout} {f : Filled} {l : ZipLayout} {z : Zip}

theorem Ready.good (rdy : Ready env tbl whole wsz s remain n trunc lay f l z) (h : Inv C s) (ht : TblOK C s tbl) :
    ZipWF C z ∧ (∀ x, (zipBlobRows l.ref z).any (fun p => p.1 == x) = true → present s x = true) ∧
    f.written.map (·.1) = remain.take f.written.length ∧ ∀ p ∈ f.written, p.2 = C p.1 := by
  obtain ⟨new, h1, h2, _, h4, h5⟩ := fill_spec rdy.fill
  rw [List.nil_append] at h1
  have hw : PairsOK C s f.written := fun p hp => by
    obtain ⟨hpr, hv⟩ := fetch_ok h (h4 p (h1 ▸ hp)); exact ⟨hv, hpr⟩
  have hs : PairsOK C s f.schemaBlobs := fun q hq => by
    rcases h5 q hq with hq | ⟨ch, hch, hq⟩
    · cases hq
    · exact ht ch hch q hq
  have hlay := rdy.layout
  simp only [layoutOK, Bool.and_eq_true, decide_eq_true_eq] at hlay
  rw [rdy.zip]
  refine ⟨zipWF_build l _ _ whole wsz n (fun p hp => (hw p hp).1) (fun p hp => (hs p hp).1) rdy.layout, fun x hx => ?_,
    h1 ▸ h2, fun p hp => (hw p hp).1⟩
  rcases (rows_refs_build l.ref l _ _ whole wsz n hlay.1.1 x).mp hx with hm | hm
  · obtain ⟨p, hp, rfl⟩ := List.mem_map.mp hm; exact (hw p hp).2
  · obtain ⟨p, hp, rfl⟩ := List.mem_map.mp hm; exact (hs p hp).2

theorem Ready.sound_putLarge (rdy : Ready env tbl whole wsz s remain n trunc lay f l z) (h : Inv C s) (ht : TblOK C s tbl) :
    Inv C (putLarge s l.ref z) ∧ SameView s (putLarge s l.ref z) :=
  ⟨inv_putLarge h l.ref z (rdy.good h ht).1, sameView_putLarge s l.ref z⟩

theorem Ready.sound_stored (rdy : Ready env tbl whole wsz s remain n trunc lay f l z) (h : Inv C s) (ht : TblOK C s tbl)
    (wbw : Nat) {refs : List Ref} (hrefs : ∀ r ∈ refs, (zipBlobRows l.ref z).any (fun p => p.1 == r) = true) :
    Inv C (delSmall (commitZip (putLarge s l.ref z) l.ref z wbw) refs) ∧
    SameView s (delSmall (commitZip (putLarge s l.ref z) l.ref z wbw) refs) := by
  obtain ⟨h1, v1⟩ := rdy.sound_putLarge h ht
  have h2 := inv_commitZip h1 l.ref z wbw (get_putLarge_self s l.ref z rdy.fresh)
  have v2 := sameView_commitZip (putLarge s l.ref z) l.ref z wbw (fun x hx => by rw [v1.pres]; exact (rdy.good h ht).2.1 x hx)
  refine ⟨inv_delSmall h2 refs, (v1.trans v2).trans (sameView_delSmall h2.ksmall refs fun r hr => ?_)⟩
  simp only [commitZip, isSome_get_setRows, hrefs r hr, Bool.or_true]

end


/-- **proof rule for the loop**, run as `pack` runs it (the counters `nZips`, `wbw` are the number and the
total data length of the zips stored so far).  `P` is the loop invariant, `Q` what is claimed of the
state, the `ok` flag and the zips of the result.  The loop can end without a write (`stop`), with the
final row written (`done`), or in a `writeAZip` call that stored its zip and then failed (`fail`); a
call that succeeds must re-establish `P` (`step`). -/
theorem packLoop_rule (env : PackEnv) (nameOK : Bool) (tbl : List Chunk) (whole : Ref) (wsz : Nat)
    (P : St → List Ref → List ZipRec → Prop) (Q : St → Bool → List ZipRec → Prop)
    (stop : ∀ {s remain zs}, Inv C s → P s remain zs → Q s false zs)
    (done : ∀ {s zs}, Inv C s → P s [] zs → Q (setWhole s whole wsz zs.length) true zs)
    (fail : ∀ {s remain zs trunc lay f l z}, Inv C s → TblOK C s tbl → P s remain zs →
      Ready env tbl whole wsz s remain zs.length trunc lay f l z → Q (putLarge s l.ref z) false zs)
    (step : ∀ {s remain zs trunc lay f l z refs}, Inv C s → TblOK C s tbl → P s remain zs →
      Ready env tbl whole wsz s remain zs.length trunc lay f l z →
      (∀ r ∈ refs, (zipBlobRows l.ref z).any (fun p => p.1 == r) = true) →
      P (delSmall (commitZip (putLarge s l.ref z) l.ref z (sumLen zs)) refs) (remain.drop f.written.length)
        (zs ++ [⟨l.ref, sumLen zs, zs.length, z.data.length, z.dataStart, z.size⟩])) :
    ∀ (fuel : Nat) (s : St) (bud : Budget) (remain : List Ref) (trunc : Option Ref) (lays : List ZipLayout) (t o : Nat)
      (zs : List ZipRec), Inv C s → TblOK C s tbl → P s remain zs →
      let res := packLoop env nameOK tbl whole wsz fuel s bud remain zs.length (sumLen zs) trunc lays t o zs
      Q res.s res.ok res.zips
  | 0, _, _, _, _, _, _, _, _, h, _, hp => stop h hp
  | fuel + 1, s, bud, remain, trunc, lays, t, o, zs, h, ht, hp => by
    have hc := writeAZip_cases env nameOK tbl whole wsz s bud remain zs.length (sumLen zs) trunc lays.head?
    cases hre : remain.isEmpty with
    | true =>
      rw [List.isEmpty_iff.mp hre] at hp
      cases hb : bud.take.1 with
      | true => simp only [packLoop, hre, hb, if_true]; exact done h hp
      | false => simp only [packLoop, hre, hb]; exact stop h hp
    | false =>
      cases hw : (writeAZip env nameOK tbl whole wsz s bud remain zs.length (sumLen zs) trunc lays.head?).1 with
      | fail s' bud' =>
        simp only [packLoop, hre, hw]
        rw [hw] at hc
        rcases hc with rfl | ⟨f, l, z, rdy, rfl⟩
        · exact stop h hp
        · exact fail h ht hp rdy
      | retry tr =>
        simp only [packLoop, hre, hw]
        exact packLoop_rule env nameOK tbl whole wsz P Q stop done fail step fuel s bud remain _ _ _ _ zs h ht hp
      | stored s' bud' zr k len ds zsz =>
        simp only [packLoop, hre, hw]
        rw [hw] at hc
        obtain ⟨f, l, z, refs, rdy, hrefs, rfl, rfl, rfl, rfl, rfl, rfl⟩ := hc
        obtain ⟨h', v'⟩ := rdy.sound_stored h ht (sumLen zs) hrefs
        have e1 : zs.length + 1 = (zs ++ [(⟨l.ref, sumLen zs, zs.length, z.data.length, z.dataStart, z.size⟩ : ZipRec)]).length := by
          simp
        have e2 : sumLen zs + z.data.length =
            sumLen (zs ++ [(⟨l.ref, sumLen zs, zs.length, z.data.length, z.dataStart, z.size⟩ : ZipRec)]) := by
          simp [sumLen_append, sumLen]
        rw [e1, e2]
        exact packLoop_rule env nameOK tbl whole wsz P Q stop done fail step fuel _ bud' _ none lays.tail t _ _ h'
          (ht.sameView v') (step h ht hp rdy hrefs)


theorem scanParts_cons {K : Ref → Kind} {s : St} {fuel : Nat} {path : List (Ref × Bytes)} {p : Part} {ps : List Part}
    {tbl : List Chunk} (hs : scanParts K s (fuel + 1) path (p :: ps) = some tbl) :
    ∃ r, scanParts K s fuel path ps = some r ∧
      ((p.kind = .blob ∧ p.off = 0 ∧ tbl = ⟨p.ref, p.size, path⟩ :: r) ∨
       (p.kind = .bytes ∧ ∃ v sub a, fetch s p.ref = .ok v ∧ (K p.ref).parts? = some sub ∧
          scanParts K s fuel (path ++ [(p.ref, v)]) sub = some a ∧ tbl = a ++ r)) := by
  simp only [scanParts] at hs
  split at hs
  · cases hs
  · cases hs
  · rename_i hk
    split at hs
    · cases hs
    · rename_i hoff
      cases hr : scanParts K s fuel path ps with
      | none => simp [hr] at hs
      | some r =>
        simp only [hr, Option.map_some, Option.some.injEq] at hs
        exact ⟨r, rfl, Or.inl ⟨hk, Decidable.not_not.mp hoff, hs.symm⟩⟩
  · rename_i hk
    split at hs
    · rename_i v sub hv hkp
      split at hs
      · cases hs
      · rename_i a ha
        cases hr : scanParts K s fuel path ps with
        | none => simp [hr] at hs
        | some r =>
          simp only [hr, Option.map_some, Option.some.injEq] at hs
          exact ⟨r, rfl, Or.inr ⟨hk, v, sub, a, hv, hkp, ha, hs.symm⟩⟩
    · cases hs

theorem scanParts_ok {s : St} (h : Inv C s) (K : Ref → Kind) :
    ∀ (fuel : Nat) (path : List (Ref × Bytes)) (parts : List Part) (tbl : List Chunk),
      PairsOK C s path → scanParts K s fuel path parts = some tbl → TblOK C s tbl
  | 0, _, _, _, _, hs => by simp [scanParts] at hs
  | fuel + 1, path, [], tbl, _, hs => by
    simp only [scanParts] at hs; cases hs; exact nofun
  | fuel + 1, path, p :: ps, tbl, hp, hs => by
    obtain ⟨r, hr, hk⟩ := scanParts_cons hs
    have ihr := scanParts_ok h K fuel path ps r hp hr
    intro ch hc
    rcases hk with ⟨_, _, rfl⟩ | ⟨_, v, sub, a, hv, _, ha, rfl⟩
    · rcases List.mem_cons.mp hc with rfl | hc
      · exact hp
      · exact ihr ch hc
    · rcases List.mem_append.mp hc with hc | hc
      · exact scanParts_ok h K fuel _ sub a (hp.snoc hv h) ha ch hc
      · exact ihr ch hc

/-- the data chunks of a file in scan order (what `scanChunks` collects in `pk.dataRefs`) -/
def chunkRefs (K : Ref → Kind) (s : St) (fileRef : Ref) : List Ref :=
  match fetch s fileRef, (K fileRef).parts? with
  | .ok v, some parts =>
    match scanParts K s scanFuel [(fileRef, v)] parts with
    | some tbl => tbl.map (·.ref)
    | none => []
  | _, _ => []

/-- the bytes of the file as the file reader delivers them (`io.Copy(h, pk.fr)`) -/
def fileBytes (K : Ref → Kind) (s : St) (fileRef : Ref) : Option Bytes :=
  match (K fileRef).parts? with
  | some parts => denoteParts K s scanFuel parts
  | none => none

theorem packFile_cases (env : PackEnv) (s : St) (bud : Budget) (fileRef : Ref)
    (lays : List ZipLayout) (fuel : Nat) (h : Inv C s) :
    packFile env s bud fileRef lays fuel = ⟨s, bud, false, 0, 0, [], false⟩ ∨
    ∃ nameOK tbl W, TblOK C s tbl ∧ chunkRefs env.K s fileRef = tbl.map (·.ref) ∧ fileBytes env.K s fileRef = some W ∧
      (get s.w (env.H W)).bind (·.final) = none ∧
      packFile env s bud fileRef lays fuel =
        packLoop env nameOK tbl (env.H W) W.length fuel s bud (tbl.map (·.ref)) 0 0 none lays 0 0 [] := by
  unfold packFile
  simp only
  split
  · rename_i v parts hv hk
    split
    · exact Or.inl rfl
    · rename_i tbl htbl
      split
      · exact Or.inl rfl
      · rename_i W hW
        split
        · exact Or.inl rfl
        · rename_i hfin
          refine Or.inr ⟨_, tbl, W, scanParts_ok h env.K scanFuel _ parts tbl (PairsOK.snoc (l := []) nofun hv h) htbl, ?_, ?_, hfin, rfl⟩
          · unfold chunkRefs; rw [hv, hk]; simp only; rw [htbl]
          · unfold fileBytes; rw [hk]; exact hW
  · exact Or.inl rfl

theorem packFile_sound (env : PackEnv) (s : St) (bud : Budget) (fileRef : Ref)
    (lays : List ZipLayout) (fuel : Nat) (h : Inv C s) :
    let s' := (packFile env s bud fileRef lays fuel).s
    Inv C s' ∧ SameView s s' := by
  dsimp only
  rcases packFile_cases env s bud fileRef lays fuel h with e | ⟨nameOK, tbl, W, ht, _, _, _, e⟩ <;> rw [e]
  · exact ⟨h, SameView.refl s⟩
  · exact packLoop_rule env nameOK tbl _ _ (fun s' _ _ => SameView s s') (fun s' _ _ => Inv C s' ∧ SameView s s')
      (fun h' v => ⟨h', v⟩)
      (fun h' v => ⟨inv_setWhole h' _ _ _, v.trans (sameView_setWhole _ _ _ _)⟩)
      (fun h' ht' v rdy => ⟨(rdy.sound_putLarge h' ht').1, v.trans (rdy.sound_putLarge h' ht').2⟩)
      (fun h' ht' v rdy hrefs => v.trans (rdy.sound_stored h' ht' _ hrefs).2)
      fuel s bud _ none lays 0 0 [] h ht (SameView.refl s)

/-! ## ReceiveBlob changes the visible set by exactly `r` -/

/-- the state after a receive: unchanged (the blob was packed already: acknowledged; or the loose store
failed: not acknowledged), or the blob stored loose, or stored loose and then packed -/
theorem receive_cases (env : PackEnv) (s : St) (bud : Budget) (r : Ref) (v : Bytes) (lays : List ZipLayout) (fuel : Nat) :
    let res := receive env s bud r v lays fuel
    (res.s = s ∧ (res.size = none ∨ res.size ≠ none ∧ (get s.b r).isSome = true)) ∨
    (res.size ≠ none ∧
      (res.s = putSmall s r v ∨ ∃ bud', res.s = (packFile env (putSmall s r v) bud' r lays fuel).s)) := by
  dsimp only
  unfold receive
  simp only
  by_cases hp : (get s.b r).isSome = true
  · simp only [hp, if_true, Bool.true_or]
    split <;> exact Or.inl ⟨rfl, Or.inr ⟨nofun, trivial⟩⟩
  · simp only [hp, Bool.false_eq_true, if_false, Bool.false_or]
    cases ht : bud.take with
    | mk ok bud' =>
      cases ok with
      | false => exact Or.inl ⟨rfl, Or.inl rfl⟩
      | true =>
        simp only
        split
        · split
          · exact Or.inr ⟨nofun, Or.inl rfl⟩
          · exact Or.inr ⟨nofun, Or.inr ⟨bud', rfl⟩⟩
        · exact Or.inr ⟨nofun, Or.inl rfl⟩

theorem receive_sound (env : PackEnv) (s : St) (bud : Budget) (r : Ref) (v : Bytes)
    (lays : List ZipLayout) (fuel : Nat) (h : Inv C s) (hv : v = C r) :
    let res := receive env s bud r v lays fuel
    Inv C res.s ∧ (res.size = none → SameView s res.s) ∧
    (res.size ≠ none → ∀ x, present res.s x = (present s x || x == r)) := by
  dsimp only
  have h1 := inv_putSmall h r v hv
  rcases receive_cases env s bud r v lays fuel with ⟨e, hsz⟩ | ⟨hsz, e⟩
  · rw [e]
    refine ⟨h, fun _ => SameView.refl s, fun hn x => ?_⟩
    rcases hsz with hsz | ⟨_, hp⟩
    · exact absurd hsz hn
    · by_cases hx : x = r
      · subst hx; simp [present, hp]
      · simp [hx]
  · rcases e with e | ⟨bud', e⟩ <;> rw [e]
    · exact ⟨h1, fun hn => absurd hn hsz, fun _ => present_putSmall s r v⟩
    · obtain ⟨h2, v2⟩ := packFile_sound (C := C) env (putSmall s r v) bud' r lays fuel h1
      exact ⟨h2, fun hn => absurd hn hsz, fun _ x => by rw [v2.pres, present_putSmall]⟩

end Pk.BP
