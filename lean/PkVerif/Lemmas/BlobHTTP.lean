import PkVerif.Model.BlobHTTP
import PkVerif.Props.C02
import PkVerif.Props.C20
/-!
# Lemmas for C18 (HTTP blob protocol)

Over a quiescent store (every iteration of a long-poll finds the same map): the enumerate handler and the
client's paging loop (`aft`, `page_short`/`page_full`, `clientLoop_quiescent`); the stat scan and the one-ref
stat request (`statScan_*`, `handleStat_single`); what a receive does to the map; ref texts; the PUT handler
(`putDecision_cases`, `handlePut_cases`); the multipart loop (`multipartStore_spec`); the client's have-cache
(`HaveOK`).
-/
namespace Pk.BlobHTTP
open Pk Pk.SMap Pk.RefMap

theorem enumLimit_range (c : Cfg) (h1 : 1 ≤ c.defaultEnum) (h2 : c.defaultEnum ≤ c.maxEnumerate) (arg : Bytes) :
    1 ≤ enumLimit c arg ∧ enumLimit c arg ≤ c.maxEnumerate := by
  have h3 : 1 ≤ c.maxEnumerate := Nat.le_trans h1 h2
  unfold enumLimit
  split
  · exact ⟨h1, h2⟩
  · split
    · exact ⟨h3, Nat.le_refl _⟩
    · rename_i n _
      by_cases hn : (n = 0 || n > c.maxEnumerate) = true
      · rw [if_pos hn]; exact ⟨h3, Nat.le_refl _⟩
      · rw [if_neg hn]
        simp at hn
        exact ⟨Nat.pos_of_ne_zero hn.1, hn.2⟩

theorem atoi_dec_zero : atoi (natToDec 0) = 0 := by decide

/-- ascending by ref text -/
abbrev PW (E : List (Bytes × Nat)) : Prop := E.Pairwise (fun a b => ltB a.1 b.1 = true)

/-- the entries strictly after a cursor -/
def aft (E : List (Bytes × Nat)) (c : Bytes) : List (Bytes × Nat) := E.filter (fun q => ltB c q.1)

theorem pw_sizes {m : SMap Bytes} (h : KAsc m) : PW (sizes m) := Stores.pw_sizes h

theorem aft_sizes (m : SMap Bytes) (c : Bytes) : aft (sizes m) c = sizes (m.filter (fun p => ltB c p.1)) :=
  (Stores.sizes_filter_key (ltB c) m).symm

theorem enumOf_eq (m : SMap Bytes) (c : Bytes) (n : Nat) : enumOf m c n = (aft (sizes m) c).take n := by
  rw [aft_sizes]; rfl

theorem aft_length_le (E : List (Bytes × Nat)) (c : Bytes) : (aft E c).length ≤ E.length :=
  List.length_filter_le _ _

theorem ltB_nil_left {k : Bytes} (h : k ≠ []) : ltB [] k = true := by
  cases k with
  | nil => exact absurd rfl h
  | cons _ _ => rfl

theorem aft_nil {E : List (Bytes × Nat)} (h : ∀ p ∈ E, p.1 ≠ []) : aft E [] = E := by
  unfold aft
  exact List.filter_eq_self.mpr (fun p hp => ltB_nil_left (h p hp))

/-- for ANY cursor, what lies after it in an ascending list is a suffix -/
theorem aft_eq_drop (E : List (Bytes × Nat)) (h : PW E) (c : Bytes) : ∃ n, aft E c = E.drop n := by
  induction E with
  | nil => exact ⟨0, rfl⟩
  | cons a t ih =>
    by_cases hca : ltB c a.1 = true
    · refine ⟨0, ?_⟩
      have hall : ∀ x ∈ a :: t, ltB c x.1 = true := by
        intro x hx
        cases hx with
        | head => exact hca
        | tail _ hx' => exact ltB_trans _ _ _ hca ((List.pairwise_cons.mp h).1 x hx')
      simp only [List.drop, aft]
      exact List.filter_eq_self.mpr hall
    · obtain ⟨n, hn⟩ := ih (List.pairwise_cons.mp h).2
      refine ⟨n + 1, ?_⟩
      unfold aft at hn ⊢
      simp [List.filter, hca, hn]

/-- what lies after the last element of a prefix of an ascending list is the rest (the pair-list form of
Base/Order's `filter_gt_split`, which needs a total order; pairs ordered by key have none) -/
theorem aft_after_prefix (ini post : List (Bytes × Nat)) (last : Bytes × Nat)
    (h : PW (ini ++ last :: post)) :
    aft (ini ++ last :: post) last.1 = post := by
  unfold aft
  induction ini with
  | nil =>
    have hall : ∀ x ∈ post, ltB last.1 x.1 = true := (List.pairwise_cons.mp h).1
    simp [ltB_irrefl, List.filter_eq_self.mpr hall]
  | cons a t ih =>
    have hal : ltB a.1 last.1 = true := (List.pairwise_cons.mp h).1 last (by simp)
    have : ltB last.1 a.1 = false := ltB_asymm _ _ hal
    simp only [List.cons_append, List.filter_cons, this, Bool.false_eq_true, if_false]
    exact ih (List.pairwise_cons.mp h).2

/-- the cursor moves to the last entry of a page: what remains is what followed the page -/
theorem aft_after_last {E : List (Bytes × Nat)} (h : PW E) (c : Bytes) (ini post : List (Bytes × Nat))
    (last : Bytes × Nat) (hs : aft E c = ini ++ last :: post) : aft E last.1 = post := by
  obtain ⟨n, hn⟩ := aft_eq_drop E h c
  have hE : E = (E.take n ++ ini) ++ last :: post := by
    have := List.take_append_drop n E
    rw [← hn, hs] at this
    simpa [List.append_assoc] using this.symm
  rw [hE] at h ⊢
  exact aft_after_prefix _ _ _ h

theorem mem_aft {E : List (Bytes × Nat)} {c : Bytes} {p : Bytes × Nat} (h : p ∈ aft E c) : p ∈ E :=
  (List.mem_filter.mp h).1

theorem mem_sizes {m : SMap Bytes} {p : Bytes × Nat} (h : p ∈ sizes m) : ∃ q ∈ m, q.1 = p.1 := by
  unfold sizes at h
  obtain ⟨q, hq, rfl⟩ := List.mem_map.mp h
  exact ⟨q, hq, rfl⟩

/-! ## the enumerate handler over a quiescent store -/

theorem pageAfter_nil (limit : Nat) : pageAfter limit [] = [] := by
  unfold pageAfter
  split <;> rfl

/-- with nothing arriving, the long-poll loop answers what a single iteration answers -/
theorem enumLoop_quiescent (w : Nat) (after : Bytes) (limit : Nat) (m : SMap Bytes) (k : Nat) :
    enumLoop w after limit (m :: List.replicate k m) =
      (enumOf m after limit, pageAfter limit (enumOf m after limit)) := by
  induction k with
  | zero =>
    unfold enumLoop
    by_cases h : (w = 0 || !(enumOf m after limit).isEmpty) = true
    · simp only [h, if_true]
    · simp only [h]
      simp at h
      simp [enumLoop, h.2, pageAfter_nil]
  | succ k ih =>
    unfold enumLoop
    by_cases h : (w = 0 || !(enumOf m after limit).isEmpty) = true
    · simp only [h, if_true]
    · simp only [h]
      rw [List.replicate_succ]
      exact ih

/-- the handler with its guard spelled as a proposition -/
theorem handleEnumerateBlobs_eq (c : Cfg) (m0 : SMap Bytes) (later : List (SMap Bytes)) (r : EnumReq) :
    handleEnumerateBlobs c m0 later r =
      if r.maxwait ≠ [] ∧ atoi r.maxwait ≠ 0 ∧ r.after ≠ [] then .badRequest
      else .ok (enumLoop (waitSeconds c r.maxwait) r.after (enumLimit c r.limit) (m0 :: later)).1
        (enumLoop (waitSeconds c r.maxwait) r.after (enumLimit c r.limit) (m0 :: later)).2 := by
  unfold handleEnumerateBlobs
  simp only [Bool.and_eq_true, decide_eq_true_eq, bne_iff_ne, and_assoc]

/-- the handler's answer to the client's request over a quiescent store: never a 400 (the client
sends a wait only with an empty cursor), the page is the reference map's, continueAfter iff full -/
theorem handle_client_req (c : Cfg) (m : SMap Bytes) (k : Nat) (cur batch : Bytes) (waitSec : Nat) :
    handleEnumerateBlobs c m (List.replicate k m) ⟨cur, batch, natToDec (if cur = [] then waitSec else 0)⟩ =
      .ok (enumOf m cur (enumLimit c batch)) (pageAfter (enumLimit c batch) (enumOf m cur (enumLimit c batch))) := by
  rw [handleEnumerateBlobs_eq, enumLoop_quiescent, if_neg]
  intro ⟨_, h2, h3⟩
  rw [if_neg h3] at h2
  exact h2 atoi_dec_zero

theorem sendItems_cons (okRef : Bytes → Bool) (optLimit n : Nat) (p : Bytes × Nat) (ps : List (Bytes × Nat)) :
    sendItems okRef optLimit n (p :: ps) =
      if !okRef p.1 then ([], .bad)
      else if optLimit = n + 1 then ([p], .stop)
      else (p :: (sendItems okRef optLimit (n + 1) ps).1, (sendItems okRef optLimit (n + 1) ps).2) := rfl

/-- acceptable refs are all sent, up to the `Limit` option -/
theorem sendItems_ok (okRef : Bytes → Bool) (optLimit : Nat) :
    ∀ (l : List (Bytes × Nat)) (n : Nat), (∀ p ∈ l, okRef p.1 = true) → (optLimit = 0 ∨ n < optLimit) →
      sendItems okRef optLimit n l =
        if optLimit = 0 ∨ n + l.length < optLimit then (l, .cont (n + l.length))
        else (l.take (optLimit - n), .stop)
  | [], n, _, hn => (if_pos (show optLimit = 0 ∨ n + 0 < optLimit from hn)).symm
  | p :: ps, n, hok, hn => by
    have hlen : n + (p :: ps).length = n + 1 + ps.length := by
      rw [List.length_cons, Nat.add_assoc, Nat.add_comm 1]
    rw [sendItems_cons, hok p List.mem_cons_self, hlen]
    simp only [Bool.not_true, Bool.false_eq_true, if_false]
    by_cases he : optLimit = n + 1
    · have hc : ¬ (optLimit = 0 ∨ n + 1 + ps.length < optLimit) := fun h =>
        h.elim (fun h0 => Nat.succ_ne_zero n (he.symm.trans h0)) (fun hl => Nat.not_lt.mpr (Nat.le_add_right _ _) (he ▸ hl))
      rw [if_pos he, if_neg hc, he, Nat.add_sub_cancel_left]
      rfl
    · have hn' : optLimit = 0 ∨ n + 1 < optLimit := hn.imp id (fun h => Nat.lt_of_le_of_ne h (Ne.symm he))
      rw [if_neg he, sendItems_ok okRef optLimit ps (n + 1) (fun q hq => hok q (List.mem_cons_of_mem p hq)) hn']
      by_cases hc : optLimit = 0 ∨ n + 1 + ps.length < optLimit
      · rw [if_pos hc, if_pos hc]
      · have hlt : n < optLimit := (hn.resolve_left fun h0 => hc (Or.inl h0))
        have h1 : optLimit - n = (optLimit - (n + 1)) + 1 := (Nat.succ_pred_eq_of_pos (Nat.sub_pos_of_lt hlt)).symm
        rw [if_neg hc, if_neg hc, h1]
        rfl

/-- a page that is not full is the last one: no cursor comes back, and it holds all that was left -/
theorem page_short {rest : List (Bytes × Nat)} {lim : Nat} (h : (rest.take lim).length < lim) :
    pageAfter lim (rest.take lim) = [] ∧ rest.take lim = rest := by
  refine ⟨if_pos h, List.take_of_length_le (Nat.le_of_not_lt fun hlt => ?_)⟩
  rw [List.length_take, Nat.min_eq_left (Nat.le_of_lt hlt)] at h
  exact Nat.lt_irrefl _ h

/-- a full page: the cursor that comes back is the key of its last entry, so what lies after that cursor
is what followed the page -/
theorem page_full {E : List (Bytes × Nat)} (hpw : PW E) (hne : ∀ p ∈ E, p.1 ≠ []) (cur : Bytes) (j : Nat)
    (hj : j < (aft E cur).length) :
    pageAfter (j + 1) ((aft E cur).take (j + 1)) ≠ [] ∧
    aft E (pageAfter (j + 1) ((aft E cur).take (j + 1))) = (aft E cur).drop (j + 1) := by
  have hsplit : aft E cur = (aft E cur).take j ++ (aft E cur)[j] :: (aft E cur).drop (j + 1) := by
    rw [← List.drop_eq_getElem_cons hj, List.take_append_drop]
  have hpa : pageAfter (j + 1) ((aft E cur).take (j + 1)) = (aft E cur)[j].1 := by
    unfold pageAfter
    rw [if_neg (by rw [List.length_take_of_le hj]; exact Nat.lt_irrefl _), List.take_succ_eq_append_getElem hj,
      List.getLast?_concat]
  rw [hpa]
  exact ⟨hne _ (mem_aft (List.getElem_mem hj)), aft_after_last hpw cur _ _ _ hsplit⟩

/-- **the paging lemma**: the client's loop against the handler over a quiescent store, from any
cursor, with any server page size ≥ 1, sends what remains after the cursor – exactly once, in order –
(or its first `optLimit - n` entries), and reports no error -/
theorem clientLoop_quiescent (c : Cfg) (m : SMap Bytes) (hk : KAsc m) (hne : ∀ p ∈ m, p.1 ≠ [])
    (okRef : Bytes → Bool) (hok : ∀ p ∈ m, okRef p.1 = true) (batch : Bytes)
    (hb : 1 ≤ enumLimit c batch) (k waitSec optLimit : Nat) :
    ∀ (fuel : Nat) (cur : Bytes) (n : Nat), (aft (sizes m) cur).length < fuel →
      (optLimit = 0 ∨ n < optLimit) →
      clientEnumLoop (handleEnumerateBlobs c m (List.replicate k m)) okRef batch optLimit waitSec fuel cur n =
        ⟨if optLimit = 0 then aft (sizes m) cur else (aft (sizes m) cur).take (optLimit - n), true⟩ := by
  intro fuel
  induction fuel with
  | zero => intro _ _ h; cases h
  | succ fuel ih =>
    intro cur n hf hn
    have hkey : ∀ p ∈ sizes m, p.1 ≠ [] ∧ okRef p.1 = true := fun p hp => by
      obtain ⟨q, hq, hqk⟩ := mem_sizes hp
      exact hqk ▸ ⟨hne q hq, hok q hq⟩
    obtain ⟨j, hlim⟩ : ∃ j, enumLimit c batch = j + 1 := ⟨_, (Nat.succ_pred_eq_of_pos hb).symm⟩
    have hpage := page_full (pw_sizes hk) (fun p hp => (hkey p hp).1) cur j
    have hmem : ∀ p ∈ aft (sizes m) cur, p ∈ sizes m := fun p hp => mem_aft hp
    unfold clientEnumLoop
    rw [handle_client_req, enumOf_eq, hlim]
    generalize aft (sizes m) cur = rest at hf hpage hmem ⊢
    dsimp only
    rw [sendItems_ok okRef optLimit _ n (fun p hp => (hkey p (hmem p (List.mem_of_mem_take hp))).2) hn]
    by_cases hc : optLimit = 0 ∨ n + (rest.take (j + 1)).length < optLimit
    · rw [if_pos hc]
      dsimp only
      by_cases hshort : (rest.take (j + 1)).length < j + 1
      · -- the last page
        obtain ⟨hpa, hall⟩ := page_short hshort
        rw [hpa, if_pos rfl, hall]
        rw [hall] at hc
        rcases hc with h0 | hc
        · rw [if_pos h0]
        · rw [List.take_of_length_le (Nat.le_sub_of_add_le (Nat.add_comm _ _ ▸ Nat.le_of_lt hc)), ite_self]
      · -- a full page: go on after its last entry
        have hj : j < rest.length := (Nat.le_min.mp (List.length_take ▸ Nat.le_of_not_lt hshort)).2
        obtain ⟨hpa, hnext⟩ := hpage hj
        have hlen : (rest.take (j + 1)).length = j + 1 := List.length_take_of_le hj
        have hfuel : (rest.drop (j + 1)).length < fuel := by
          rw [List.length_drop]
          exact Nat.sub_lt_left_of_lt_add hj (Nat.lt_of_lt_of_le hf
            (Nat.add_comm fuel 1 ▸ Nat.add_le_add_right (Nat.succ_le_succ (Nat.zero_le j)) fuel))
        rw [if_neg hpa, ih _ _ (hnext ▸ hfuel) hc, hnext, hlen]
        by_cases h0 : optLimit = 0
        · simp only [h0, if_true, List.take_append_drop]
        · have e : optLimit - n = (j + 1) + (optLimit - (n + (j + 1))) := by
            rw [Nat.sub_add_eq, Nat.add_sub_cancel' (Nat.le_sub_of_add_le' (Nat.le_of_lt (hlen ▸ hc.resolve_left h0)))]
          simp only [h0, if_false, e, List.take_add]
    · rw [if_neg hc]
      have h0 : optLimit ≠ 0 := fun h => hc (Or.inl h)
      have hle : optLimit - n ≤ j + 1 :=
        Nat.sub_le_iff_le_add'.mpr (Nat.le_trans (Nat.le_of_not_lt fun h => hc (Or.inr h))
          (Nat.add_le_add_left (List.length_take_le (j + 1) rest) n))
      simp only [h0, if_false, List.take_take, Nat.min_eq_left hle]

/-- the map key of a `blobN` value -/
def keyOf (tbl : Ref.Tbl) (v : Bytes) : Option Bytes := (Ref.parse tbl v true).map Ref.toText

theorem mem_addNeed (acc : List Bytes) (k x : Bytes) : x ∈ addNeed acc k ↔ x ∈ acc ∨ x = k := by
  unfold addNeed
  by_cases h : acc.contains k = true
  · rw [if_pos h]
    constructor
    · intro hx; exact Or.inl hx
    · intro hx
      cases hx with
      | inl hx => exact hx
      | inr hx => subst hx; simpa using h
  · rw [if_neg h]; simp

theorem nodup_addNeed {acc : List Bytes} (k : Bytes) (h : acc.Nodup) : (addNeed acc k).Nodup := by
  unfold addNeed
  by_cases hc : acc.contains k = true
  · rw [if_pos hc]; exact h
  · rw [if_neg hc]
    have hk : k ∉ acc := by simpa using hc
    rw [List.nodup_append]
    refine ⟨h, by simp, ?_⟩
    intro a ha b hb
    simp at hb
    subst hb
    intro he; subst he; exact hk ha

theorem statScan_cons {maxStat : Nat} (tbl : Ref.Tbl) {n : Nat} {v : Bytes} (vs acc : List Bytes)
    (hv : v ≠ []) (hn : n ≤ maxStat) :
    statScan maxStat tbl n (v :: vs) acc =
      match Ref.parse tbl v true with
      | none => .err .bogus
      | some r => statScan maxStat tbl (n + 1) vs (addNeed acc (Ref.toText r)) := by
  show (if v = [] then _ else if n > maxStat then _ else _) = _
  rw [if_neg hv, if_neg (Nat.not_lt.mpr hn)]
  rfl

theorem statScan_cons_over {maxStat : Nat} (tbl : Ref.Tbl) {n : Nat} {v : Bytes} (vs acc : List Bytes)
    (hv : v ≠ []) (hn : maxStat < n) : statScan maxStat tbl n (v :: vs) acc = .err .tooMany := by
  show (if v = [] then _ else if n > maxStat then _ else _) = _
  rw [if_neg hv, if_pos hn]

theorem keyOf_some {tbl : Ref.Tbl} {v : Bytes} (h : (keyOf tbl v).isSome = true) :
    ∃ r, Ref.parse tbl v true = some r ∧ keyOf tbl v = some (Ref.toText r) := by
  unfold keyOf at h ⊢
  cases hp : Ref.parse tbl v true with
  | none => rw [hp] at h; cases h
  | some r => exact ⟨r, rfl, rfl⟩

/-- within the cap, a list of parsable non-empty values is scanned to the set of their keys -/
theorem statScan_ok (maxStat : Nat) (tbl : Ref.Tbl) :
    ∀ (vals : List Bytes) (n : Nat) (acc : List Bytes),
      (∀ v ∈ vals, v ≠ [] ∧ (keyOf tbl v).isSome = true) → n + vals.length ≤ maxStat + 1 →
      ∃ need, statScan maxStat tbl n vals acc = .ok need ∧
        (∀ k, k ∈ need ↔ k ∈ acc ∨ ∃ v ∈ vals, keyOf tbl v = some k) ∧ (acc.Nodup → need.Nodup) := by
  intro vals
  induction vals with
  | nil => intro n acc _ _; exact ⟨acc, rfl, by simp, id⟩
  | cons v vs ih =>
    intro n acc hv hlen
    rw [List.length_cons] at hlen
    obtain ⟨hne, hsome⟩ := hv v List.mem_cons_self
    obtain ⟨r, hp, hkv⟩ := keyOf_some hsome
    rw [statScan_cons tbl vs acc hne
      (Nat.le_of_succ_le_succ (Nat.le_trans (Nat.succ_le_succ (Nat.le_add_right n vs.length)) hlen)), hp]
    obtain ⟨need, hs, hmem, hnd⟩ := ih (n + 1) (addNeed acc (Ref.toText r))
      (fun x hx => hv x (List.mem_cons_of_mem v hx)) (by rw [Nat.add_right_comm]; exact hlen)
    refine ⟨need, hs, fun k => ?_, fun h => hnd (nodup_addNeed _ h)⟩
    simp only [hmem k, mem_addNeed, List.mem_cons, or_and_right, exists_or, exists_eq_left, hkv,
      Option.some.injEq, or_assoc, @eq_comm _ k]

/-- beyond the cap: more non-empty values than the cap are refused whatever they are, as too many unless one of
them fails to parse first -/
theorem statScan_over_cases (maxStat : Nat) (tbl : Ref.Tbl) :
    ∀ (vals : List Bytes) (n : Nat) (acc : List Bytes), (∀ v ∈ vals, v ≠ []) → n ≤ maxStat + 1 →
      maxStat + 1 < n + vals.length →
      statScan maxStat tbl n vals acc = .err .tooMany ∨
        (statScan maxStat tbl n vals acc = .err .bogus ∧ ∃ v ∈ vals, Ref.parse tbl v true = none) := by
  intro vals
  induction vals with
  | nil => intro n acc _ h1 h2; exact absurd h2 (Nat.not_lt.mpr h1)
  | cons v vs ih =>
    intro n acc hv h1 h2
    have hne := hv v List.mem_cons_self
    by_cases hn : maxStat < n
    · exact Or.inl (statScan_cons_over tbl vs acc hne hn)
    · rw [statScan_cons tbl vs acc hne (Nat.not_lt.mp hn)]
      cases hp : Ref.parse tbl v true with
      | none => exact Or.inr ⟨rfl, v, List.mem_cons_self, hp⟩
      | some r =>
        exact (ih (n + 1) _ (fun x hx => hv x (List.mem_cons_of_mem v hx)) (Nat.succ_le_succ (Nat.not_lt.mp hn))
          (by rw [Nat.add_right_comm]; exact h2)).imp_right
          fun ⟨h, x, hx, hpx⟩ => ⟨h, x, List.mem_cons_of_mem v hx, hpx⟩

theorem statScan_over (maxStat : Nat) (tbl : Ref.Tbl) :
    ∀ (vals : List Bytes) (n : Nat) (acc : List Bytes), (∀ v ∈ vals, v ≠ []) → n ≤ maxStat + 1 →
      maxStat + 1 < n + vals.length → ∃ e, statScan maxStat tbl n vals acc = .err e :=
  fun vals n acc hv h1 h2 =>
    (statScan_over_cases maxStat tbl vals n acc hv h1 h2).elim (fun h => ⟨_, h⟩) (fun h => ⟨_, h.1⟩)

theorem statScan_over_parsable (maxStat : Nat) (tbl : Ref.Tbl) :
    ∀ (vals : List Bytes) (n : Nat) (acc : List Bytes),
      (∀ v ∈ vals, v ≠ [] ∧ (keyOf tbl v).isSome = true) → n ≤ maxStat + 1 →
      maxStat + 1 < n + vals.length → statScan maxStat tbl n vals acc = .err .tooMany :=
  fun vals n acc hv h1 h2 =>
    (statScan_over_cases maxStat tbl vals n acc (fun v h => (hv v h).1) h1 h2).resolve_right
      fun ⟨_, v, h, hp⟩ => by
        obtain ⟨r, hr, _⟩ := keyOf_some (hv v h).2
        rw [hp] at hr; cases hr

/-- the scan stops at the first absent/empty value: what follows is never looked at -/
theorem statScan_hole (maxStat : Nat) (tbl : Ref.Tbl) (post : List Bytes) :
    ∀ (pre : List Bytes) (n : Nat) (acc : List Bytes),
      statScan maxStat tbl n (pre ++ [] :: post) acc = statScan maxStat tbl n pre acc := by
  intro pre
  induction pre with
  | nil => intro n acc; rfl
  | cons v vs ih =>
    intro n acc
    by_cases hv : v = []
    · subst hv; rfl
    · by_cases hn : maxStat < n
      · rw [List.cons_append, statScan_cons_over tbl _ acc hv hn, statScan_cons_over tbl _ acc hv hn]
      · rw [List.cons_append, statScan_cons tbl _ acc hv (Nat.not_lt.mp hn), statScan_cons tbl _ acc hv (Nat.not_lt.mp hn)]
        cases Ref.parse tbl v true with
        | none => rfl
        | some r => exact ih _ _

theorem mem_statPass (m : SMap Bytes) (need : List Bytes) (k : Bytes) (n : Nat) :
    (k, n) ∈ statPass m need ↔ k ∈ need ∧ ∃ v, get m k = some v ∧ n = v.length := by
  unfold statPass
  rw [List.mem_filterMap]
  constructor
  · rintro ⟨a, ha, h⟩
    cases hg : get m a with
    | none => rw [hg] at h; simp at h
    | some v =>
      rw [hg] at h
      simp at h
      obtain ⟨h1, h2⟩ := h
      subst h1
      exact ⟨ha, v, hg, h2.symm⟩
  · rintro ⟨hk, v, hg, hn⟩
    exact ⟨k, hk, by rw [hg, hn]; rfl⟩

theorem keys_statPass (m : SMap Bytes) (need : List Bytes) :
    (statPass m need).map (·.1) = need.filter (fun k => has m k) := by
  induction need with
  | nil => rfl
  | cons k ks ih =>
    unfold statPass at ih ⊢
    cases hg : get m k with
    | none => simp [List.filterMap_cons, hg, has, ih]
    | some v => simp [List.filterMap_cons, hg, has, ih]

theorem statPass_missing (m : SMap Bytes) (need : List Bytes) :
    statPass m (need.filter (fun k => !has m k)) = [] := by
  induction need with
  | nil => rfl
  | cons k ks ih =>
    cases hg : get m k with
    | none =>
      have : has m k = false := by simp [has, hg]
      simp only [List.filter_cons, this, Bool.not_false, if_true]
      unfold statPass at ih ⊢
      simp [List.filterMap_cons, hg, ih]
    | some v =>
      have : has m k = true := by simp [has, hg]
      simp only [List.filter_cons, this, Bool.not_true, Bool.false_eq_true, if_false]
      exact ih

/-- with nothing arriving, the stat loop answers what a single pass answers -/
theorem statLoop_quiescent (w : Nat) (m : SMap Bytes) :
    ∀ (k : Nat) (need : List Bytes), statLoop w need (m :: List.replicate k m) = statPass m need := by
  intro k
  induction k with
  | zero =>
    intro need
    unfold statLoop
    dsimp only
    split
    · rfl
    · simp [statLoop]
  | succ k ih =>
    intro need
    unfold statLoop
    dsimp only
    split
    · rfl
    · rw [List.replicate_succ, ih, statPass_missing]; simp

/-! ## a stored blob is visible through every read path -/

/-- the keys of an ascending map are distinct: one entry of the enumeration carries the key -/
theorem get_sizes_filter {m : SMap Bytes} (hm : KAsc m) {k v : Bytes} (h : get m k = some v) :
    (sizes m).filter (fun p => p.1 == k) = [(k, v.length)] := by
  obtain ⟨l1, l2, rfl⟩ := List.append_of_mem (get_some_mem h)
  obtain ⟨_, h2, h12⟩ := List.pairwise_append.mp hm
  have e1 : (sizes l1).filter (fun p => p.1 == k) = [] :=
    List.filter_eq_nil_iff.mpr fun p hp => by
      obtain ⟨q, hq, hqk⟩ := mem_sizes hp
      simpa [← hqk] using ltB_ne (h12 q hq (k, v) List.mem_cons_self)
  have e2 : (sizes l2).filter (fun p => p.1 == k) = [] :=
    List.filter_eq_nil_iff.mpr fun p hp => by
      obtain ⟨q, hq, hqk⟩ := mem_sizes hp
      simpa [← hqk] using (ltB_ne (kasc_head_lt h2 q hq)).symm
  have e : sizes (l1 ++ (k, v) :: l2) = sizes l1 ++ (k, v.length) :: sizes l2 := List.map_append
  rw [e, List.filter_append, List.filter_cons, e1, e2, if_pos (beq_self_eq_true k)]
  rfl

/-- the map after a (verified) receive holds the bytes under the key -/
theorem get_next_recv {content : Bytes → Bytes} {m : SMap Bytes} (hm : Good content m) (k v : Bytes)
    (hv : v = content k) : get (next m (.recv k v)) k = some v := by
  rw [Stores.get_next_recv hm hv, if_pos rfl]

theorem get_next_recv_other {m : SMap Bytes} (k v x : Bytes) (hx : x ≠ k) :
    get (next m (.recv k v)) x = get m x := by
  rw [Stores.get_next_recv_any, if_neg hx]

theorem get_next_recv_mono {m : SMap Bytes} (k d x v : Bytes) (h : get m x = some v) :
    get (next m (.recv k d)) x = some v := by
  rw [Stores.get_next_recv_any]
  split
  · rename_i e; rw [← e, h]
  · exact h

/-! ## ref texts (C20: whatever parses is its own canonical text); then PUT, multipart, the have-cache, the one-ref stat -/

/-- `blob.Parse` accepts the text -/
abbrev IsRef (tbl : Ref.Tbl) (v : Bytes) : Prop := (Ref.parse tbl v true).isSome = true

theorem keyOf_of_isRef {tbl : Ref.Tbl} {v : Bytes} (h : IsRef tbl v) : keyOf tbl v = some v := by
  unfold keyOf
  cases hp : Ref.parse tbl v true with
  | none => simp [IsRef, hp] at h
  | some r => simp [Ref.C20_parse_toText tbl v true r hp]

theorem keyOf_eq {tbl : Ref.Tbl} {v k : Bytes} (h : keyOf tbl v = some k) : k = v := by
  unfold keyOf at h
  cases hp : Ref.parse tbl v true with
  | none => simp [hp] at h
  | some r =>
    rw [hp] at h
    simp at h
    rw [← h, Ref.C20_parse_toText tbl v true r hp]

theorem isRef_ne_nil {tbl : Ref.Tbl} {v : Bytes} (h : IsRef tbl v) : v ≠ [] := by
  intro hv
  subst hv
  simp [IsRef, Ref.parse, Ref.splitDash] at h

theorem refOf_of_isRef {tbl : Ref.Tbl} {v : Bytes} (h : IsRef tbl v) : ∃ sup, refOf tbl v = some (v, sup) := by
  unfold refOf
  cases hp : Ref.parse tbl v true with
  | none => simp [IsRef, hp] at h
  | some r => exact ⟨Ref.supported tbl r, by simp [Ref.C20_parse_toText tbl v true r hp]⟩

theorem refOf_eq {tbl : Ref.Tbl} {v k : Bytes} {sup : Bool} (h : refOf tbl v = some (k, sup)) :
    k = v ∧ IsRef tbl v := by
  unfold refOf at h
  cases hp : Ref.parse tbl v true with
  | none => simp [hp] at h
  | some r =>
    rw [hp] at h
    simp at h
    exact ⟨by rw [← h.1, Ref.C20_parse_toText tbl v true r hp], by simp [IsRef, hp]⟩

/-- "the declared Content-Length is over the cap" -/
def overCap (max : Nat) : Option Nat → Bool
  | some n => decide (n > max)
  | none => false

/-- what the PUT handler does once the method and the declared length are fine -/
def putInner (max : Nat) (parses sup : Bool) (mt : Bytes → Bool) (src : Recv.Src) : Recv.Http × Recv.Res :=
  if parses = false then (.badRequest400, .badHash) else
  if sup = false then (.badRequest400, .badHash) else
  match Recv.receive max true mt src with
  | .accepted d => (.noContent204, .accepted d)
  | .corrupt => (.badRequest400, .corrupt)
  | r => (.serverError500, r)

theorem putDecision_eq (max : Nat) (cl : Option Nat) (parses sup : Bool) (mt : Bytes → Bool) (src : Recv.Src) :
    Recv.putDecision max true cl parses sup mt src =
      if overCap max cl = true then (.badRequest400, .tooBig) else putInner max parses sup mt src := by
  cases cl <;> cases parses <;> cases sup <;> rfl

/-- a PUT with an admissible declared length is answered 204 exactly when the ref parses, its hash is
supported and the body is received; every other answer is not a 204 and carries no accepted blob -/
theorem putDecision_cases (max : Nat) (cl : Option Nat) (parses sup : Bool) (mt : Bytes → Bool) (src : Recv.Src) :
    (∃ d, parses = true ∧ sup = true ∧ Recv.receive max true mt src = .accepted d ∧
      Recv.putDecision max true cl parses sup mt src = (.noContent204, .accepted d)) ∨
    ((Recv.putDecision max true cl parses sup mt src).1 ≠ .noContent204 ∧
      ∀ d, (Recv.putDecision max true cl parses sup mt src).2 ≠ .accepted d) := by
  have no : ∀ {r : Recv.Res}, (∀ d, r ≠ .accepted d) →
      ((Recv.Http.badRequest400, r).1 ≠ .noContent204 ∧ ∀ d, (Recv.Http.badRequest400, r).2 ≠ .accepted d) :=
    fun h => ⟨(fun e => by cases e), h⟩
  rw [putDecision_eq]
  cases overCap max cl
  · rw [if_neg Bool.false_ne_true]
    unfold putInner
    cases parses
    · exact Or.inr (no fun d h => by cases h)
    · cases sup
      · exact Or.inr (no fun d h => by cases h)
      · simp only [Bool.true_eq_false, if_false]
        cases hr : Recv.receive max true mt src with
        | accepted d => exact Or.inl ⟨d, trivial, trivial, rfl, rfl⟩
        | corrupt => exact Or.inr (no fun d h => by cases h)
        | _ => exact Or.inr ⟨(fun e => by cases e), fun d h => by cases h⟩
  · exact Or.inr (no fun d h => by cases h)

/-- the PUT handler either stores the body under the ref it parsed and answers 204, or leaves the map alone
and answers something else -/
theorem handlePut_cases (c : Cfg) (tbl : Ref.Tbl) (m : SMap Bytes) (t : Bytes) (cl : Option Nat)
    (mt : Bytes → Bool) (body : Bytes) :
    (∃ k d, refOf tbl t = some (k, true) ∧ Recv.receive c.maxBlob true mt ⟨[body], .eof⟩ = .accepted d ∧
      handlePut c tbl m t cl mt body = (next m (.recv k d), .noContent204)) ∨
    ((handlePut c tbl m t cl mt body).1 = m ∧ (handlePut c tbl m t cl mt body).2 ≠ .noContent204) := by
  unfold handlePut
  cases hr : refOf tbl t with
  | none =>
    rcases putDecision_cases c.maxBlob cl false false mt ⟨[body], .eof⟩ with ⟨_, h, _⟩ | ⟨h, _⟩
    · cases h
    · exact Or.inr ⟨rfl, h⟩
  | some ks =>
    obtain ⟨k, sup⟩ := ks
    dsimp only
    rcases putDecision_cases c.maxBlob cl true sup mt ⟨[body], .eof⟩ with ⟨d, _, rfl, hrecv, hd⟩ | ⟨h1, h2⟩
    · exact Or.inl ⟨k, d, rfl, hrecv, by simp only [hd]⟩
    · refine Or.inr ?_
      generalize Recv.putDecision c.maxBlob true cl true sup mt ⟨[body], .eof⟩ = pd at h1 h2
      obtain ⟨code, res⟩ := pd
      cases res with
      | accepted d => exact absurd rfl (h2 d)
      | _ => exact ⟨rfl, h1⟩

theorem receive_body_accepted {max : Nat} {sup : Bool} {mt : Bytes → Bool} {body d : Bytes}
    (h : Recv.receive max sup mt ⟨[body], .eof⟩ = .accepted d) : d = body ∧ mt body = true := by
  have := (Recv.C02_accept_iff max sup mt ⟨[body], .eof⟩ d).mp h
  simp [Recv.Src.total] at this
  exact ⟨this.2.2.2, this.2.2.1⟩

theorem multipartStore_cons (max : Nat) (m : SMap Bytes) (p : Recv.Part) (ps : List Recv.Part) :
    multipartStore max m (p :: ps) =
      if !p.parses then multipartStore max m ps else
      match Recv.receive max p.supported p.matches_ p.src with
      | .accepted d => multipartStore max (next m (.recv p.key d)) ps
      | _ => m := rfl

theorem multipart_cons (max : Nat) (p : Recv.Part) (ps : List Recv.Part) :
    Recv.multipart max (p :: ps) =
      if !p.parses then Recv.multipart max ps else
      match Recv.receive max p.supported p.matches_ p.src with
      | .accepted d => (p.key, d.length) :: Recv.multipart max ps
      | _ => [] := rfl

/-- the multipart loop over parts whose hash test is sound: the map stays good, nothing is lost, every
listed blob is there with the listed size -/
theorem multipartStore_spec (content : Bytes → Bytes) (max : Nat) :
    ∀ (ps : List Recv.Part) (m : SMap Bytes), Good content m →
      (∀ p ∈ ps, p.parses = true → p.key ≠ [] ∧ ∀ b, p.matches_ b = true → b = content p.key) →
      Good content (multipartStore max m ps) ∧
      (∀ x v, get m x = some v → get (multipartStore max m ps) x = some v) ∧
      (∀ e ∈ Recv.multipart max ps, ∃ v, get (multipartStore max m ps) e.1 = some v ∧ v.length = e.2) := by
  intro ps
  induction ps with
  | nil => intro m hm _; exact ⟨hm, fun _ _ h => h, fun _ he => absurd he List.not_mem_nil⟩
  | cons p ps ih =>
    intro m hm hp
    have hps := fun q hq => hp q (List.mem_cons_of_mem p hq)
    rw [multipartStore_cons, multipart_cons]
    cases hpar : p.parses
    · exact ih m hm hps
    · obtain ⟨hkne, hsound⟩ := hp p List.mem_cons_self hpar
      cases hr : Recv.receive max p.supported p.matches_ p.src with
      | accepted d =>
        -- the part is stored: only the bytes the ref denotes pass the hash test
        have hacc := (Recv.C02_accept_iff max p.supported p.matches_ p.src d).mp hr
        have hd : d = content p.key := hacc.2.2.2.2 ▸ hsound _ hacc.2.2.2.1
        obtain ⟨g, mono, lst⟩ := ih _ (good_next hm (.recv p.key d) ⟨hd, hkne⟩) hps
        refine ⟨g, fun x v h => mono x v (get_next_recv_mono _ _ _ _ h), fun e he => ?_⟩
        cases he with
        | head => exact ⟨d, mono _ _ (get_next_recv hm p.key d hd), rfl⟩
        | tail _ he' => exact lst e he'
      | _ => exact ⟨hm, fun _ _ h => h, fun _ he => absurd he List.not_mem_nil⟩

/-- the cache only ever says what the server has -/
def HaveOK (m : SMap Bytes) (h : Have) : Prop :=
  ∀ k n, h.stat k = some n → ∃ v, get m k = some v ∧ n = v.length

theorem haveOK_none (m : SMap Bytes) : HaveOK m none := by
  intro k n h; simp [Have.stat] at h

theorem haveOK_note {m : SMap Bytes} {h : Have} (hh : HaveOK m h) (k : Bytes) (n : Nat) (v : Bytes)
    (hg : get m k = some v) (hn : n = v.length) : HaveOK m (h.note k n) := by
  cases h with
  | none => exact haveOK_none m
  | some c =>
    intro x nx hx
    simp only [Have.note, Have.stat, get_ins] at hx
    by_cases hxk : x = k
    · subst hxk
      simp at hx
      subst hx
      exact ⟨v, hg, hn⟩
    · simp only [hxk, if_false] at hx
      exact hh x nx hx

theorem haveOK_foldl {m : SMap Bytes} (l : List (Bytes × Nat)) :
    ∀ (h : Have), HaveOK m h → (∀ e ∈ l, ∃ v, get m e.1 = some v ∧ e.2 = v.length) →
      HaveOK m (l.foldl (fun h e => h.note e.1 e.2) h) := by
  induction l with
  | nil => intro h hh _; exact hh
  | cons e es ih =>
    intro h hh hl
    obtain ⟨v, hg, hn⟩ := hl e (by simp)
    exact ih _ (haveOK_note hh e.1 e.2 v hg hn) (fun x hx => hl x (by simp [hx]))

theorem haveOK_mono {m m' : SMap Bytes} {h : Have} (hh : HaveOK m h)
    (hmono : ∀ x v, get m x = some v → get m' x = some v) : HaveOK m' h := by
  intro k n hk
  obtain ⟨v, hg, hn⟩ := hh k n hk
  exact ⟨v, hmono k v hg, hn⟩

theorem statScan_single {maxStat : Nat} (hc : 1 ≤ maxStat) {tbl : Ref.Tbl} {k : Bytes} (hk : IsRef tbl k) :
    statScan maxStat tbl 1 [k] [] = .ok [k] := by
  have hkey := keyOf_of_isRef hk
  obtain ⟨r, hp, hkr⟩ := keyOf_some (by rw [hkey]; rfl)
  rw [hkey] at hkr
  rw [statScan_cons tbl [] [] (isRef_ne_nil hk) hc, hp]
  show Scan.ok (addNeed [] (Ref.toText r)) = _
  rw [← Option.some.inj hkr]
  rfl

/-- a stat request of one ref (any version text, any wait, quiescent store) -/
theorem handleStat_single (c : Cfg) (hc : 1 ≤ c.maxStat) (tbl : Ref.Tbl) (m : SMap Bytes) (j : Nat)
    (k ver mw : Bytes) (hver : ver ≠ []) (hk : IsRef tbl k) :
    handleStat c tbl m (List.replicate j m) ⟨true, ver, [k], mw⟩ = .ok (statPass m [k]) := by
  unfold handleStat
  simp only [Bool.not_true, Bool.false_eq_true, if_false, hver, statScan_single hc hk]
  rw [statLoop_quiescent]

theorem doStat1_eq (c : Cfg) (hc : 1 ≤ c.maxStat) (tbl : Ref.Tbl) (m : SMap Bytes) (j : Nat) (k : Bytes)
    (hk : IsRef tbl k) :
    doStat1 (handleStat c tbl m (List.replicate j m)) k = some (statPass m [k]) := by
  unfold doStat1
  rw [handleStat_single c hc tbl m j k [49] [] (List.cons_ne_nil _ _) hk]

theorem statPass_cons (m : SMap Bytes) (k : Bytes) (ks : List Bytes) :
    statPass m (k :: ks) = statPass m [k] ++ statPass m ks := by
  unfold statPass
  cases hg : get m k <;> simp [List.filterMap_cons, hg]

theorem statPass_single {m : SMap Bytes} {k v : Bytes} (h : get m k = some v) : statPass m [k] = [(k, v.length)] := by
  simp [statPass, h]

/-- what a stat pass reports may be noted in a truthful cache -/
theorem haveOK_foldl_statPass {m : SMap Bytes} {h : Have} (hh : HaveOK m h) (ks : List Bytes) :
    HaveOK m ((statPass m ks).foldl (fun h e => h.note e.1 e.2) h) :=
  haveOK_foldl _ h hh fun e he =>
    let ⟨_, v, hg, hn⟩ := (mem_statPass m ks e.1 e.2).mp he
    ⟨v, hg, hn⟩

/-- the POST step ends in an error, or the response lists the part with its size and the cache notes it -/
theorem clientUploadPost_cases (post : List MPart → SMap Bytes × MultipartResp) (h : Have) (k : Bytes)
    (mt : Bytes → Bool) (body : Bytes) :
    clientUploadPost post h k mt body = ((post [⟨k, mt, body⟩]).1, h, .err) ∨
    ((k, body.length) ∈ (post [⟨k, mt, body⟩]).2.received ∧
      clientUploadPost post h k mt body = ((post [⟨k, mt, body⟩]).1, h.note k body.length, .ok body.length false)) := by
  unfold clientUploadPost
  dsimp only
  cases hf : (post [⟨k, mt, body⟩]).2.received.find? (fun e => e.1 == k) with
  | none => exact Or.inl rfl
  | some e =>
    dsimp only
    by_cases hsz : e.2 ≠ body.length
    · rw [if_pos hsz]; exact Or.inl rfl
    · rw [if_neg hsz]
      have he : e = (k, body.length) := Prod.ext (by simpa using List.find?_some hf) (Decidable.not_not.mp hsz)
      exact Or.inr ⟨he ▸ List.mem_of_find?_eq_some hf, rfl⟩

/-- the ways `Client.Upload` of a ref can end against the stat handler, from a truthful cache: refused or
failed; skipped because the cache has the ref; skipped because the stat reports it (the cache, still
truthful, then notes it); or whatever the POST step does from a truthful cache -/
theorem clientUpload_cases (c : Cfg) (hc : 1 ≤ c.maxStat) (tbl : Ref.Tbl) (m : SMap Bytes)
    (post : List MPart → SMap Bytes × MultipartResp) (h : Have) (hh : HaveOK m h) (k : Bytes) (hk : IsRef tbl k)
    (mt : Bytes → Bool) (body : Bytes) (skipStat : Bool) (r : SMap Bytes × Have × UploadResp)
    (hr : clientUpload c (handleStat c tbl m []) post m h k mt body skipStat = r) :
    r = (m, h, .err) ∨ (∃ v, get m k = some v ∧ r = (m, h, .ok body.length true)) ∨
    (∃ h0 v, HaveOK m h0 ∧ get m k = some v ∧ r = (m, h0.note k body.length, .ok body.length true)) ∨
    (∃ h0, HaveOK m h0 ∧ r = clientUploadPost post h0 k mt body) := by
  subst hr
  unfold clientUpload
  by_cases hbig : body.length > c.maxBlob
  · rw [if_pos hbig]; exact Or.inl rfl
  rw [if_neg hbig]
  cases hst : h.stat k with
  | some n0 =>
    obtain ⟨v, hv, _⟩ := hh k n0 hst
    exact Or.inr (Or.inl ⟨v, hv, rfl⟩)
  | none =>
    dsimp only
    cases skipStat
    · rw [if_neg Bool.false_ne_true, show ([] : List (SMap Bytes)) = List.replicate 0 m from rfl,
        doStat1_eq c hc tbl m 0 k hk]
      dsimp only
      have hh' := haveOK_foldl_statPass hh [k]
      by_cases hany : (statPass m [k]).any (fun e => e.1 == k) = true
      · rw [if_pos hany]
        obtain ⟨e, he, hek⟩ := List.any_eq_true.mp hany
        obtain ⟨_, v, hv, _⟩ := (mem_statPass m [k] e.1 e.2).mp he
        rw [show e.1 = k by simpa using hek] at hv
        exact Or.inr (Or.inr (Or.inl ⟨_, v, hh', hv, rfl⟩))
      · rw [if_neg hany]; exact Or.inr (Or.inr (Or.inr ⟨_, hh', rfl⟩))
    · rw [if_pos rfl]; exact Or.inr (Or.inr (Or.inr ⟨h, hh, rfl⟩))

end Pk.BlobHTTP
