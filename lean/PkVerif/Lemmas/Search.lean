import PkVerif.Model.Search
import PkVerif.Lemmas.Ref
/-!
# Lemmas for C08

Insertion sort and the comparators of the sorts; the collecting callback of `Query`; soundness of the
planner predicates and of the candidate source they pick; `blob.Parse` accepts no proper prefix of a
sha224 ref; `Query` computes its specification (`query_eq_spec`) and returns no blob twice
(`query_nodup`).
-/
namespace Pk.Search
open Pk


theorem filter_filter_of_imp {α : Type} (ψ p : α → Bool) (l : List α) (h : ∀ b ∈ l, ψ b = true → p b = true) :
    (l.filter p).filter ψ = l.filter ψ := by
  rw [List.filter_filter]
  apply List.filter_congr
  intro b hb
  cases hψ : ψ b with
  | false => simp
  | true => simp [h b hb hψ]

theorem ok_of_ite_error {α : Type} {c : Prop} [Decidable c] {e : Err} {x : Except Err α} {r : α}
    (h : (if c then .error e else x) = .ok r) : x = .ok r := by
  split at h
  · cases h
  · exact h


section Sorting
variable {α : Type} (lt : α → α → Bool)

theorem insertBy_perm (x : α) : ∀ l : List α, (insertBy lt x l).Perm (x :: l)
  | [] => by simp [insertBy]
  | y :: l => by
    unfold insertBy
    split
    · exact ((insertBy_perm x l).cons y).trans (List.Perm.swap x y l)
    · exact List.Perm.refl _

theorem isort_perm : ∀ l : List α, (isort lt l).Perm l
  | [] => by simp [isort]
  | x :: l => by
    unfold isort
    exact (insertBy_perm lt x _).trans ((isort_perm l).cons x)

theorem mem_insertBy (x z : α) (l : List α) : z ∈ insertBy lt x l ↔ z = x ∨ z ∈ l := by
  rw [(insertBy_perm lt x l).mem_iff]; simp

theorem mem_isort (z : α) (l : List α) : z ∈ isort lt l ↔ z ∈ l := (isort_perm lt l).mem_iff

theorem isort_length (l : List α) : (isort lt l).length = l.length := (isort_perm lt l).length_eq

/-- without an order nothing moves -/
theorem isort_false : ∀ l : List α, isort (fun _ _ => false) l = l
  | [] => rfl
  | x :: l => by
    unfold isort
    rw [isort_false l]
    cases l <;> simp [insertBy]

/-- what the comparators of `sort.Sort` must satisfy for the sort to be meaningful -/
structure StrictWeak (lt : α → α → Bool) : Prop where
  asymm : ∀ a b, lt a b = true → lt b a = false
  negTrans : ∀ a b c, lt a b = false → lt b c = false → lt a c = false

/-- no element is strictly before an earlier one -/
def SortedBy (l : List α) : Prop := l.Pairwise (fun a b => lt b a = false)

variable {lt}

theorem insertBy_sorted (h : StrictWeak lt) (x : α) : ∀ l : List α, SortedBy lt l → SortedBy lt (insertBy lt x l)
  | [], _ => List.pairwise_singleton _ _
  | y :: l, hl => by
    have hl' := List.pairwise_cons.mp hl
    unfold insertBy
    cases hyx : lt y x with
    | true =>
      exact List.pairwise_cons.mpr ⟨fun z hz => ((mem_insertBy lt x z l).mp hz).elim (· ▸ h.asymm _ _ hyx) (hl'.1 z),
        insertBy_sorted h x l hl'.2⟩
    | false =>
      exact List.pairwise_cons.mpr
        ⟨fun z hz => (List.mem_cons.mp hz).elim (· ▸ hyx) fun hz => h.negTrans _ _ _ (hl'.1 z hz) hyx, hl⟩

theorem isort_sorted (h : StrictWeak lt) : ∀ l : List α, SortedBy lt (isort lt l)
  | [] => by simp [isort, SortedBy]
  | x :: l => by unfold isort; exact insertBy_sorted h x _ (isort_sorted h l)

theorem insertBy_of_ge (x : α) : ∀ l : List α, (∀ z ∈ l, lt z x = false) → insertBy lt x l = x :: l
  | [], _ => rfl
  | y :: l, hz => by simp [insertBy, hz y (by simp)]

theorem filter_insertBy (h : StrictWeak lt) (p : α → Bool) (x : α) :
    ∀ l : List α, SortedBy lt l →
      (insertBy lt x l).filter p = if p x then insertBy lt x (l.filter p) else l.filter p
  | [], _ => by cases hp : p x <;> simp [insertBy, hp]
  | y :: l, hl => by
    have hl' := List.pairwise_cons.mp hl
    have ih := filter_insertBy h p x l hl'.2
    cases hyx : lt y x with
    | true => cases hpy : p y <;> cases hpx : p x <;> simp [insertBy, hyx, hpy, hpx, ih]
    | false =>
      -- nothing that is kept comes before `x`, so `x` is inserted at the front on both sides
      have hge : ∀ z ∈ (y :: l).filter p, lt z x = false := fun z hz => by
        rcases List.mem_cons.mp (List.mem_filter.mp hz).1 with rfl | hz'
        · exact hyx
        · exact h.negTrans _ _ _ (hl'.1 z hz') hyx
      cases hpx : p x <;> simp [insertBy, hyx, hpx, insertBy_of_ge x _ hge]

/-- a stable sort commutes with selecting -/
theorem filter_isort (h : StrictWeak lt) (p : α → Bool) : ∀ l : List α, (isort lt l).filter p = isort lt (l.filter p)
  | [] => by simp [isort]
  | x :: l => by
    simp only [isort, List.filter_cons]
    rw [filter_insertBy h p x _ (isort_sorted h l), filter_isort h p l]
    split <;> simp [isort]

end Sorting

/-! ## the comparators are strict weak orders -/

theorem sw_false {α : Type} : StrictWeak (fun (_ _ : α) => false) := ⟨by simp, by simp⟩

theorem sw_ltRef : StrictWeak ltRef :=
  ⟨fun _ _ h => ltB_asymm _ _ h, fun _ _ _ h1 h2 => ltB_negTrans _ _ _ h1 h2⟩

theorem sw_key (key : BlobMeta → Nat) : StrictWeak (fun a b => decide (key a < key b)) :=
  ⟨fun _ _ h => decide_eq_false (Nat.lt_asymm (of_decide_eq_true h)),
    fun _ _ _ h1 h2 => decide_eq_false (Nat.not_lt.mpr
      (Nat.le_trans (Nat.not_lt.mp (of_decide_eq_false h2)) (Nat.not_lt.mp (of_decide_eq_false h1))))⟩

theorem StrictWeak.flip {α : Type} {lt : α → α → Bool} (h : StrictWeak lt) : StrictWeak (fun a b => lt b a) :=
  ⟨fun a b => h.asymm b a, fun a b c h1 h2 => h.negTrans c b a h2 h1⟩

theorem sw_keyDesc (key : BlobMeta → Nat) : StrictWeak (fun a b => decide (key b < key a)) :=
  (sw_key key).flip

theorem ltTimeRefDesc_false (key : Ref → Nat) (a b : BlobMeta) :
    ltTimeRefDesc key a b = false ↔ key a.ref < key b.ref ∨ (key a.ref = key b.ref ∧ ltB b.ref a.ref = false) := by
  unfold ltTimeRefDesc
  rcases Nat.lt_trichotomy (key a.ref) (key b.ref) with h | h | h
  · simp [h, Nat.lt_asymm h, Nat.ne_of_lt h]
  · simp [h]
  · simp [h, Nat.lt_asymm h, Nat.ne_of_gt h]

/-- (the four cases of a lexicographic order, as in `lessK_trans` and `before_strictTotal` of
`Lemmas/SearchPage`) -/
theorem sw_timeRefDesc (key : Ref → Nat) : StrictWeak (ltTimeRefDesc key) := by
  constructor
  · intro a b h
    rw [ltTimeRefDesc_false]
    unfold ltTimeRefDesc at h
    simp only [Bool.or_eq_true, decide_eq_true_eq, Bool.and_eq_true, beq_iff_eq] at h
    rcases h with h | ⟨h, h'⟩
    · exact Or.inl h
    · exact Or.inr ⟨h.symm, ltB_asymm _ _ h'⟩
  · intro a b c h1 h2
    rw [ltTimeRefDesc_false] at h1 h2 ⊢
    rcases h1 with h1 | ⟨h1, h1'⟩ <;> rcases h2 with h2 | ⟨h2, h2'⟩
    · exact Or.inl (Nat.lt_trans h1 h2)
    · exact Or.inl (h2 ▸ h1)
    · exact Or.inl (h1 ▸ h2)
    · exact Or.inr ⟨h1.trans h2, ltB_negTrans _ _ _ h2' h1'⟩

theorem sw_specLt (w : World) (s : SortT) : StrictWeak (specLt w s) := by
  cases s with
  | blobRefAsc => exact sw_ltRef
  | createdAsc => exact sw_key fun b => w.anyTime b.ref
  | createdDesc | lastModDesc => exact sw_timeRefDesc _
  | _ => exact sw_false

/-! ## the callback of Query -/

/-- whatever the matcher does, what is collected is a selection of the candidates, in their order -/
theorem collect_sublist (m : BlobMeta → St → R) (stopAt : Option Nat) :
    ∀ (l acc : List BlobMeta) (st : St) (r : List BlobMeta), collect m stopAt l acc st = .ok r →
      ∃ l', l'.Sublist l ∧ r = acc.reverse ++ l'
  | [], acc, st, r, h => by
    simp only [collect, Except.ok.injEq] at h
    exact ⟨[], List.Sublist.refl _, by simp [h]⟩
  | b :: bs, acc, st, r, h => by
    unfold collect at h
    cases hm : m b st with
    | error e => simp [hm] at h
    | ok p =>
      obtain ⟨v, st1⟩ := p
      cases v with
      | false =>
        simp only [hm] at h
        obtain ⟨l', hl, hr⟩ := collect_sublist m stopAt bs acc st1 r h
        exact ⟨l', hl.cons b, hr⟩
      | true =>
        simp only [hm] at h
        split at h
        · simp only [Except.ok.injEq] at h
          exact ⟨[b], by simp, by simp [← h]⟩
        · obtain ⟨l', hl, hr⟩ := collect_sublist m stopAt bs (b :: acc) st1 r h
          exact ⟨b :: l', hl.cons_cons b, by simp [hr]⟩

/-- a matcher that computes `ψ` and never fails: without a stop (`k = none`) all `ψ`-candidates are
collected.  A stop bound is written as what is already collected plus `k + 1`, so it is positive and
the induction needs no side condition; exactly `k + 1` more are taken. -/
theorem collect_spec (m : BlobMeta → St → R) (ψ : BlobMeta → Bool)
    (hm : ∀ b st, ∃ st', m b st = .ok (ψ b, st')) :
    ∀ (l acc : List BlobMeta) (st : St) (k : Option Nat),
      collect m (k.map fun k => acc.length + (k + 1)) l acc st =
        .ok (acc.reverse ++ match k with
          | none => l.filter ψ
          | some k => (l.filter ψ).take (k + 1))
  | [], acc, st, k => by cases k <;> simp [collect]
  | b :: bs, acc, st, k => by
    obtain ⟨st1, h1⟩ := hm b st
    unfold collect
    rw [h1]
    cases hψ : ψ b with
    | false => simpa [hψ] using collect_spec m ψ hm bs acc st1 k
    | true =>
      rw [List.filter_cons_of_pos hψ]
      match k with
      | none => simpa using collect_spec m ψ hm bs (b :: acc) st1 none
      | some 0 => simp
      | some (k + 1) =>
        have ih := collect_spec m ψ hm bs (b :: acc) st1 (some k)
        rw [Option.map_some, List.length_cons, Nat.add_assoc, Nat.add_comm 1] at ih
        simp [ih]

/-! ## the planner predicates are sound for the documented meaning -/

section Planner
variable (t : Pk.Ref.Tbl) (w : World)

theorem matchesC_mk_iff (op : Op) (a b : Cons) (f : Flat) (pn : Perm) (fl : FileC) (dr : DirC) (bm : BlobMeta) :
    matchesC t w (.mk op a b f pn fl dr) bm = true ↔
      (op != .none || f.anything || !f.camliType.isEmpty || f.anyCamliType || !pn.isNil || !fl.isNil ||
        !dr.isNil || f.blobSize.isSome || !f.pfx.isEmpty) = true ∧
      (match op with
       | .none => true
       | .and => matchesC t w a bm && matchesC t w b bm
       | .or => matchesC t w a bm || matchesC t w b bm
       | .xor => matchesC t w a bm != matchesC t w b bm
       | .not => !matchesC t w a bm) = true ∧
      (f.camliType.isEmpty || bm.camliType == f.camliType) = true ∧
      (!f.anyCamliType || !bm.camliType.isEmpty) = true ∧
      (pn.isNil || matchesP t w pn bm) = true ∧
      (fl.isNil || matchesF t w fl bm) = true ∧
      (dr.isNil || matchesD t w dr bm) = true ∧
      (!f.blobSize.isSome || optInt f.blobSize bm.size) = true ∧
      (f.pfx.isEmpty || hasPrefix bm.ref f.pfx) = true := by
  simp only [matchesC, Bool.and_eq_true, and_assoc]
  exact Iff.rfl

theorem matchesP_permanode (pn : Perm) (bm : BlobMeta) (h : matchesP t w pn bm = true) :
    bm.camliType = sPermanode := by
  cases pn with
  | nil => simp [matchesP] at h
  | mk p inSet rel relAny relAll =>
    simp only [matchesP, Bool.and_eq_true, and_assoc, beq_iff_eq] at h
    exact h.1

theorem matchesF_file (fl : FileC) (bm : BlobMeta) (h : matchesF t w fl bm = true) : bm.camliType = sFile := by
  cases fl with
  | nil => simp [matchesF] at h
  | mk f pd =>
    simp only [matchesF, Bool.and_eq_true, beq_iff_eq] at h
    exact h.1

/-- onlyMatchesPermanode is right: such a constraint matches permanodes only -/
theorem only_perm : ∀ (c : Cons) (bm : BlobMeta), onlyMatchesPermanode c = true → matchesC t w c bm = true →
    bm.camliType = sPermanode
  | .nil, _, h, _ => by simp [onlyMatchesPermanode] at h
  | .mk op a b f pn fl dr, bm, h, hm => by
    rw [matchesC_mk_iff] at hm
    obtain ⟨_, hop, hct, _, hpn, _, _, _, _⟩ := hm
    simp only [onlyMatchesPermanode, Bool.or_eq_true, Bool.and_eq_true, beq_iff_eq, Bool.not_eq_true'] at h
    rcases h with (hpn' | hct') | ⟨hand, hab⟩
    · simp only [hpn', Bool.false_or] at hpn
      exact matchesP_permanode t w pn bm hpn
    · have : f.camliType.isEmpty = false := by rw [hct']; rfl
      simp only [this, Bool.false_or, beq_iff_eq] at hct
      rw [hct, hct']
    · subst hand
      simp only [Bool.and_eq_true] at hop
      rcases hab with ha | hb
      · exact only_perm a bm ha hop.1
      · exact only_perm b bm hb hop.2

theorem matchesFileByWholeRef_sound : ∀ (c : Cons) (bm : BlobMeta), matchesFileByWholeRef t c = true → matchesC t w c bm = true →
    bm.camliType = sFile
  | .nil, _, h, _ => by simp [matchesFileByWholeRef] at h
  | .mk op a b f pn fl dr, bm, h, hm => by
    rw [matchesC_mk_iff] at hm
    obtain ⟨_, hop, _, _, _, hfl, _, _, _⟩ := hm
    simp only [matchesFileByWholeRef, Bool.or_eq_true, Bool.and_eq_true, beq_iff_eq] at h
    rcases h with ⟨hand, hab⟩ | hf
    · subst hand
      simp only [Bool.and_eq_true] at hop
      rcases hab with ha | hb
      · exact matchesFileByWholeRef_sound a bm ha hop.1
      · exact matchesFileByWholeRef_sound b bm hb hop.2
    · cases fl with
      | nil => simp at hf
      | mk ff pd =>
        simp only [FileC.isNil, Bool.false_or] at hfl
        exact matchesF_file t w _ bm hfl

/-- every current value of an attribute was put there by a claim with that value -/
theorem mem_foldl_applyClaim (cls : List Claim) : ∀ (init : List Str) (v : Str),
    v ∈ cls.foldl applyClaim init → v ∈ init ∨ ∃ c ∈ cls, c.value = v := by
  induction cls with
  | nil => intro init v h; exact Or.inl h
  | cons c cls ih =>
    intro init v h
    simp only [List.foldl_cons] at h
    rcases ih _ v h with h' | ⟨c', hc', hv⟩
    · unfold applyClaim at h'
      cases hk : c.kind <;> simp only [hk] at h'
      · simp only [List.mem_singleton] at h'
        exact Or.inr ⟨c, by simp, h'.symm⟩
      · rcases List.mem_append.mp h' with h'' | h''
        · exact Or.inl h''
        · simp only [List.mem_singleton] at h''
          exact Or.inr ⟨c, by simp, h''.symm⟩
      · split at h'
        · simp at h'
        · exact Or.inl (List.mem_filter.mp h').1
      · exact Or.inl h'
    · exact Or.inr ⟨c', by simp [hc'], hv⟩

theorem mem_attrVals_claim (pn : Ref) (attr v : Str) (atT : Time) (h : v ∈ w.attrVals pn attr atT) :
    ∃ c ∈ w.claims, c.pn = pn ∧ c.attr = attr ∧ c.value = v := by
  unfold World.attrVals at h
  rcases mem_foldl_applyClaim _ [] v h with h' | ⟨c, hc, hv⟩
  · simp at h'
  · have := List.mem_filter.mp hc
    simp only [Bool.and_eq_true, and_assoc, beq_iff_eq] at this
    exact ⟨c, this.1, this.2.1, this.2.2.1, hv⟩

theorem matchesP_value (p : PFlat) (inSet : Cons) (rel : Option RFlat) (ra rl : Cons) (bm : BlobMeta)
    (h : matchesP t w (.mk p inSet rel ra rl) bm = true) (ha : p.attr.isEmpty = false) (hv : p.value.isEmpty = false) :
    p.value ∈ w.attrVals bm.ref p.attr p.atT := by
  simp only [matchesP, Bool.and_eq_true, and_assoc] at h
  obtain ⟨_, hattr, _⟩ := h
  have hvc : p.hasValueConstraint inSet.isNil = true := by simp [PFlat.hasValueConstraint, hv]
  simp only [ha, Bool.false_or, Bool.and_eq_true, hvc, Bool.not_true] at hattr
  obtain ⟨_, hgood, _⟩ := hattr
  obtain ⟨v, hmem⟩ := List.exists_mem_of_length_pos (Nat.pos_of_ne_zero (by
    intro h0; rw [h0] at hgood; simp at hgood))
  obtain ⟨hin, hok⟩ := List.mem_filter.mp hmem
  simp only [PFlat.valueOK, Bool.and_eq_true, and_assoc, hv, Bool.false_or, beq_iff_eq] at hok
  rw [hok.1]
  exact hin

/-- the node type a struct names by itself -/
def leafType : Perm → Option Str
  | .mk p _ _ _ _ => if p.attr == sCamliNodeType && !p.value.isEmpty then some p.value else none
  | .nil => none

theorem matchesPermanodeTypes_mk (op : Op) (a b : Cons) (f : Flat) (pn : Perm) (fl : FileC) (dr : DirC) :
    matchesPermanodeTypes (.mk op a b f pn fl dr) =
      match leafType pn with
      | some v => [v]
      | none =>
        match op with
        | .and => if !(matchesPermanodeTypes a).isEmpty then matchesPermanodeTypes a else matchesPermanodeTypes b
        | .or =>
          if (matchesPermanodeTypes a).isEmpty || (matchesPermanodeTypes b).isEmpty then []
          else matchesPermanodeTypes a ++ matchesPermanodeTypes b
        | _ => [] := by
  cases pn <;> rfl

theorem leafType_sound (pn : Perm) (v : Str) (bm : BlobMeta) (hl : leafType pn = some v)
    (hm : matchesP t w pn bm = true) : w.inTypeSet bm.ref v = true := by
  cases pn with
  | nil => cases hl
  | mk p inSet rel ra rl =>
    unfold leafType at hl
    dsimp only at hl
    by_cases hc : (p.attr == sCamliNodeType && !p.value.isEmpty) = true
    · rw [if_pos hc] at hl
      cases hl
      rw [Bool.and_eq_true, beq_iff_eq, Bool.not_eq_true'] at hc
      have ha : p.attr.isEmpty = false := by rw [hc.1]; rfl
      obtain ⟨cl, hcl, h1, h2, h3⟩ :=
        mem_attrVals_claim w _ _ _ _ (matchesP_value t w p inSet rel ra rl bm hm ha hc.2)
      exact List.any_eq_true.mpr ⟨cl, hcl, by simp [h1, h2, h3, hc.1]⟩
    · rw [if_neg hc] at hl
      cases hl

/-- matchesPermanodeTypes (with the `or` case repaired) is right: a match has, or
had, one of the listed node types -/
theorem types_sound : ∀ (c : Cons) (bm : BlobMeta), matchesC t w c bm = true →
    (matchesPermanodeTypes c).isEmpty = false →
    (matchesPermanodeTypes c).any (fun ty => w.inTypeSet bm.ref ty) = true
  | .nil, _, _, h => by cases h
  | .mk op a b f pn fl dr, bm, hm, hne => by
    rw [matchesC_mk_iff] at hm
    obtain ⟨_, hop, _, _, hpn, _, _, _, _⟩ := hm
    rw [matchesPermanodeTypes_mk] at hne ⊢
    cases hl : leafType pn with
    | some v =>
      have hnn : pn.isNil = false := by cases pn <;> first | cases hl | rfl
      rw [hnn, Bool.false_or] at hpn
      simp only [List.any_cons, List.any_nil, Bool.or_false]
      exact leafType_sound t w pn v bm hl hpn
    | none =>
      rw [hl] at hne
      cases op with
      | and =>
        rw [Bool.and_eq_true] at hop
        cases ha : (matchesPermanodeTypes a).isEmpty with
        | false =>
          simp only [Bool.not_false, if_true]
          exact types_sound a bm hop.1 ha
        | true =>
          simp only [ha, Bool.not_true, Bool.false_eq_true, if_false] at hne ⊢
          exact types_sound b bm hop.2 hne
      | or =>
        cases ha : (matchesPermanodeTypes a).isEmpty with
        | true => simp [ha] at hne
        | false =>
          cases hb' : (matchesPermanodeTypes b).isEmpty with
          | true => simp [ha, hb'] at hne
          | false =>
            simp only [Bool.or_self, Bool.false_eq_true, if_false]
            rw [List.any_append, Bool.or_eq_true]
            rw [Bool.or_eq_true] at hop
            exact hop.imp (fun h => types_sound a bm h ha) (fun h => types_sound b bm h hb')
      | none | xor | not => cases hne

/-- a whole ref given as BlobRefPrefix is the ref of the only blob it can match; `blob.Parse`
accepts no proper prefix of a ref of the world (`prefixExact_of_refsSha224` below: it holds in worlds of sha224 refs) -/
def PrefixExact (t : Pk.Ref.Tbl) (w : World) : Prop :=
  ∀ b ∈ w.blobs, ∀ pfx : Str, refOK t pfx = true → hasPrefix b.ref pfx = true → b.ref = pfx

/-- matchesAtMostOneBlob is right: the ref it returns is the ref of every match -/
theorem one_blob_sound (hx : PrefixExact t w) : ∀ (c : Cons) (bm : BlobMeta) (r : Ref), bm ∈ w.blobs →
    matchesAtMostOneBlob t c = some r → matchesC t w c bm = true → bm.ref = r
  | .nil, _, _, _, h, _ => by simp [matchesAtMostOneBlob] at h
  | .mk op a b f pn fl dr, bm, r, hb, h, hm => by
    rw [matchesC_mk_iff] at hm
    obtain ⟨_, hop, _, _, _, _, _, _, hpx⟩ := hm
    unfold matchesAtMostOneBlob at h
    split at h
    · rename_i hc
      simp only [Bool.and_eq_true, Bool.not_eq_true'] at hc
      simp only [Option.some.injEq] at h
      subst h
      simp only [hc.1, Bool.false_or] at hpx
      exact hx bm hb _ hc.2 hpx
    · split at h
      · rename_i hand
        simp only [beq_iff_eq] at hand
        subst hand
        simp only [Bool.and_eq_true] at hop
        cases ha : matchesAtMostOneBlob t a with
        | some r' =>
          simp only [ha, Option.some.injEq] at h
          subst h
          exact one_blob_sound hx a bm _ hb ha hop.1
        | none =>
          simp only [ha] at h
          exact one_blob_sound hx b bm _ hb h hop.2
      · simp at h

/-- the part of pickCandidateSource after the permanode sources: a textual copy of the `rest` of
`pickSource` in Model/Search.lean, tied to it by `rfl` in `pickSource_eq` -/
def restSrc (t : Pk.Ref.Tbl) (c : Cons) : Src :=
  match matchesAtMostOneBlob t c with
  | some r => .oneBlob r
  | none =>
    if matchesFileByWholeRef t c then .fileMeta
    else match c with
      | .mk _ _ _ f _ _ _ => if f.anyCamliType || !f.camliType.isEmpty then .blobMeta f.camliType else .all
      | .nil => .all

theorem pickSource_eq (c : Cons) (sort : SortT) :
    pickSource t c sort =
      if onlyMatchesPermanode c then
        match sort with
        | .lastModDesc => .lastmod
        | .createdDesc => .created
        | _ => if !(matchesPermanodeTypes c).isEmpty then .types (matchesPermanodeTypes c) else restSrc t c
      else restSrc t c := rfl

theorem rest_sound (hx : PrefixExact t w) (c : Cons) (bm : BlobMeta) (hb : bm ∈ w.blobs)
    (hm : matchesC t w c bm = true) : bm ∈ candidates w (restSrc t c) := by
  unfold restSrc
  cases h1 : matchesAtMostOneBlob t c with
  | some r =>
    simp only [candidates, List.mem_filter, beq_iff_eq]
    exact ⟨hb, one_blob_sound t w hx c bm r hb h1 hm⟩
  | none =>
    simp only
    split
    · rename_i hw
      simp only [candidates, List.mem_filter, beq_iff_eq]
      exact ⟨hb, matchesFileByWholeRef_sound t w c bm hw hm⟩
    · cases c with
      | nil => simpa [candidates] using hb
      | mk op a b f pn fl dr =>
        rw [matchesC_mk_iff] at hm
        obtain ⟨_, _, hct, hany, _, _, _, _, _⟩ := hm
        simp only
        split
        · rename_i hc
          simp only [candidates, List.mem_filter]
          refine ⟨hb, ?_⟩
          cases he : f.camliType.isEmpty with
          | true =>
            simp only [he, Bool.not_true, Bool.or_false] at hc
            simpa [hc] using hany
          | false =>
            simpa [he] using hct
        · simpa [candidates] using hb

/-- **planner soundness, sources that are not pre-sorted**: whatever source pickCandidateSource
chooses among types / one_blob / file_meta / blob_meta / all, it enumerates every matching blob -/
theorem planner_sound_unsorted (hx : PrefixExact t w) (c : Cons) (sort : SortT) (bm : BlobMeta) (hb : bm ∈ w.blobs)
    (hm : matchesC t w c bm = true) (hs : (pickSource t c sort).sorted = false) :
    bm ∈ candidates w (pickSource t c sort) := by
  rw [pickSource_eq] at hs ⊢
  have hrest := rest_sound t w hx c bm hb hm
  split
  · rename_i hon
    simp only [hon, if_true] at hs
    have htypes : bm ∈ candidates w (if (!(matchesPermanodeTypes c).isEmpty) = true
        then Src.types (matchesPermanodeTypes c) else restSrc t c) := by
      split
      · rename_i hty
        simp only [candidates, List.mem_filter]
        exact ⟨hb, types_sound t w c bm hm (by simpa using hty)⟩
      · exact hrest
    cases sort <;> first | exact htypes | (simp [Src.sorted] at hs)
  · exact hrest

theorem restSrc_not_sorted (c : Cons) : (restSrc t c).sorted = false := by
  unfold restSrc
  split
  · rfl
  · split
    · rfl
    · split
      · split <;> rfl
      · rfl

theorem pickSource_sorted (c : Cons) (sort : SortT) (h : (pickSource t c sort).sorted = true) :
    onlyMatchesPermanode c = true ∧
      ((sort = .lastModDesc ∧ pickSource t c sort = .lastmod) ∨ (sort = .createdDesc ∧ pickSource t c sort = .created)) := by
  rw [pickSource_eq] at h ⊢
  cases ho : onlyMatchesPermanode c with
  | false => simp [ho, restSrc_not_sorted] at h
  | true =>
    simp only [ho, if_true, true_and] at h ⊢
    cases sort
    case lastModDesc => exact Or.inl ⟨rfl, rfl⟩
    case createdDesc => exact Or.inr ⟨rfl, rfl⟩
    all_goals (exfalso; simp only at h; split at h
               · simp [Src.sorted] at h
               · rw [restSrc_not_sorted] at h; cases h)

theorem pickSource_only_created (c : Cons) (h : onlyMatchesPermanode c = true) :
    pickSource t c .createdDesc = .created := by rw [pickSource_eq]; simp [h]

theorem pickSource_only_lastmod (c : Cons) (h : onlyMatchesPermanode c = true) :
    pickSource t c .lastModDesc = .lastmod := by rw [pickSource_eq]; simp [h]

/-- the sorted permanode sources enumerate a matching permanode if it has claims, is not deleted
and has the time the source sorts by -/
theorem mem_sortedPermanodes (bm : BlobMeta) (hb : bm ∈ w.blobs) (key : Ref → Time)
    (hg : (w.hasClaims bm.ref && !w.isDeleted bm.ref && key bm.ref != 0) = true) :
    bm ∈ sortedPermanodes w key := by
  unfold sortedPermanodes
  rw [mem_isort]
  exact List.mem_filter.mpr ⟨hb, hg⟩

end Planner

/-! ## `blob.Parse` accepts no proper prefix of a sha224 ref -/

/-- `sha224`; the byte 45 below is `-` -/
def sha224Name : Bytes := [115, 104, 97, 50, 50, 52]

/-- the text form of a sha224 ref: `sha224-` and 56 more characters, none of them `-` -/
def isSha224Text (r : Ref) : Bool :=
  (sha224Name ++ [45]).isPrefixOf r && r.length == 63 && (r.drop 7).all (fun c => c != 45)

theorem prefix_exact_sha224 (t : Pk.Ref.Tbl) (ht : t.size? sha224Name = some 28) (r pfx : Bytes)
    (hr : isSha224Text r = true) (hp : hasPrefix r pfx = true) (hok : refOK t pfx = true) : r = pfx := by
  simp only [isSha224Text, Bool.and_eq_true, beq_iff_eq, List.isPrefixOf_iff_prefix] at hr
  obtain ⟨⟨⟨hex, hr⟩, hlen⟩, _⟩ := hr
  rw [List.append_assoc, List.singleton_append] at hr
  subst hr
  have h6 : sha224Name.length = 6 := rfl
  have hhex : hex.length = 56 := by rw [List.length_append, List.length_cons, h6] at hlen; omega
  simp only [hasPrefix, Bool.and_eq_true, List.isPrefixOf_iff_prefix, decide_eq_true_eq] at hp
  obtain ⟨hpre, hlong⟩ := hp
  have htw : (List.takeWhile (fun c => c != 45) (sha224Name ++ 45 :: hex)).length = 6 := rfl
  rw [htw] at hlong
  -- `pfx` reaches past the dash: it is `sha224-` and a prefix `hex'` of the digits
  obtain ⟨rest, rfl⟩ := List.prefix_of_prefix_length_le (List.prefix_append _ _) hpre (Nat.le_of_lt (Nat.lt_of_succ_lt hlong))
  have hrest := (List.prefix_append_right_inj _).mp hpre
  cases rest with
  | nil => rw [List.append_nil, h6] at hlong; exact absurd hlong (by decide)
  | cons c hex' =>
    obtain ⟨rfl, hh⟩ := List.cons_prefix_cons.mp hrest
    -- `blob.Parse` accepts it, so all 56 digits are there
    have hnd : (45 : Nat) ∉ sha224Name := by decide
    simp only [refOK, Pk.Ref.parse, Pk.Ref.splitDash_append _ _ hnd, ht] at hok
    split at hok
    · cases hok
    · rename_i hl
      rw [hh.eq_of_length (by simpa [hhex] using hl)]

def World.refsSha224 (w : World) : Bool := w.blobs.all (fun b => isSha224Text b.ref)

theorem prefixExact_of_refsSha224 (t : Pk.Ref.Tbl) (ht : t.size? sha224Name = some 28) (w : World)
    (hw : w.refsSha224 = true) : PrefixExact t w := by
  intro b hb pfx hok hp
  simp only [World.refsSha224, List.all_eq_true] at hw
  exact prefix_exact_sha224 t ht _ _ (hw b hb) hp hok

/-! ## Query computes its specification -/

section QuerySpec
variable (t : Pk.Ref.Tbl) (w : World)

theorem candidates_unsorted (src : Src) (h : src.sorted = false) : ∃ p, candidates w src = w.blobs.filter p := by
  cases src with
  | lastmod => simp [Src.sorted] at h
  | created => simp [Src.sorted] at h
  | all =>
    refine ⟨fun _ => true, ?_⟩
    simp only [candidates]
    exact (List.filter_eq_self.mpr (by simp)).symm
  | _ => exact ⟨_, rfl⟩

theorem timedOK_mem (c : Cons) (h : timedOK t w c = true) (b : BlobMeta) (hb : b ∈ w.blobs)
    (hm : matchesC t w c b = true) :
    w.hasClaims b.ref = true ∧ w.isDeleted b.ref = false ∧ w.anyTime b.ref ≠ 0 ∧ w.modTime b.ref ≠ 0 := by
  simp only [timedOK, List.all_eq_true] at h
  have := h b hb
  simp only [hm, Bool.not_true, Bool.false_or, Bool.and_eq_true, Bool.not_eq_true', bne_iff_ne, ne_eq] at this
  exact ⟨this.1.1.1, this.1.1.2, this.1.2, this.2⟩

/-- the sorted sources, filtered by a matcher that only accepts what they know, are the sorted matches -/
theorem filter_sortedPermanodes (c : Cons) (h : timedOK t w c = true) (key : Ref → Time)
    (hk : key = w.anyTime ∨ key = w.modTime) :
    (sortedPermanodes w key).filter (matchesC t w c) = isort (ltTimeRefDesc key) (w.blobs.filter (matchesC t w c)) := by
  unfold sortedPermanodes
  rw [filter_isort (sw_timeRefDesc key), filter_filter_of_imp]
  intro b hb hm
  obtain ⟨h1, h2, h3, h4⟩ := timedOK_mem t w c h b hb hm
  rcases hk with rfl | rfl <;> simp [h1, h2, h3, h4]

theorem take_if_longer {α : Type} (l : List α) (n : Nat) :
    (if l.length > n then l.take n else l) = l.take n := by
  by_cases h : l.length > n
  · exact if_pos h
  · rw [if_neg h]; exact (List.take_of_length_le (Nat.le_of_not_gt h)).symm

theorem truncate_eq (src : Src) (nm : Bool) (lim : Int) (res : List BlobMeta) :
    (if (nm && decide (lim > 0) && decide (res.length > lim.toNat)) = true
      then (Except.ok (src, res.take lim.toNat) : Except Err (Src × List BlobMeta)) else .ok (src, res)) =
    .ok (src, if (nm && decide (lim > 0)) = true then res.take lim.toNat else res) := by
  cases nm <;> by_cases hl : lim > 0 <;> simp [hl]
  intro h
  exact (List.take_of_length_le h).symm

theorem specLt_false_isort (s : SortT) (l : List BlobMeta)
    (hs : s = .unspec ∨ s = .unsorted ∨ s = .map) : isort (specLt w s) l = l := by
  rcases hs with rfl | rfl | rfl <;> exact isort_false l

/-- the sorting Query does after an enumeration that is not pre-sorted: a textual copy of that part
of `query` in Model/Search.lean (`query_unfold` ties both copies by `rfl`) -/
def postSort (w : World) (c : Cons) (sort : SortT) (res : List BlobMeta) : Except Err (List BlobMeta) :=
  match sort with
  | .unspec | .unsorted | .map => .ok res
  | .blobRefAsc => .ok (isort ltRef res)
  | .createdDesc | .createdAsc =>
    if !onlyMatchesPermanode c then .error .ctimeNonPermanode
    else if res.length ≥ 2 && res.any (fun b => w.anyTime b.ref == 0) then .error .noTime
    else if sort == .createdAsc then .ok (isort (fun a b => decide (w.anyTime a.ref < w.anyTime b.ref)) res)
    else .ok (isort (fun a b => decide (w.anyTime b.ref < w.anyTime a.ref)) res)
  | _ => .error .unsupportedSort

/-- Query once the source, the sort and the limit are planned: callback, post-sort, truncation (the
body of `query` with the three planned values as parameters) -/
def runPlanned (t : Pk.Ref.Tbl) (w : World) (c : Cons) (src : Src) (sort : SortT) (limit : Int) :
    Except Err (Src × List BlobMeta) :=
  match collect (matchC t w c) (if sort != .map && limit > 0 && src.sorted then some limit.toNat else none)
      (candidates w src) [] St.init with
  | .error e => .error e
  | .ok res =>
    if src.sorted then .ok (src, res) else
    match postSort w c sort res with
    | .error e => .error e
    | .ok res =>
      if sort != .map && limit > 0 && res.length > limit.toNat then .ok (src, res.take limit.toNat)
      else .ok (src, res)

theorem query_unfold (q : Query) :
    query t w q =
      if !validC q.c || q.c.isNil then .error .invalid
      else runPlanned t w q.c (pickSource t q.c q.plannedSort) q.plannedSort q.plannedLimit := by
  unfold query runPlanned postSort
  rfl

theorem collect_plan (m : BlobMeta → St → R) (ψ : BlobMeta → Bool) (hm : ∀ b st, ∃ st', m b st = .ok (ψ b, st'))
    (l : List BlobMeta) (stop : Bool) (n : Nat) (hn : stop = true → 0 < n) :
    collect m (if stop then some n else none) l [] St.init =
      .ok (if stop then (l.filter ψ).take n else l.filter ψ) := by
  cases stop with
  | false => exact collect_spec m ψ hm l [] St.init none
  | true =>
    obtain ⟨k, rfl⟩ : ∃ k, n = k + 1 := ⟨n - 1, (Nat.sub_add_cancel (hn rfl)).symm⟩
    have h := collect_spec m ψ hm l [] St.init (some k)
    rw [Option.map_some, List.length_nil, Nat.zero_add] at h
    exact h

theorem postSort_spec (c : Cons) (s : SortT) (M : List BlobMeta)
    (hs : s ≠ .createdDesc ∧ s ≠ .lastModDesc ∧ s ≠ .lastModAsc)
    (hc : s = .createdAsc → onlyMatchesPermanode c = true ∧ M.any (fun b => w.anyTime b.ref == 0) = false) :
    postSort w c s M = .ok (isort (specLt w s) M) := by
  cases s with
  | unspec | unsorted | map => exact congrArg Except.ok (isort_false M).symm
  | blobRefAsc => rfl
  | createdAsc =>
    obtain ⟨h1, h2⟩ := hc rfl
    unfold postSort
    dsimp only
    rw [h1, h2, Bool.and_false]
    rfl
  | createdDesc => exact absurd rfl hs.1
  | lastModDesc => exact absurd rfl hs.2.1
  | lastModAsc => exact absurd rfl hs.2.2

theorem runPlanned_spec (c : Cons) (src : Src) (s : SortT) (lim : Int) (M : List BlobMeta) (ψ : BlobMeta → Bool)
    (hM : ∀ b st, ∃ st', matchC t w c b st = .ok (ψ b, st'))
    (hcand : (candidates w src).filter ψ = if src.sorted then isort (specLt w s) M else M)
    (hmap : src.sorted = true → (s != .map) = true)
    (hpost : src.sorted = false → postSort w c s M = .ok (isort (specLt w s) M)) :
    runPlanned t w c src s lim =
      .ok (src, if s != .map && lim > 0 then (isort (specLt w s) M).take lim.toNat else isort (specLt w s) M) := by
  unfold runPlanned
  rw [collect_plan _ ψ hM _ _ _ (fun h => by simp only [Bool.and_eq_true, decide_eq_true_eq] at h; exact Int.lt_toNat.mpr h.1.2), hcand]
  dsimp only
  cases hs : src.sorted with
  | true => simp only [hmap hs, Bool.true_and, Bool.and_true, if_true]
  | false =>
    simp only [Bool.and_false, Bool.false_eq_true, if_false, hpost hs]
    exact truncate_eq _ _ _ _

/-- **Query returns the first `limit` of the matching blobs in the order of the sort**, when the
matcher computes the documented meaning, the sort is supported for the query and – for the sorts by
time – every match is a permanode the sorted enumerations know -/
theorem query_eq_spec (q : Query) (hx : PrefixExact t w)
    (hvalid : validC q.c = true) (hnil : q.c.isNil = false) (hM : MatcherOK t w q.c)
    (hsup : q.supported = true) (htimed : q.timeSorted = true → timedOK t w q.c = true) :
    query t w q = .ok (pickSource t q.c q.plannedSort, specResult t w q) := by
  rw [query_unfold, hvalid, hnil, if_neg (by decide)]
  refine runPlanned_spec t w q.c _ _ _ (w.blobs.filter (matchesC t w q.c)) _ hM ?_ ?_ ?_
  ·
    cases hsrt : (pickSource t q.c q.plannedSort).sorted with
    | true =>
      obtain ⟨_, hcase⟩ := pickSource_sorted t q.c q.plannedSort hsrt
      rcases hcase with ⟨h, h'⟩ | ⟨h, h'⟩ <;> rw [h', h]
      · exact filter_sortedPermanodes t w q.c (htimed (by rw [Query.timeSorted, h])) _ (Or.inr rfl)
      · exact filter_sortedPermanodes t w q.c (htimed (by rw [Query.timeSorted, h])) _ (Or.inl rfl)
    | false =>
      obtain ⟨p, hp⟩ := candidates_unsorted w _ hsrt
      rw [hp]
      refine filter_filter_of_imp _ _ _ fun b hb hm => ?_
      have := planner_sound_unsorted t w hx q.c q.plannedSort b hb hm hsrt
      rw [hp] at this
      exact (List.mem_filter.mp this).2
  · intro hsrt
    obtain ⟨_, hcase⟩ := pickSource_sorted t q.c q.plannedSort hsrt
    rcases hcase with ⟨h, _⟩ | ⟨h, _⟩ <;> (rw [h]; rfl)
  · -- a source that is not pre-sorted leaves the sorts by descending time out
    intro hsrt
    have honly : ∀ s, q.plannedSort = s → (s = .createdDesc ∨ s = .createdAsc ∨ s = .lastModDesc) →
        onlyMatchesPermanode q.c = true := by
      intro s hs h
      rw [Query.supported, hs] at hsup
      rcases h with rfl | rfl | rfl <;> exact hsup
    refine postSort_spec w q.c _ _ ⟨fun h => ?_, fun h => ?_, fun h => ?_⟩ fun h => ⟨honly _ h (Or.inr (Or.inl rfl)), ?_⟩
    · rw [h, pickSource_only_created t q.c (honly _ h (Or.inl rfl))] at hsrt; cases hsrt
    · rw [h, pickSource_only_lastmod t q.c (honly _ h (Or.inr (Or.inr rfl)))] at hsrt; cases hsrt
    · rw [Query.supported, h] at hsup; cases hsup
    · have hto := htimed (by rw [Query.timeSorted, h])
      rw [List.any_eq_false]
      intro b hb
      obtain ⟨hb1, hb2⟩ := List.mem_filter.mp hb
      simpa using (timedOK_mem t w q.c hto b hb1 hb2).2.2.1

/-! ### no duplicates, whatever the matcher does -/

def RefsNodup (l : List BlobMeta) : Prop := (l.map (·.ref)).Nodup

theorem RefsNodup.sublist {l l' : List BlobMeta} (h : RefsNodup l) (hs : l'.Sublist l) : RefsNodup l' :=
  List.Nodup.sublist (hs.map _) h

theorem RefsNodup.perm {l l' : List BlobMeta} (h : RefsNodup l) (hp : l'.Perm l) : RefsNodup l' :=
  (hp.map _).nodup_iff.mpr h

theorem candidates_nodup (hw : RefsNodup w.blobs) (src : Src) : RefsNodup (candidates w src) := by
  cases src <;> simp only [candidates, sortedPermanodes]
  case lastmod => exact (hw.sublist List.filter_sublist).perm (isort_perm _ _)
  case created => exact (hw.sublist List.filter_sublist).perm (isort_perm _ _)
  case all => exact hw
  all_goals exact hw.sublist List.filter_sublist

theorem postSort_perm (c : Cons) (sort : SortT) (r r' : List BlobMeta) (h : postSort w c sort r = .ok r') :
    r'.Perm r := by
  have hr : (Except.ok r : Except Err _) = .ok r' → r'.Perm r := fun h => by cases h; exact .refl _
  have hi : ∀ lt, (Except.ok (isort lt r) : Except Err _) = .ok r' → r'.Perm r :=
    fun lt h => by cases h; exact isort_perm lt r
  cases sort with
  | unspec | unsorted | map => exact hr h
  | blobRefAsc => exact hi _ h
  | lastModDesc | lastModAsc => cases h
  | createdDesc => exact hi _ (ok_of_ite_error (ok_of_ite_error h))
  | createdAsc => exact hi _ (ok_of_ite_error (ok_of_ite_error h))

/-- **no blob is returned twice**: every enumeration visits a blob once, the callback collects a
selection, sorting permutes, truncation selects -/
theorem query_nodup (q : Query) (hw : RefsNodup w.blobs) (src : Src) (res : List BlobMeta)
    (h : query t w q = .ok (src, res)) : RefsNodup res := by
  rw [query_unfold] at h
  have h := ok_of_ite_error h
  unfold runPlanned at h
  generalize hc : collect _ _ _ [] St.init = x at h
  cases x with
  | error e => cases h
  | ok r =>
    obtain ⟨l', hl', hr⟩ := collect_sublist _ _ _ _ _ _ hc
    have hr' : RefsNodup r := by
      rw [hr]; simpa using (candidates_nodup w hw _).sublist hl'
    dsimp only at h
    split at h
    · cases h; exact hr'
    · generalize hps : postSort w q.c q.plannedSort r = y at h
      cases y with
      | error e => cases h
      | ok res' =>
        have hres' : RefsNodup res' := hr'.perm (postSort_perm w _ _ _ _ hps)
        dsimp only at h
        split at h <;> cases h
        · exact hres'.sublist (List.take_sublist _ _)
        · exact hres'

end QuerySpec

end Pk.Search
