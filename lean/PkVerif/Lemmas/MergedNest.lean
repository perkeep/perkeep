import PkVerif.Lemmas.MergedEnum
/-!
# The n-way merge of mergedenum.go is the nested two-way merge

`mergedEnumerate limit (x :: rest) = mergedEnumerate limit [x, mergedEnumerate limit rest]` for strictly
ascending sources (`merged_cons_nest`): an n-ary shard / replica over `[k0, …, k(n-1)]`, which hands all
its sub-stores to ONE call of `MergedEnumerateStorage`, enumerates exactly like the right-nested tree of
two-way nodes `k0 ⊕ (k1 ⊕ (… ⊕ k(n-1)))`, each of which merges its left sub-store with the (already
merged, already cut at `limit`) enumeration of the rest.  Also: sources that all send the same list
merge to that list (`merged_all_same`: replicas holding the same blobs).
-/
namespace Pk.MergedEnum
open Pk

theorem loop_take (n : Nat) : ∀ (k : Nat) (last : Option Bytes) (ps : List (List SR)),
    (loop (n + k) last ps).take n = loop n last ps := by
  induction n with
  | zero => intros; simp [loop]
  | succ n ih =>
    intro k last ps
    rw [Nat.add_right_comm n 1 k]
    simp only [loop]
    cases pick none ((ps.map (skipLow last)).map List.head?) with
    | none => simp
    | some lo => simp [ih]

/-- `e` is an entry of the first source that has its key -/
def First : List (List SR) → SR → Prop
  | [], _ => False
  | s :: rest, e => e ∈ s ∨ (e.1 ∉ keys s ∧ First rest e)

theorem first_of_decomp (srcs : List (List SR)) (e : SR)
    (h : ∃ pre s post, srcs = pre ++ s :: post ∧ e ∈ s ∧ ∀ t ∈ pre, e.1 ∉ keys t) : First srcs e := by
  obtain ⟨pre, s, post, rfl, hes, hpre⟩ := h
  induction pre with
  | nil => exact Or.inl hes
  | cons p pre ih => exact Or.inr ⟨hpre p (by simp), ih (fun t ht => hpre t (by simp [ht]))⟩

theorem merged_first (limit : Nat) (srcs : List (List SR)) (h : AllAsc srcs) (e : SR)
    (he : e ∈ mergedEnumerate limit srcs) : First srcs e :=
  first_of_decomp srcs e (merged_first_source limit srcs h e he)

theorem pw_key_unique {s : List SR} (h : PW s) {e e' : SR} (he : e ∈ s) (he' : e' ∈ s)
    (hk : e.1 = e'.1) : e = e' := by
  induction s with
  | nil => cases he
  | cons a t ih =>
    obtain ⟨h1, h2⟩ := List.pairwise_cons.mp h
    rcases List.mem_cons.mp he with rfl | he1 <;> rcases List.mem_cons.mp he' with rfl | he1'
    · rfl
    · have := h1 e' he1'; rw [hk, ltB_irrefl] at this; cases this
    · have := h1 e he1; rw [← hk, ltB_irrefl] at this; cases this
    · exact ih h2 he1 he1'

theorem first_unique : ∀ (srcs : List (List SR)), (∀ s ∈ srcs, PW s) → ∀ e e' : SR,
    First srcs e → First srcs e' → e.1 = e'.1 → e = e' := by
  intro srcs
  induction srcs with
  | nil => intro _ _ _ h; exact h.elim
  | cons s rest ih =>
    intro hpw e e' h1 h2 hk
    rcases h1 with h1 | ⟨hn1, h1⟩ <;> rcases h2 with h2 | ⟨hn2, h2⟩
    · exact pw_key_unique (hpw s List.mem_cons_self) h1 h2 hk
    · exact absurd (List.mem_map.mpr ⟨e, h1, hk⟩) hn2
    · exact absurd (List.mem_map.mpr ⟨e', h2, hk.symm⟩) hn1
    · exact ih (fun t ht => hpw t (List.mem_cons_of_mem _ ht)) e e' h1 h2 hk

theorem eq_of_keys_eq : ∀ (l1 l2 : List SR), keys l1 = keys l2 →
    (∀ e ∈ l1, ∀ e' ∈ l2, e.1 = e'.1 → e = e') → l1 = l2 := by
  intro l1
  induction l1 with
  | nil => intro l2 h _; exact (List.map_eq_nil_iff.mp h.symm).symm
  | cons a t1 ih =>
    intro l2 h hag
    cases l2 with
    | nil => cases h
    | cons b t2 =>
      obtain ⟨hk, ht⟩ := List.cons.inj h
      rw [hag a List.mem_cons_self b List.mem_cons_self hk,
        ih t2 ht fun e he e' he' => hag e (List.mem_cons_of_mem _ he) e' (List.mem_cons_of_mem _ he')]

/-- **the n-way merge is the nested two-way merge**: merging `x` with the rest in one call sends
exactly what merging `x` with the merged (and cut) enumeration of the rest sends – same entries, same
sizes, same order, same cut at `limit` -/
theorem merged_cons_nest (limit : Nat) (x : List SR) (rest : List (List SR))
    (h : AllAsc (x :: rest)) :
    mergedEnumerate limit (x :: rest) = mergedEnumerate limit [x, mergedEnumerate limit rest] := by
  have hx : Asc ltB (keys x) := h x (by simp)
  have hrest : AllAsc rest := fun s hs => h s (by simp [hs])
  -- the uncut merge of the rest
  have hM : mergedEnumerate limit rest =
      (mergedEnumerate (limit + (unionKeys rest).length) rest).take limit :=
    (loop_take limit _ none rest).symm
  have hFk : keys (mergedEnumerate (limit + (unionKeys rest).length) rest) = unionKeys rest := by
    rw [merged_keys_eq _ rest hrest, List.take_of_length_le (by omega)]
  have pair : ∀ n, AllAsc [x, mergedEnumerate n rest] := by
    intro n s hs
    simp only [List.mem_cons, List.not_mem_nil, or_false] at hs
    rcases hs with rfl | rfl
    · exact hx
    · exact merged_asc _ rest hrest
  have hascF := pair (limit + (unionKeys rest).length)
  have hascM := pair limit
  -- cutting the merged rest at `limit` first changes nothing
  have h1 : mergedEnumerate limit [x, mergedEnumerate limit rest] =
      mergedEnumerate limit [x, mergedEnumerate (limit + (unionKeys rest).length) rest] := by
    rw [← merged_take_limit limit [x, mergedEnumerate limit rest] hascM,
      ← merged_take_limit limit [x, mergedEnumerate (limit + (unionKeys rest).length) rest] hascF]
    simp only [List.map_cons, List.map_nil]
    rw [hM, List.take_take, Nat.min_self]
  apply eq_of_keys_eq
  · -- the keys: the first `limit` of the union, on both sides
    rw [h1, merged_keys_eq limit _ h]
    symm
    apply merged_keys_eq_of limit _ hascF _ (unionKeys_asc _)
    intro k
    rw [mem_unionKeys]
    constructor
    · rintro ⟨s, hs, hk⟩
      rcases List.mem_cons.mp hs with rfl | hs'
      · exact ⟨s, by simp, hk⟩
      · exact ⟨mergedEnumerate (limit + (unionKeys rest).length) rest, by simp,
          by rw [hFk, mem_unionKeys]; exact ⟨s, hs', hk⟩⟩
    · rintro ⟨s, hs, hk⟩
      simp only [List.mem_cons, List.not_mem_nil, or_false] at hs
      rcases hs with rfl | rfl
      · exact ⟨s, by simp, hk⟩
      · rw [hFk, mem_unionKeys] at hk
        obtain ⟨t, ht, hkt⟩ := hk
        exact ⟨t, by simp [ht], hkt⟩
  · -- the entries: both come from the first source that has the key
    intro e he e' he' hk
    have hf : First (x :: rest) e := merged_first limit _ h e he
    have hf' : First (x :: rest) e' := by
      rcases merged_first limit _ hascM e' he' with hl | ⟨hn, hr⟩
      · exact Or.inl hl
      · rcases hr with hr | ⟨_, hr⟩
        · exact Or.inr ⟨hn, merged_first limit rest hrest e' hr⟩
        · exact hr.elim
    exact first_unique _ (allAsc_pw h) e e' hf hf' hk

/-- sources that all send the same ascending list (of at most `limit` entries) merge to that list -/
theorem merged_all_same (limit : Nat) (x : List SR) (srcs : List (List SR)) (hne : srcs ≠ [])
    (hall : ∀ s ∈ srcs, s = x) (hx : Asc ltB (keys x)) (hlen : x.length ≤ limit) :
    mergedEnumerate limit srcs = x := by
  have hasc : AllAsc srcs := fun s hs => by rw [hall s hs]; exact hx
  apply eq_of_keys_eq
  · rw [merged_keys_eq_of limit srcs hasc (keys x) hx (by
      intro k
      constructor
      · intro hk
        cases srcs with
        | nil => exact absurd rfl hne
        | cons s t => exact ⟨s, by simp, by rw [hall s (by simp)]; exact hk⟩
      · rintro ⟨s, hs, hk⟩
        rw [hall s hs] at hk; exact hk)]
    apply List.take_of_length_le
    simp [keys]; exact hlen
  · intro e he e' he' hk
    obtain ⟨_, s, _, hdec, hes, _⟩ := merged_first_source limit srcs hasc e he
    have hs : s = x := hall s (by rw [hdec]; simp)
    rw [hs] at hes
    exact pw_key_unique ((ascK_iff_pw x).mp hx) hes he' hk

theorem merged_single (limit : Nat) (x : List SR) (hx : Asc ltB (keys x)) (hlen : x.length ≤ limit) :
    mergedEnumerate limit [x] = x :=
  merged_all_same limit x [x] (by simp) (by simp) hx hlen

/-- non-vacuity: three overlapping ascending sources with a limit that cuts both the inner and the
outer merge -/
example : AllAsc ([([1], 10), ([4], 40)] :: [[([2], 20), ([3], 30)], [([3], 30), ([5], 50), ([6], 60)]]) := by
  decide
example : mergedEnumerate 3 [[([1], 10), ([4], 40)], [([2], 20), ([3], 30)], [([3], 30), ([5], 50), ([6], 60)]]
    = mergedEnumerate 3 [[([1], 10), ([4], 40)],
        mergedEnumerate 3 [[([2], 20), ([3], 30)], [([3], 30), ([5], 50), ([6], 60)]]] := by decide

end Pk.MergedEnum
