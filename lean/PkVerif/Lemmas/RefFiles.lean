import PkVerif.Model.Files
import PkVerif.Lemmas.Ref
/-!
# C01: the file-per-blob store (pkg/blobserver/files) refines the reference map

`abs` = `flat`: the files of the tree in walk order, as (ref text ↦ bytes).  The layout invariant `Lay`
says where every file is; from it: `flat` is ascending (directory-name order agrees with ref-text
order), path lookups are `get`, store/remove are `ins`/`del`, and the pruned recursive walk with its
shared countdown is `enumOf` for ANY cursor string (`walk_eq`).
-/
namespace Pk.Files
open Pk Pk.SMap Pk.Ref Pk.RefMap

/-- equal-length strings that differ decide the order of anything appended to them -/
theorem ltB_append_same_len (a b x y : Bytes) (hl : a.length = b.length) (h : ltB a b = true) :
    ltB (a ++ x) (b ++ y) = true := by
  induction a generalizing b with
  | nil => cases b with
    | nil => cases h
    | cons _ _ => cases hl
  | cons a as ih =>
    cases b with
    | nil => cases hl
    | cons b bs =>
      rw [List.cons_append, List.cons_append, ltB_cons_iff]
      rcases (ltB_cons_iff a b as bs).mp h with h' | ⟨rfl, h'⟩
      · exact Or.inl h'
      · exact Or.inr ⟨rfl, ih bs (Nat.succ.inj hl) h'⟩

/-- a common suffix does not change the order of equal-length strings -/
theorem ltB_append_right_same_len (a b s : Bytes) (hl : a.length = b.length) :
    ltB (a ++ s) (b ++ s) = ltB a b := by
  induction a generalizing b with
  | nil => cases b with
    | nil => exact ltB_irrefl s
    | cons _ _ => cases hl
  | cons a as ih =>
    cases b with
    | nil => cases hl
    | cons b bs => rw [List.cons_append, List.cons_append, ltB, ltB, ih bs (Nat.succ.inj hl)]

/-- soundness of the pruning rule: if the directory's blob prefix, cut to the common length with the
cursor, is below the cursor cut to that length, everything that starts with the prefix is below the
cursor -/
theorem prune_sound (P A x : Bytes)
    (h : ltB (P.take (min A.length P.length)) (A.take (min A.length P.length)) = true) :
    ltB (P ++ x) A = true := by
  induction P generalizing A with
  | nil => rw [List.take_nil] at h; cases A <;> cases h
  | cons p ps ih =>
    cases A with
    | nil => cases h
    | cons a as =>
      rw [List.length_cons, List.length_cons, Nat.succ_min_succ, List.take_succ_cons,
        List.take_succ_cons] at h
      rw [List.cons_append, ltB_cons_iff]
      rcases (ltB_cons_iff ..).mp h with h' | ⟨rfl, h'⟩
      · exact Or.inl h'
      · exact Or.inr ⟨rfl, ih as h'⟩

/-- every key of the segment `m` sorts before `k`: what a directory left of `k`'s contributes -/
def AllLt (k : Bytes) (m : SMap Bytes) : Prop := ∀ q ∈ m, ltB q.1 k = true
/-- every key of `m` sorts after `k` (the hypothesis of `SMap.get_eq_none_of_all_gt`) -/
def AllGt (k : Bytes) (m : SMap Bytes) : Prop := ∀ q ∈ m, ltB k q.1 = true
/-- `k` is not a key of `m`; needs no order on `m`, unlike `get m k = none` read through `KAsc` -/
def NoKey (k : Bytes) (m : SMap Bytes) : Prop := ∀ q ∈ m, q.1 ≠ k

theorem AllLt.noKey {k : Bytes} {m : SMap Bytes} (h : AllLt k m) : NoKey k m :=
  fun q hq => ltB_ne (h q hq)

theorem AllGt.noKey {k : Bytes} {m : SMap Bytes} (h : AllGt k m) : NoKey k m :=
  fun q hq e => ltB_ne (h q hq) e.symm

theorem ins_allGt {k v : Bytes} {m : SMap Bytes} (h : AllGt k m) : ins k v m = (k, v) :: m := by
  cases m with
  | nil => rfl
  | cons p rest =>
    obtain ⟨k', v'⟩ := p
    rw [ins, if_pos (h _ (List.mem_cons_self ..))]

theorem ins_append_gt {k v : Bytes} (a : SMap Bytes) {b : SMap Bytes} (h : AllGt k b) :
    ins k v (a ++ b) = ins k v a ++ b := by
  induction a with
  | nil => exact ins_allGt h
  | cons p rest ih =>
    obtain ⟨k', v'⟩ := p
    rw [List.cons_append, ins, ins]
    by_cases h1 : ltB k k' = true
    · rw [if_pos h1, if_pos h1]; rfl
    · rw [if_neg h1, if_neg h1]
      by_cases h2 : k = k'
      · rw [if_pos h2, if_pos h2]; rfl
      · rw [if_neg h2, if_neg h2, ih]; rfl

theorem ins_append_lt {k v : Bytes} {a : SMap Bytes} (b : SMap Bytes) (h : AllLt k a) :
    ins k v (a ++ b) = a ++ ins k v b := by
  induction a with
  | nil => rfl
  | cons p rest ih =>
    obtain ⟨k', v'⟩ := p
    have h1 : ltB k' k = true := h _ (List.mem_cons_self ..)
    rw [List.cons_append, ins, if_neg (by rw [ltB_asymm _ _ h1]; decide), if_neg (ltB_ne h1).symm,
      ih fun q hq => h q (List.mem_cons_of_mem _ hq)]
    rfl

theorem del_append_left {k : Bytes} {a : SMap Bytes} (b : SMap Bytes) (h : NoKey k a) :
    del k (a ++ b) = a ++ del k b := by
  induction a with
  | nil => rfl
  | cons p rest ih =>
    obtain ⟨k', v'⟩ := p
    rw [List.cons_append, del, if_neg (h _ (List.mem_cons_self ..)).symm,
      ih fun q hq => h q (List.mem_cons_of_mem _ hq)]
    rfl

theorem del_noKey {k : Bytes} {m : SMap Bytes} (h : NoKey k m) : del k m = m := by
  have := del_append_left [] h
  rwa [List.append_nil, del, List.append_nil] at this

theorem del_append_right {k : Bytes} (a : SMap Bytes) {b : SMap Bytes} (h : NoKey k b) :
    del k (a ++ b) = del k a ++ b := by
  induction a with
  | nil => exact del_noKey h
  | cons p rest ih =>
    obtain ⟨k', v'⟩ := p
    rw [List.cons_append, del, del]
    split
    · rfl
    · rw [ih]; rfl

theorem enumOf_nil (after : Bytes) (n : Nat) : enumOf [] after n = [] := by simp [enumOf, sizes]

theorem enumOf_zero (m : SMap Bytes) (after : Bytes) : enumOf m after 0 = [] := by simp [enumOf]

theorem enumOf_cons_skip {k v : Bytes} {m : SMap Bytes} {after : Bytes} (n : Nat)
    (h : ltB after k = false) : enumOf ((k, v) :: m) after n = enumOf m after n := by
  simp [enumOf, h]

theorem enumOf_cons_take {k v : Bytes} {m : SMap Bytes} {after : Bytes} (n : Nat)
    (h : ltB after k = true) :
    enumOf ((k, v) :: m) after (n + 1) = (k, v.length) :: enumOf m after n := by
  simp [enumOf, h, sizes]

theorem enumOf_append (a b : SMap Bytes) (after : Bytes) (n : Nat) :
    enumOf (a ++ b) after n =
      enumOf a after n ++ enumOf b after (n - (enumOf a after n).length) := by
  have hsub : ∀ x, n - min n x = n - x := by
    intro x
    rw [Nat.min_def]
    split
    · next h => rw [Nat.sub_self, Nat.sub_eq_zero_of_le h]
    · rfl
  simp only [enumOf, sizes, List.filter_append, List.map_append, List.take_append, List.length_take,
    List.length_map, hsub]

theorem enumOf_allLt {m : SMap Bytes} {after : Bytes} (n : Nat) (h : AllLt after m) :
    enumOf m after n = [] := by
  have : m.filter (fun p => ltB after p.1) = [] := by
    apply List.filter_eq_nil_iff.mpr
    intro q hq
    simp [ltB_asymm _ _ (h q hq)]
  simp [enumOf, this, sizes]

/-- a file name without its last four characters (`.dat`) -/
def dropDat (n : Bytes) : Bytes := n.take (n.length - 4)

theorem dropDat_append (k : Bytes) : dropDat (k ++ dotDat) = k := by
  simp [dropDat, dotDat]

/-- the abstraction: every file of the tree, in walk order, keyed by its name without `.dat` -/
def flat : Tree → SMap Bytes
  | .nil => []
  | .file n b rest => (dropDat n, b) :: flat rest
  | .dir _ sub rest => flat sub ++ flat rest

/-- the text of a ref of a supported hash: name in the table, digest of the table's size -/
def SupKey (t : Tbl) (k : Bytes) : Prop := ∃ r, WFKnown t r ∧ toText r = k

/-- side conditions on the hash table: valid names with non-empty digests (`Tbl.WF`), digests of at
least two bytes (four hex digits: no `____` padding), no hash called like a directory the walk skips -/
def TblOK (t : Tbl) : Prop := t.WF ∧ ∀ p ∈ t.sizes, 2 ≤ p.2 ∧ skipDir p.1 = false

instance (t : Tbl) : Decidable (TblOK t) := by unfold TblOK; infer_instance

/-- the table of /repo qualifies -/
theorem gtbl_ok : TblOK gtbl := by decide

/-- `n` sorts before every entry of the directory -/
def Below (n : Bytes) (tree : Tree) : Prop := ∀ n' ∈ tree.names, ltB n n' = true

/-- directory names per level: hash names at the root, two characters below -/
def NameOK (t : Tbl) (l : Nat) (P s : Bytes) : Prop :=
  (l = 0 ∧ P = [] ∧ ∃ sz, t.size? s = some sz) ∨ (0 < l ∧ P ≠ [] ∧ s.length = 2)

/-- the layout at level `l` (0 = root … 3 = the directories holding files) under blob prefix `P`:
directories only above level 3, files only at level 3, entries in strictly ascending name order,
every file is `<text of a supported ref>.dat` and the ref's text starts with the prefix the walk has
built on the way down -/
def Lay (t : Tbl) : Nat → Bytes → Tree → Prop
  | _, _, .nil => True
  | l, P, .file n _ rest =>
    l = 3 ∧ (∃ k, SupKey t k ∧ P <+: k ∧ n = k ++ dotDat) ∧ Below n rest ∧ Lay t l P rest
  | l, P, .dir s sub rest =>
    l < 3 ∧ NameOK t l P s ∧ Lay t (l + 1) (childPrefix P s) sub ∧ Below s rest ∧ Lay t l P rest

theorem childPrefix_nil (s : Bytes) : childPrefix [] s = s ++ [45] := rfl

theorem childPrefix_of_ne {P : Bytes} (h : P ≠ []) (s : Bytes) : childPrefix P s = P ++ s := if_neg h

theorem childPrefix_ne_nil (P s : Bytes) : childPrefix P s ≠ [] := by
  unfold childPrefix
  split
  · exact List.append_ne_nil_of_right_ne_nil _ (List.cons_ne_nil _ _)
  · next h => exact List.append_ne_nil_of_left_ne_nil h _

theorem prefix_childPrefix (P s : Bytes) : P <+: childPrefix P s := by
  cases P with
  | nil => exact List.nil_prefix
  | cons p ps => exact childPrefix_of_ne (List.cons_ne_nil p ps) s ▸ List.prefix_append _ _

/-- directory-name order is ref-text order -/
theorem cp_lt {t : Tbl} (ht : t.WF) {l : Nat} {P s s' : Bytes} (x y : Bytes)
    (h1 : NameOK t l P s) (h2 : NameOK t l P s') (hlt : ltB s s' = true) :
    ltB (childPrefix P s ++ x) (childPrefix P s' ++ y) = true := by
  rcases h1 with ⟨hl, hP, sz, hs⟩ | ⟨hl, hP, hs⟩
  · rcases h2 with ⟨_, _, sz', hs'⟩ | ⟨hl', _, _⟩
    · subst hP
      rw [childPrefix_nil, childPrefix_nil, List.append_assoc, List.append_assoc, List.singleton_append,
        List.singleton_append, ltB_names _ _ _ _ (validName_all_gt _ (known_name_valid t ht _ _ hs).1)
        (validName_all_gt _ (known_name_valid t ht _ _ hs').1) (ltB_ne hlt)]
      exact hlt
    · exact absurd (hl ▸ hl') (Nat.lt_irrefl 0)
  · rcases h2 with ⟨hl', _, _⟩ | ⟨_, _, hs'⟩
    · exact absurd (hl' ▸ hl) (Nat.lt_irrefl 0)
    · rw [childPrefix_of_ne hP, childPrefix_of_ne hP, List.append_assoc, List.append_assoc, ltB_append_left]
      exact ltB_append_same_len _ _ _ _ (hs.trans hs'.symm) hlt

theorem lay_flat {t : Tbl} {l : Nat} {P : Bytes} {tree : Tree} (h : Lay t l P tree) :
    ∀ q ∈ flat tree, SupKey t q.1 ∧ P <+: q.1 := by
  induction tree generalizing l P with
  | nil => exact fun q hq => nomatch hq
  | file n b rest ih =>
    obtain ⟨_, ⟨k, hk, hp, rfl⟩, _, hr⟩ := h
    intro q hq
    rcases List.mem_cons.mp hq with rfl | hq
    · rw [dropDat_append]; exact ⟨hk, hp⟩
    · exact ih hr q hq
  | dir s sub rest ihs ihr =>
    obtain ⟨_, _, hs, _, hr⟩ := h
    intro q hq
    rcases List.mem_append.mp hq with hq | hq
    · exact (ihs hs q hq).imp id (prefix_childPrefix P s).trans
    · exact ihr hr q hq

theorem lay_allPfx {t : Tbl} {l : Nat} {P : Bytes} {tree : Tree} (h : Lay t l P tree) :
    ∀ q ∈ flat tree, P <+: q.1 := fun q hq => (lay_flat h q hq).2

theorem lay_supKey {t : Tbl} {l : Nat} {P : Bytes} {tree : Tree} (h : Lay t l P tree) :
    ∀ q ∈ flat tree, SupKey t q.1 := fun q hq => (lay_flat h q hq).1

/-- keys under a directory that sorts before `a` are below every key under `a` -/
theorem pfx_lt {t : Tbl} (ht : t.WF) {l : Nat} {P n a k : Bytes} {m : SMap Bytes}
    (hm : ∀ q ∈ m, childPrefix P n <+: q.1) (hn : NameOK t l P n) (ha : NameOK t l P a)
    (hlt : ltB n a = true) (hk : childPrefix P a <+: k) : AllLt k m := by
  intro q hq
  obtain ⟨x, hx⟩ := hm q hq
  obtain ⟨y, hy⟩ := hk
  rw [← hx, ← hy]
  exact cp_lt ht x y hn ha hlt

theorem pfx_gt {t : Tbl} (ht : t.WF) {l : Nat} {P n a k : Bytes} {m : SMap Bytes}
    (hm : ∀ q ∈ m, childPrefix P n <+: q.1) (hn : NameOK t l P n) (ha : NameOK t l P a)
    (hlt : ltB a n = true) (hk : childPrefix P a <+: k) : AllGt k m := by
  intro q hq
  obtain ⟨x, hx⟩ := hm q hq
  obtain ⟨y, hy⟩ := hk
  rw [← hx, ← hy]
  exact cp_lt ht y x ha hn hlt

theorem pfx_noKey {t : Tbl} (ht : t.WF) {l : Nat} {P n a k : Bytes} {m : SMap Bytes}
    (hm : ∀ q ∈ m, childPrefix P n <+: q.1) (hn : NameOK t l P n) (ha : NameOK t l P a)
    (hne : a ≠ n) (hk : childPrefix P a <+: k) : NoKey k m := by
  rcases ltB_total a n with h | h | h
  · exact (pfx_gt ht hm hn ha h hk).noKey
  · exact absurd h hne
  · exact (pfx_lt ht hm hn ha h hk).noKey

/-- everything in the entries after a directory `s` is above every key under `s` -/
theorem lay_rest_gt {t : Tbl} (ht : t.WF) {l : Nat} {P s k : Bytes} {rest : Tree} (hl : l < 3)
    (h : Lay t l P rest) (hs : NameOK t l P s) (hb : Below s rest) (hk : childPrefix P s <+: k) :
    AllGt k (flat rest) := by
  induction rest with
  | nil => intro q hq; cases hq
  | file n b rest _ => exact absurd h.1 (Nat.ne_of_lt hl)
  | dir s' sub rest' _ ihr =>
    obtain ⟨_, hs', hsub, hb', hr⟩ := h
    have hlt : ltB s s' = true := hb s' (by simp [Tree.names])
    intro q hq
    simp only [flat, List.mem_append] at hq
    rcases hq with hq | hq
    · exact pfx_gt ht (lay_allPfx hsub) hs' hs hlt hk q hq
    · exact ihr hr (fun n' hn' => hb n' (by simp [Tree.names, hn'])) q hq

theorem supKey_text {t : Tbl} {k : Bytes} (h : SupKey t k) :
    ∃ nm sum, t.size? nm = some sum.length ∧ AllByte sum ∧ k = nm ++ 45 :: hexEnc sum := by
  obtain ⟨r, ⟨hs, hb, ho⟩, hk⟩ := h
  exact ⟨r.name, r.sum, hs, hb, by rw [← hk, toText_known r ho]⟩

/-- file-name order (with the `.dat`) is ref-text order -/
theorem ltB_dat {t : Tbl} (ht : t.WF) {k k' : Bytes} (h : SupKey t k) (h' : SupKey t k') :
    ltB (k ++ dotDat) (k' ++ dotDat) = ltB k k' := by
  obtain ⟨nm, sum, hs, _, hk⟩ := supKey_text h
  obtain ⟨nm', sum', hs', _, hk'⟩ := supKey_text h'
  by_cases hn : nm = nm'
  · subst hn
    rw [hs] at hs'
    injection hs' with hlen
    apply ltB_append_right_same_len
    rw [hk, hk']
    simp [hexEnc_length, hlen]
  · have g := validName_all_gt _ (known_name_valid t ht _ _ hs).1
    have g' := validName_all_gt _ (known_name_valid t ht _ _ hs').1
    subst hk hk'
    simp only [List.append_assoc, List.cons_append]
    rw [ltB_names _ _ _ _ g g' hn, ltB_names _ _ _ _ g g' hn]

theorem Below.cons {n a : Bytes} {l : List Bytes} (h : ltB n a = true) (hl : ∀ x ∈ l, ltB n x = true) :
    ∀ x ∈ a :: l, ltB n x = true := List.forall_mem_cons.mpr ⟨h, hl⟩

theorem below_putFile {t : Tbl} {P n a v : Bytes} {tree : Tree} (h : Lay t 3 P tree)
    (hb : Below n tree) (hlt : ltB n a = true) : Below n (tree.putFile a v) := by
  induction tree with
  | nil => exact Below.cons hlt hb
  | dir m sub rest _ _ => exact absurd h.1 (Nat.lt_irrefl 3)
  | file m b rest ih =>
    rw [Tree.putFile]
    by_cases h1 : ltB a m = true
    · rw [if_pos h1]; exact Below.cons hlt hb
    · rw [if_neg h1]
      by_cases h2 : a = m
      · rw [if_pos h2]; exact hb
      · rw [if_neg h2]
        exact Below.cons (hb m (List.mem_cons_self ..))
          (ih h.2.2.2 fun x hx => hb x (List.mem_cons_of_mem _ hx))

theorem below_rmFile {t : Tbl} {P n a : Bytes} {tree : Tree} (h : Lay t 3 P tree)
    (hb : Below n tree) : Below n (tree.rmFile a) := by
  induction tree with
  | nil => exact hb
  | dir m sub rest _ _ => exact absurd h.1 (Nat.lt_irrefl 3)
  | file m b rest ih =>
    have hr : Below n rest := fun x hx => hb x (List.mem_cons_of_mem _ hx)
    rw [Tree.rmFile]
    by_cases h2 : a = m
    · rw [if_pos h2]; exact hr
    · rw [if_neg h2]; exact Below.cons (hb m (List.mem_cons_self ..)) (ih h.2.2.2 hr)

/-- the rename into place is `ins` on the listing, and keeps the layout -/
theorem lay_putFile {t : Tbl} (ht : t.WF) {P k : Bytes} (v : Bytes) {tree : Tree}
    (h : Lay t 3 P tree) (hk : SupKey t k) (hp : P <+: k) :
    Lay t 3 P (tree.putFile (k ++ dotDat) v) ∧
      flat (tree.putFile (k ++ dotDat) v) = ins k v (flat tree) := by
  induction tree with
  | nil =>
    exact ⟨⟨rfl, ⟨k, hk, hp, rfl⟩, fun _ hn => (nomatch hn), trivial⟩,
      by simp only [Tree.putFile, flat, dropDat_append, ins]⟩
  | dir n sub rest _ _ => exact absurd h.1 (Nat.lt_irrefl 3)
  | file n b rest ih =>
    have h0 := h
    obtain ⟨_, ⟨k', hk', hp', rfl⟩, hb, hr⟩ := h
    rw [Tree.putFile, flat, dropDat_append, ins, ltB_dat ht hk hk']
    by_cases h1 : ltB k k' = true
    · have h1' := (ltB_dat ht hk hk').trans h1
      rw [if_pos h1, if_pos h1, flat, dropDat_append, flat, dropDat_append]
      exact ⟨⟨rfl, ⟨k, hk, hp, rfl⟩, Below.cons h1' fun x hx => ltB_trans _ _ _ h1' (hb x hx), h0⟩, rfl⟩
    · rw [if_neg h1, if_neg h1]
      by_cases h2 : k = k'
      · subst h2
        rw [if_pos rfl, if_pos rfl, flat, dropDat_append]
        exact ⟨⟨rfl, ⟨k, hk, hp, rfl⟩, hb, hr⟩, rfl⟩
      · rw [if_neg fun e => h2 (List.append_cancel_right e), if_neg h2, flat, dropDat_append, (ih hr).2]
        exact ⟨⟨rfl, ⟨k', hk', hp', rfl⟩,
          below_putFile hr hb ((ltB_dat ht hk' hk).trans (ltB_flip h1 h2)), (ih hr).1⟩, rfl⟩

/-- `Remove` is `del` on the listing, and keeps the layout -/
theorem lay_rmFile {t : Tbl} {P k : Bytes} {tree : Tree} (h : Lay t 3 P tree) :
    Lay t 3 P (tree.rmFile (k ++ dotDat)) ∧ flat (tree.rmFile (k ++ dotDat)) = del k (flat tree) := by
  induction tree with
  | nil => exact ⟨trivial, rfl⟩
  | dir n sub rest _ _ => exact absurd h.1 (Nat.lt_irrefl 3)
  | file n b rest ih =>
    obtain ⟨_, ⟨k', hk', hp', rfl⟩, hb, hr⟩ := h
    rw [Tree.rmFile, flat, dropDat_append, del]
    by_cases h2 : k = k'
    · subst h2; rw [if_pos rfl, if_pos rfl]; exact ⟨hr, rfl⟩
    · rw [if_neg fun e => h2 (List.append_cancel_right e), if_neg h2, flat, dropDat_append, (ih hr).2]
      exact ⟨⟨rfl, ⟨k', hk', hp', rfl⟩, below_rmFile hr hb, (ih hr).1⟩, rfl⟩

/-- Stat/Open of a file is `get` on the listing -/
theorem lay_getFile {t : Tbl} {P k : Bytes} {tree : Tree} (h : Lay t 3 P tree) :
    tree.getFile (k ++ dotDat) = SMap.get (flat tree) k := by
  induction tree with
  | nil => rfl
  | dir n sub rest _ _ => exact absurd h.1 (Nat.lt_irrefl 3)
  | file n b rest ih =>
    obtain ⟨_, ⟨k', _, _, rfl⟩, _, hr⟩ := h
    rw [Tree.getFile, flat, dropDat_append, SMap.get]
    by_cases h2 : k = k'
    · subst h2; rw [if_pos rfl, if_pos rfl]
    · rw [if_neg fun e => h2 (List.append_cancel_right e), if_neg h2]
      exact ih hr

theorem below_inDir {t : Tbl} {l : Nat} {P n a : Bytes} {f : Tree → Tree} {tree : Tree} (hl : l < 3)
    (h : Lay t l P tree) (hb : Below n tree) (hlt : ltB n a = true) : Below n (tree.inDir a f) := by
  induction tree with
  | nil => exact Below.cons hlt hb
  | file m b rest _ => exact absurd h.1 (Nat.ne_of_lt hl)
  | dir m sub rest _ ih =>
    rw [Tree.inDir]
    by_cases h1 : ltB a m = true
    · rw [if_pos h1]; exact Below.cons hlt hb
    · rw [if_neg h1]
      by_cases h2 : a = m
      · rw [if_pos h2]; exact hb
      · rw [if_neg h2]
        exact Below.cons (hb m (List.mem_cons_self ..))
          (ih h.2.2.2.2 fun x hx => hb x (List.mem_cons_of_mem _ hx))

theorem names_onDir (a : Bytes) (f : Tree → Tree) (tree : Tree) :
    (tree.onDir a f).names = tree.names := by
  induction tree with
  | nil => rfl
  | file n b rest ih => exact congrArg (n :: ·) ih
  | dir n sub rest _ ih =>
    rw [Tree.onDir]
    split
    · rfl
    · exact congrArg (n :: ·) ih

/-- MkdirAll one level and work inside: if the work inside is `ins k v` on the sub-listing (also when
the directory is new), it is `ins k v` on this level's listing; the layout is kept -/
theorem lay_inDir {t : Tbl} (ht : t.WF) {l : Nat} {P a k : Bytes} (v : Bytes) {f : Tree → Tree}
    {tree : Tree} (hl : l < 3) (ha : NameOK t l P a) (hk : childPrefix P a <+: k)
    (hf : ∀ s, Lay t (l + 1) (childPrefix P a) s →
      Lay t (l + 1) (childPrefix P a) (f s) ∧ flat (f s) = ins k v (flat s))
    (h : Lay t l P tree) :
    Lay t l P (tree.inDir a f) ∧ flat (tree.inDir a f) = ins k v (flat tree) := by
  have hnil := hf .nil trivial
  induction tree with
  | nil =>
    exact ⟨⟨hl, ha, hnil.1, fun _ hn => (nomatch hn), trivial⟩,
      by simp only [Tree.inDir, flat, hnil.2, List.append_nil]⟩
  | file n b rest _ => exact absurd h.1 (Nat.ne_of_lt hl)
  | dir n sub rest _ ih =>
    have h0 := h
    obtain ⟨_, hn, hsub, hb, hr⟩ := h
    rw [Tree.inDir]
    by_cases h1 : ltB a n = true
    · have hbel : Below a (.dir n sub rest) := Below.cons h1 fun x hx => ltB_trans _ _ _ h1 (hb x hx)
      rw [if_pos h1, ins_allGt (lay_rest_gt ht hl h0 ha hbel hk)]
      exact ⟨⟨hl, ha, hnil.1, hbel, h0⟩, by simp only [flat, hnil.2, ins, List.singleton_append]⟩
    · rw [if_neg h1]
      by_cases h2 : a = n
      · subst h2
        rw [if_pos rfl, flat, flat, (hf sub hsub).2, ins_append_gt _ (lay_rest_gt ht hl hr ha hb hk)]
        exact ⟨⟨hl, ha, (hf sub hsub).1, hb, hr⟩, rfl⟩
      · have hlt : ltB n a = true := ltB_flip h1 h2
        rw [if_neg h2, flat, flat, (ih hr).2, ins_append_lt _ (pfx_lt ht (lay_allPfx hsub) hn ha hlt hk)]
        exact ⟨⟨hl, hn, hsub, below_inDir hl hr hb hlt, (ih hr).1⟩, rfl⟩

/-- work inside an existing directory: if it is `del k` on the sub-listing, it is `del k` here -/
theorem lay_onDir {t : Tbl} (ht : t.WF) {l : Nat} {P a k : Bytes} {f : Tree → Tree}
    {tree : Tree} (hl : l < 3) (ha : NameOK t l P a) (hk : childPrefix P a <+: k)
    (hf : ∀ s, Lay t (l + 1) (childPrefix P a) s →
      Lay t (l + 1) (childPrefix P a) (f s) ∧ flat (f s) = del k (flat s))
    (h : Lay t l P tree) :
    Lay t l P (tree.onDir a f) ∧ flat (tree.onDir a f) = del k (flat tree) := by
  induction tree with
  | nil => exact ⟨trivial, rfl⟩
  | file n b rest _ => exact absurd h.1 (Nat.ne_of_lt hl)
  | dir n sub rest _ ih =>
    obtain ⟨_, hn, hsub, hb, hr⟩ := h
    rw [Tree.onDir]
    by_cases h2 : a = n
    · subst h2
      rw [if_pos rfl, flat, flat, (hf sub hsub).2,
        del_append_right _ (lay_rest_gt ht hl hr ha hb hk).noKey]
      exact ⟨⟨hl, ha, (hf sub hsub).1, hb, hr⟩, rfl⟩
    · rw [if_neg h2, flat, flat, (ih hr).2,
        del_append_left _ (pfx_noKey ht (lay_allPfx hsub) hn ha h2 hk)]
      exact ⟨⟨hl, hn, hsub, fun n' hn' => hb n' (names_onDir a f rest ▸ hn'), (ih hr).1⟩, rfl⟩

/-- looking a key up goes through the one directory its text selects -/
theorem lay_getDir {t : Tbl} (ht : t.WF) {l : Nat} {P a k : Bytes} {tree : Tree} (hl : l < 3)
    (ha : NameOK t l P a) (hk : childPrefix P a <+: k) {g : Tree → Option Bytes}
    (hg : ∀ s, Lay t (l + 1) (childPrefix P a) s → g s = SMap.get (flat s) k) (h : Lay t l P tree) :
    (match tree.getDir a with | none => none | some s => g s) = SMap.get (flat tree) k := by
  induction tree with
  | nil => rfl
  | file n b rest _ => exact absurd h.1 (Nat.ne_of_lt hl)
  | dir n sub rest _ ih =>
    obtain ⟨_, hn, hsub, hb, hr⟩ := h
    rw [Tree.getDir, flat, get_append]
    by_cases h2 : a = n
    · subst h2
      rw [if_pos rfl]
      simp only
      rw [hg sub hsub, get_noKey (lay_rest_gt ht hl hr ha hb hk).noKey]
      cases SMap.get (flat sub) k <;> rfl
    · rw [if_neg h2, get_noKey (pfx_noKey ht (lay_allPfx hsub) hn ha h2 hk)]
      exact ih hr

theorem skipDir_dat (k : Bytes) : skipDir (k ++ dotDat) = false := by
  have h : ∀ c : Bytes, c.reverse.head? ≠ some 116 → (k ++ dotDat == c) = false := by
    intro c hc
    simp only [beq_eq_false_iff_ne, ne_eq]
    intro e
    apply hc
    rw [← e]
    simp [dotDat]
  simp only [skipDir, Bool.or_eq_false_iff]
  exact ⟨⟨h _ (by decide), h _ (by decide)⟩, h _ (by decide)⟩

theorem isShardDir_len {n : Bytes} (h : isShardDir n = true) : n.length = 2 := by
  unfold isShardDir at h
  split at h
  · rfl
  · cases h

theorem isShardDir_dat (k : Bytes) : isShardDir (k ++ dotDat) = false := by
  cases h : isShardDir (k ++ dotDat) with
  | false => rfl
  | true => have := isShardDir_len h; simp [dotDat] at this

theorem stripSuffix_dat (k : Bytes) : stripSuffix dotDat (k ++ dotDat) = some k := by
  simp [stripSuffix, dotDat]

theorem skipDir_len {s : Bytes} (h : s.length = 2) : skipDir s = false := by
  cases hs : skipDir s with
  | false => rfl
  | true =>
    simp only [skipDir, Bool.or_eq_true, beq_iff_eq] at hs
    rcases hs with (e | e) | e <;> (subst e; simp at h)

theorem skipDir_nameOK {t : Tbl} (ht : TblOK t) {l : Nat} {P s : Bytes} (h : NameOK t l P s) :
    skipDir s = false := by
  rcases h with ⟨_, _, sz, hs⟩ | ⟨_, _, hs⟩
  · exact (ht.2 _ (size?_mem t s sz hs)).2
  · exact skipDir_len hs

/-- `blob.Parse` of a supported ref's text succeeds and prints back to the text -/
theorem parse_supKey {t : Tbl} (ht : t.WF) {k : Bytes} (h : SupKey t k) :
    ∃ r, parse t k true = some r ∧ toText r = k ∧ WFKnown t r := by
  obtain ⟨r, hr, hk⟩ := h
  exact ⟨r, by rw [← hk]; exact parse_toText_known t ht r hr true, hk, hr⟩

/-- a pruned directory holds nothing after the cursor -/
theorem pruned_allLt {after np : Bytes} {m : SMap Bytes} (h : pruned after np = true)
    (hm : ∀ q ∈ m, np <+: q.1) : AllLt after m := by
  simp only [pruned, Bool.and_eq_true] at h
  intro q hq
  obtain ⟨x, hx⟩ := hm q hq
  rw [← hx]
  exact prune_sound np after x h.2

/-- **the walk theorem**: on a tree in the store's layout, for ANY cursor string and any limit, the
pruned recursive walk with its shared countdown sends exactly the entries of the flat listing that
are strictly after the cursor, in listing order, cut at the limit – and leaves the countdown at
what is left of the limit -/
theorem walk_eq {t : Tbl} (ht : TblOK t) (after : Bytes) {tree : Tree} :
    ∀ {l : Nat} {P : Bytes}, Lay t l P tree → ∀ rem : Nat,
      walk t after P tree rem =
        some (enumOf (flat tree) after rem, rem - (enumOf (flat tree) after rem).length) := by
  induction tree with
  | nil => intro l P _ rem; rw [walk, flat, enumOf_nil]; rfl
  | file n b rest ih =>
    intro l P h rem
    obtain ⟨_, ⟨k, hk, _, hn⟩, _, hr⟩ := h
    subst hn
    cases rem with
    | zero => rw [walk, if_pos rfl, enumOf_zero]; rfl
    | succ m =>
      simp only [walk, Nat.add_one_ne_zero, if_false, skipDir_dat, isShardDir_dat, stripSuffix_dat,
        flat, dropDat_append, Bool.false_eq_true]
      cases ha : ltB after k with
      | true =>
        obtain ⟨r, hpr, htx, _⟩ := parse_supKey ht.1 hk
        simp only [leB, ha, Bool.not_true, Bool.false_eq_true, if_false, hpr, Nat.add_sub_cancel,
          ih hr m, htx, enumOf_cons_take m ha, List.length_cons, Nat.add_sub_add_right]
      | false =>
        simp only [leB, ha, Bool.not_false, if_true, ih hr (m + 1), enumOf_cons_skip (m + 1) ha]
  | dir s sub rest ihs ihr =>
    intro l P h rem
    obtain ⟨_, hs, hsub, _, hr⟩ := h
    cases rem with
    | zero => rw [walk, if_pos rfl, enumOf_zero]; rfl
    | succ m =>
      simp only [walk, Nat.add_one_ne_zero, if_false, skipDir_nameOK ht hs, Bool.false_eq_true, flat]
      rw [enumOf_append]
      cases hp : pruned after (childPrefix P s) with
      | true =>
        simp only [if_true, ihr hr (m + 1), enumOf_allLt _ (pruned_allLt hp (lay_allPfx hsub)),
          List.nil_append, List.length_nil, Nat.sub_zero]
      | false =>
        -- the countdown the sub-directory leaves is the limit for the rest
        simp only [Bool.false_eq_true, if_false, ihs hsub (m + 1), ihr hr, List.length_append,
          Nat.sub_sub]

/-- what `blob.Parse` accepts is the text of a supported ref, or has a hash name outside the table -/
theorem parse_cases {t : Tbl} {k : Bytes} {r : Ref} (h : parse t k true = some r) :
    (WFKnown t r ∧ toText r = k) ∨ t.size? r.name = none := by
  obtain ⟨name, hex, _, _, hn, ⟨size, hz, hlen, hd, hodd⟩ | ⟨hz, _⟩⟩ := parse_spec t k true r h
  · obtain ⟨he, hb⟩ := hexEnc_hexDec hex r.sum hd
    have hl := hexEnc_length r.sum
    rw [he, hlen, Nat.mul_comm] at hl
    exact Or.inl ⟨⟨by rw [hn, hz, Nat.eq_of_mul_eq_mul_left (by decide) hl], hb, hodd⟩,
      toText_of_parse t k true r h⟩
  · exact Or.inr (hn ▸ hz)

/-- the path of a supported ref: hash-name directory, two two-character directories, `<text>.dat`;
and the blob prefixes the walk builds on the way down are prefixes of the text -/
theorem loc_supKey {t : Tbl} (ht : TblOK t) {k : Bytes} (hk : SupKey t k) :
    ∃ nm s1 s2, locOf t k = some ⟨nm, s1, s2, k ++ dotDat⟩ ∧ NameOK t 0 [] nm ∧
      NameOK t 1 (childPrefix [] nm) s1 ∧
      NameOK t 2 (childPrefix (childPrefix [] nm) s1) s2 ∧
      childPrefix [] nm <+: k ∧ childPrefix (childPrefix [] nm) s1 <+: k ∧
      childPrefix (childPrefix (childPrefix [] nm) s1) s2 <+: k := by
  obtain ⟨r, hpr, htx, hsz, _, hodd⟩ := parse_supKey ht.1 hk
  obtain ⟨nm, sum, odd⟩ := r
  cases hodd
  have h2 : 2 ≤ sum.length := (ht.2 _ (size?_mem t nm _ hsz)).1
  -- the digest has at least two bytes: four hex digits, no `____` padding
  cases sum with
  | nil => exact absurd h2 (Nat.not_succ_le_zero _)
  | cons a sum =>
  cases sum with
  | nil => exact absurd h2 (Nat.not_succ_le_self _)
  | cons b rest =>
    have hp : childPrefix (childPrefix (childPrefix [] nm) [hexDigit (a / 16), hexDigit (a % 16)])
        [hexDigit (b / 16), hexDigit (b % 16)] <+: k := by
      rw [← htx, childPrefix_of_ne (childPrefix_ne_nil _ _), childPrefix_of_ne (childPrefix_ne_nil _ _),
        toText_known _ rfl]
      exact ⟨hexEnc rest, by simp only [childPrefix_nil, hexEnc, List.append_assoc, List.cons_append, List.nil_append]⟩
    have hp2 := (prefix_childPrefix _ _).trans hp
    refine ⟨nm, _, _, ?_, Or.inl ⟨rfl, rfl, _, hsz⟩, Or.inr ⟨Nat.one_pos, childPrefix_ne_nil _ _, rfl⟩,
      Or.inr ⟨Nat.succ_pos 1, childPrefix_ne_nil _ _, rfl⟩, (prefix_childPrefix _ _).trans hp2, hp2, hp⟩
    have hlen : ¬ ((hexEnc rest).length + 1 + 1 + 1 + 1 < 4) := Nat.not_lt.mpr (Nat.le_add_left 4 _)
    rw [locOf, hpr, ← htx]
    simp only [Option.map_some, locOfRef, padded, digest, Bool.false_eq_true, if_false, hexEnc,
      List.length_cons, hlen, List.take_succ_cons, List.take_zero, List.drop_succ_cons, List.drop_zero, baseName,
      List.cons_append, toText, List.append_assoc]

theorem store_ok {t : Tbl} (ht : TblOK t) {k : Bytes} (v : Bytes) {loc : Loc} {root : Tree}
    (hk : SupKey t k) (hloc : locOf t k = some loc) (h : Lay t 0 [] root) :
    Lay t 0 [] (root.store loc v) ∧ flat (root.store loc v) = ins k v (flat root) := by
  obtain ⟨nm, s1, s2, hl, h0, h1, h2, hp1, hp2, hp⟩ := loc_supKey ht hk
  cases hl.symm.trans hloc
  simp only [Tree.store]
  refine lay_inDir ht.1 v (by decide) h0 hp1 (fun d0 hd0 => ?_) h
  refine lay_inDir ht.1 v (by decide) h1 hp2 (fun d1 hd1 => ?_) hd0
  refine lay_inDir ht.1 v (by decide) h2 hp (fun d2 hd2 => ?_) hd1
  exact lay_putFile ht.1 v hd2 hk hp

theorem remove_ok {t : Tbl} (ht : TblOK t) {k : Bytes} {loc : Loc} {root : Tree}
    (hk : SupKey t k) (hloc : locOf t k = some loc) (h : Lay t 0 [] root) :
    Lay t 0 [] (root.remove loc) ∧ flat (root.remove loc) = del k (flat root) := by
  obtain ⟨nm, s1, s2, hl, h0, h1, h2, hp1, hp2, hp⟩ := loc_supKey ht hk
  cases hl.symm.trans hloc
  simp only [Tree.remove]
  refine lay_onDir ht.1 (by decide) h0 hp1 (fun d0 hd0 => ?_) h
  refine lay_onDir ht.1 (by decide) h1 hp2 (fun d1 hd1 => ?_) hd0
  refine lay_onDir ht.1 (by decide) h2 hp (fun d2 hd2 => ?_) hd1
  exact lay_rmFile hd2

theorem lookup_ok {t : Tbl} (ht : TblOK t) {k : Bytes} {loc : Loc} {root : Tree}
    (hk : SupKey t k) (hloc : locOf t k = some loc) (h : Lay t 0 [] root) :
    root.lookup loc = SMap.get (flat root) k := by
  obtain ⟨nm, s1, s2, hl, h0, h1, h2, hp1, hp2, hp⟩ := loc_supKey ht hk
  cases hl.symm.trans hloc
  unfold Tree.lookup
  refine lay_getDir ht.1 (by decide) h0 hp1 (fun d0 hd0 => ?_) h
  refine lay_getDir ht.1 (by decide) h1 hp2 (fun d1 hd1 => ?_) hd0
  refine lay_getDir ht.1 (by decide) h2 hp (fun d2 hd2 => ?_) hd1
  exact lay_getFile hd2

/-- at the root there are only directories of hash names in the table -/
theorem lay0_unknown {t : Tbl} {a : Bytes} (f : Tree → Tree) {root : Tree} (h : Lay t 0 [] root)
    (ha : t.size? a = none) : root.getDir a = none ∧ root.onDir a f = root := by
  induction root with
  | nil => exact ⟨rfl, rfl⟩
  | file n b rest _ => exact absurd h.1 (by decide)
  | dir n sub rest _ ih =>
    obtain ⟨_, hn, _, _, hr⟩ := h
    have hne : a ≠ n := by
      rintro rfl
      rcases hn with ⟨_, _, sz, hs⟩ | ⟨hl, _⟩
      · exact nomatch ha.symm.trans hs
      · exact absurd hl (Nat.lt_irrefl 0)
    rw [Tree.getDir, Tree.onDir, if_neg hne, if_neg hne, (ih hr).1, (ih hr).2]
    exact ⟨rfl, rfl⟩

/-- a key that is not a supported ref's text is not in the listing -/
theorem noKey_of_not_supKey {t : Tbl} {l : Nat} {P k : Bytes} {root : Tree} (h : Lay t l P root)
    (hk : ¬ SupKey t k) : NoKey k (flat root) :=
  fun q hq e => hk (e ▸ lay_supKey h q hq)

/-- a key that `blob.Parse` rejects is not in the listing -/
theorem noKey_of_no_loc {t : Tbl} (ht : TblOK t) {k : Bytes} {root : Tree}
    (h : Lay t 0 [] root) (hloc : locOf t k = none) : NoKey k (flat root) :=
  noKey_of_not_supKey h fun hk => by
    obtain ⟨r, hr, _⟩ := parse_supKey ht.1 hk
    rw [locOf, hr] at hloc; cases hloc

/-- Stat/Open of `blobPath` is `get` on the listing and `Remove(blobPath)` is `del`, for every text
`blob.Parse` accepts (a ref of an unknown hash has its path under a directory that does not exist) -/
theorem at_loc {t : Tbl} (ht : TblOK t) {k : Bytes} {loc : Loc} {root : Tree}
    (h : Lay t 0 [] root) (hloc : locOf t k = some loc) :
    root.lookup loc = SMap.get (flat root) k ∧
      Lay t 0 [] (root.remove loc) ∧ flat (root.remove loc) = del k (flat root) := by
  by_cases hk : SupKey t k
  · exact ⟨lookup_ok ht hk hloc h, remove_ok ht hk hloc h⟩
  · have hno := noKey_of_not_supKey h hk
    rw [locOf] at hloc
    cases hp : parse t k true with
    | none => rw [hp] at hloc; cases hloc
    | some r =>
      rw [hp] at hloc; cases hloc
      have hz : t.size? r.name = none :=
        (parse_cases hp).resolve_left fun ⟨hw, htx⟩ => hk ⟨r, hw, htx⟩
      rw [get_noKey hno, del_noKey hno, Tree.lookup, Tree.remove, locOfRef, (lay0_unknown id h hz).1,
        (lay0_unknown _ h hz).2]
      exact ⟨rfl, h, rfl⟩

end Pk.Files

namespace Pk.RefMap
open Pk.SMap

/-- `Refines` with a per-operation side condition `OK` (which keys the store accepts at all) -/
structure RefinesOn (content : Bytes → Bytes) (I : Impl) (OK : Op → Prop) where
  abs : I.σ → SMap Bytes
  Inv : I.σ → Prop
  init_inv : Inv I.init
  init_abs : abs I.init = []
  good : ∀ s, Inv s → Good content (abs s)
  step_ok : ∀ s op, Inv s → op.WK content → OK op →
    (I.step s op).2 = out (abs s) op ∧ abs (I.step s op).1 = next (abs s) op ∧ Inv (I.step s op).1

theorem RefinesOn.run_eq {content : Bytes → Bytes} {I : Impl} {OK : Op → Prop}
    (R : RefinesOn content I OK) (s : I.σ) (h : R.Inv s) (ops : List Op)
    (hops : ∀ op ∈ ops, op.WK content) (hok : ∀ op ∈ ops, OK op) :
    I.run s ops = run (R.abs s) ops :=
  run_eq_of_exact R.abs R.Inv (fun op => op.WK content ∧ OK op)
    (fun s op h hop => R.step_ok s op h hop.1 hop.2) s h ops fun op ho => ⟨hops op ho, hok op ho⟩

theorem RefinesOn.run_init {content : Bytes → Bytes} {I : Impl} {OK : Op → Prop}
    (R : RefinesOn content I OK) (ops : List Op)
    (hops : ∀ op ∈ ops, op.WK content) (hok : ∀ op ∈ ops, OK op) :
    I.run I.init ops = run [] ops := by
  rw [R.run_eq I.init R.init_inv ops hops hok, R.init_abs]

/-- an unconditional refinement is one under any side condition -/
def Refines.toOn {content : Bytes → Bytes} {I : Impl} (R : Refines content I) (OK : Op → Prop) :
    RefinesOn content I OK where
  abs := R.abs
  Inv := R.Inv
  init_inv := R.init_inv
  init_abs := R.init_abs
  good := R.good
  step_ok := fun s op h hop _ => R.step_ok s op h hop

def RefinesK.toOn {content : Bytes → Bytes} {K : Bytes → Prop} {I : Impl} (R : RefinesK content K I)
    {OK : Op → Prop} (hOK : ∀ op, OK op → op.KOK K) : RefinesOn content I OK where
  abs := R.abs
  Inv := R.Inv
  init_inv := R.init_inv
  init_abs := R.init_abs
  good := R.good
  step_ok := fun s op h hop hk => R.step_ok s op h hop (hOK op hk)

end Pk.RefMap

namespace Pk.Files
open Pk Pk.SMap Pk.Ref Pk.RefMap

/-- the key predicate of the store: `blob.Parse` accepts the text and the ref `IsSupported` (its hash
name is in the table) -/
def SupK (t : Tbl) (k : Bytes) : Prop := ∃ r, parse t k true = some r ∧ supported t r = true

instance (t : Tbl) (k : Bytes) : Decidable (SupK t k) :=
  match h : parse t k true with
  | none => isFalse (by rintro ⟨r, hr, _⟩; rw [h] at hr; cases hr)
  | some r =>
    if hs : supported t r = true then isTrue ⟨r, h, hs⟩
    else isFalse (by rintro ⟨r', hr, hs'⟩; rw [h] at hr; cases hr; exact hs hs')

/-- `SupK` (computable: parse and look the name up) is `SupKey` (the text of a well-formed ref) -/
theorem supKey_of_supK {t : Tbl} {k : Bytes} (h : SupK t k) : SupKey t k := by
  obtain ⟨r, hp, hs⟩ := h
  rcases parse_cases hp with ⟨hw, htx⟩ | hz
  · exact ⟨r, hw, htx⟩
  · simp [supported, hz] at hs

theorem supK_of_supKey {t : Tbl} (ht : t.WF) {k : Bytes} (h : SupKey t k) : SupK t k := by
  obtain ⟨r, hp, _, hw⟩ := parse_supKey ht h
  exact ⟨r, hp, by simp [supported, hw.1]⟩

theorem supK_iff_supKey {t : Tbl} (ht : t.WF) (k : Bytes) : SupK t k ↔ SupKey t k :=
  ⟨supKey_of_supK, supK_of_supKey ht⟩

/-- the shape of an accepted key: `name-hexdigits`, no `-` in the name, only characters from `0` up
(in particular no space) after it -/
theorem supK_form {t : Tbl} (ht : t.WF) {k : Bytes} (h : SupK t k) :
    ∃ nm hx, k = nm ++ 45 :: hx ∧ 45 ∉ nm ∧ ∀ c ∈ hx, 48 ≤ c := by
  obtain ⟨nm, sum, hs, _, hk⟩ := supKey_text (supKey_of_supK h)
  exact ⟨nm, hexEnc sum, hk, validName_no_dash _ (known_name_valid t ht _ _ hs).1, hexEnc_ge sum⟩

/-- received keys satisfy `SupK`: this IS `Op.KOK (SupK t)` of Spec/RefMap -/
def KeyOK (t : Tbl) (op : Op) : Prop := op.KOK (SupK t)

theorem keyOK_iff (t : Tbl) (op : Op) : KeyOK t op ↔ op.KOK (SupK t) := Iff.rfl

instance (t : Tbl) (op : Op) : Decidable (KeyOK t op) := by
  unfold KeyOK Op.KOK
  split <;> infer_instance

/-- the invariant of the store: the tree is in the layout, and its listing is a good map -/
def FilesInv (t : Tbl) (content : Bytes → Bytes) (root : Tree) : Prop :=
  Lay t 0 [] root ∧ Good content (flat root)

/-- **the file-per-blob store refines the reference map** on histories whose received keys are
texts of supported-hash refs (any table with `TblOK`; fetch/stat/remove/enumerate arguments are
arbitrary strings) -/
def filesRefines (t : Tbl) (ht : TblOK t) (content : Bytes → Bytes) :
    RefinesOn content (filesImpl t) (KeyOK t) where
  abs := flat
  Inv := FilesInv t content
  init_inv := ⟨trivial, good_nil content⟩
  init_abs := rfl
  good := fun _ h => h.2
  step_ok := by
    intro root op ⟨hL, hG⟩ hop hok
    cases op with
    | recv k v =>
      have hk : SupKey t k := supKey_of_supK hok
      obtain ⟨nm, s1, s2, hloc, _⟩ := loc_supKey ht hk
      obtain ⟨hs1, hs2⟩ := store_ok ht v hk hloc hL
      have hG' := good_next hG _ hop
      rw [next_recv_good hG _ _ hop.1] at hG' ⊢
      simp only [filesImpl, hloc]
      exact ⟨rfl, hs2, hs1, hs2 ▸ hG'⟩
    | fetch k | stat k =>
      simp only [filesImpl, out, next]
      cases hloc : locOf t k with
      | none => rw [get_noKey (noKey_of_no_loc ht hL hloc)]; exact ⟨rfl, rfl, hL, hG⟩
      | some loc =>
        simp only [(at_loc ht hL hloc).1]
        cases SMap.get (flat root) k <;> exact ⟨rfl, rfl, hL, hG⟩
    | rm k =>
      have hG' : Good content (del k (flat root)) := good_next hG (.rm k) trivial
      simp only [filesImpl, out, next]
      cases hloc : locOf t k with
      | none => rw [del_noKey (noKey_of_no_loc ht hL hloc)]; exact ⟨rfl, rfl, hL, hG⟩
      | some loc =>
        obtain ⟨_, r1, r2⟩ := at_loc ht hL hloc
        exact ⟨rfl, r2, r1, r2 ▸ hG'⟩
    | enum after limit =>
      simp only [filesImpl, out, next, enumerate, walk_eq ht after hL limit]
      exact ⟨trivial, trivial, hL, hG⟩

/-- EnumerateBlobs on any tree in the layout: exactly the specification of enumerate on the listing -/
theorem enumerate_eq {t : Tbl} (ht : TblOK t) {root : Tree} (h : Lay t 0 [] root)
    (after : Bytes) (limit : Nat) :
    enumerate t root after limit = .refs (enumOf (flat root) after limit) := by
  simp only [enumerate, walk_eq ht after h limit]

theorem files_run_eq_tbl (t : Tbl) (ht : TblOK t) (content : Bytes → Bytes) (ops : List Op)
    (hwk : ∀ op ∈ ops, op.WK content) (hk : ∀ op ∈ ops, KeyOK t op) :
    (filesImpl t).run (filesImpl t).init ops = RefMap.run [] ops :=
  (filesRefines t ht content).run_init ops hwk hk

/-- … with the hash table of /repo (sha1, sha224, sha256) -/
theorem files_run_eq (content : Bytes → Bytes) (ops : List Op)
    (hwk : ∀ op ∈ ops, op.WK content) (hk : ∀ op ∈ ops, KeyOK gtbl op) :
    (filesImpl gtbl).run (filesImpl gtbl).init ops = RefMap.run [] ops :=
  files_run_eq_tbl gtbl gtbl_ok content ops hwk hk

/-- every key the store holds is an accepted key (from the layout: every file is `<text>.dat` of a
supported ref) -/
theorem filesInv_keys {t : Tbl} (ht : TblOK t) {content : Bytes → Bytes} {root : Tree}
    (h : FilesInv t content root) {k v : Bytes} (hg : SMap.get (flat root) k = some v) : SupK t k :=
  supK_of_supKey ht.1 (lay_supKey h.1 (k, v) (get_some_mem hg))

/-- the same refinement in the combinator-ready form of Spec/RefMap: a `RefinesK` for the key
predicate `SupK t` -/
def filesRefinesK (t : Tbl) (ht : TblOK t) (content : Bytes → Bytes) :
    RefinesK content (SupK t) (filesImpl t) where
  abs := flat
  Inv := FilesInv t content
  init_inv := (filesRefines t ht content).init_inv
  init_abs := rfl
  good := fun _ h => h.2
  keys := fun _ h _ _ hg => filesInv_keys ht h hg
  step_ok := fun s op h hop hk => (filesRefines t ht content).step_ok s op h hop hk

theorem filesRefinesK_abs (t : Tbl) (ht : TblOK t) (content : Bytes → Bytes) :
    (filesRefinesK t ht content).abs = flat := rfl

theorem filesRefinesK_inv (t : Tbl) (ht : TblOK t) (content : Bytes → Bytes) :
    (filesRefinesK t ht content).Inv = FilesInv t content := rfl

theorem files_run_eq_K (t : Tbl) (ht : TblOK t) (content : Bytes → Bytes) (ops : List Op)
    (hwk : ∀ op ∈ ops, op.WK content) (hk : ∀ op ∈ ops, op.KOK (SupK t)) :
    (filesImpl t).run (filesImpl t).init ops = RefMap.run [] ops :=
  (filesRefinesK t ht content).run_init ops hwk hk

/-! ## outside the scope: what `KeyOK` and `TblOK` exclude, with witnesses

`blob.Parse` also accepts refs of hash names outside the table (`parseUnknown`), with digests of any
length from 1 hex digit.  The store takes them, but its enumeration is then NOT the specification:

* digests of fewer than 4 hex digits are filed under `____`-padded shard directories, and `_` sorts
  after the digits `0-9`: `foo-abc` lives in `foo/ab/c_/`, `foo-abc0` in `foo/ab/c0/`, and the walk
  sends `foo-abc0` BEFORE `foo-abc` (checked against the Go code: same answer);
* a hash called `cache`, `packed` or `partition` is a directory the walk skips: `cache-abcd` is
  stored, fetched and statted, but never enumerated (checked against the Go code: same answer).

Both are excluded by `KeyOK` (supported hashes only) together with `TblOK` (digests ≥ 2 bytes, no
hash with a skipped name). -/

/-- `foo-abc0`, `foo-abc`: the enumeration is out of order -/
theorem files_short_digest_counterexample :
    (filesImpl gtbl).run .nil
      [.recv [102, 111, 111, 45, 97, 98, 99, 48] [1], .recv [102, 111, 111, 45, 97, 98, 99] [2],
       .enum [] 10] =
      [.sized 1, .sized 1,
       .refs [([102, 111, 111, 45, 97, 98, 99, 48], 1), ([102, 111, 111, 45, 97, 98, 99], 1)]] ∧
    RefMap.run []
      [.recv [102, 111, 111, 45, 97, 98, 99, 48] [1], .recv [102, 111, 111, 45, 97, 98, 99] [2],
       .enum [] 10] =
      [.sized 1, .sized 1,
       .refs [([102, 111, 111, 45, 97, 98, 99], 1), ([102, 111, 111, 45, 97, 98, 99, 48], 1)]] ∧
    ¬ KeyOK gtbl (.recv [102, 111, 111, 45, 97, 98, 99] [2]) := by
  decide +kernel

/-- `cache-abcd`: stored and fetched, never enumerated -/
theorem files_skipdir_counterexample :
    (filesImpl gtbl).run .nil
      [.recv [99, 97, 99, 104, 101, 45, 97, 98, 99, 100] [7], .fetch [99, 97, 99, 104, 101, 45, 97, 98, 99, 100],
       .enum [] 10] = [.sized 1, .bytes [7], .refs []] ∧
    RefMap.run []
      [.recv [99, 97, 99, 104, 101, 45, 97, 98, 99, 100] [7], .fetch [99, 97, 99, 104, 101, 45, 97, 98, 99, 100],
       .enum [] 10] = [.sized 1, .bytes [7], .refs [([99, 97, 99, 104, 101, 45, 97, 98, 99, 100], 1)]] ∧
    ¬ KeyOK gtbl (.recv [99, 97, 99, 104, 101, 45, 97, 98, 99, 100] [7]) := by
  decide +kernel

/-- non-vacuity: the text of a sha1 ref is an accepted key, and a history over it runs as the theorem says -/
example : KeyOK gtbl (.recv (toText ⟨[115, 104, 97, 49], List.replicate 20 171, false⟩) [1, 2, 3]) := by
  decide

example :
    (filesImpl gtbl).run .nil
      [.recv (toText ⟨[115, 104, 97, 49], List.replicate 20 171, false⟩) [1, 2, 3],
       .enum [115, 104, 97, 49, 45, 97, 98, 97] 1, .enum [115, 104, 97, 49, 45, 97, 99] 1] =
      [.sized 3, .refs [(toText ⟨[115, 104, 97, 49], List.replicate 20 171, false⟩, 3)], .refs []] := by
  decide +kernel

end Pk.Files
