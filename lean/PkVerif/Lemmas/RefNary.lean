import PkVerif.Lemmas.RefMerge
import PkVerif.Lemmas.MergedNest
/-!
# C01: shard and replica over ANY number of sub-stores

`shardNImpl` / `replicaNImpl` (Model/Stores.lean) are the loops of shard.go / replica.go over the slice of
sub-stores, with ONE n-way merged enumeration.  Both refine the reference map whenever every sub-store
does:

* shard: the n-way shard steps exactly like the right-nested tree of two-way shards
  (`shardNestImpl`; point operations by computation, enumeration by `MergedEnum.merged_cons_nest`), whose
  refinement is `shard2Refines` level by level;
* replica: directly – every replica holds the same map, so every loop meets the same answer
  (`MergedEnum.merged_all_same` for the enumeration).

The n-way shard gets a run theorem only (`shardN_run_eq`), no `Refines`, so it cannot sit under another
combinator as such (its nested tree can); the n-way replica gets `replicaNRefines`.

`interp_shardNest` / `interp_replicaNest`: the configuration trees the drivers build for
`shardN` / `replicaN` denote exactly these nested models.
-/
namespace Pk.Stores
open Pk Pk.SMap Pk.RefMap

theorem interp_shardNest (route isSchema : Bytes → Bool) (sum : Bytes → Nat) (n : Nat)
    (r : List Cfg) (k : Cfg) (i : Nat) :
    interp route isSchema (Cfg.shardNest sum n i k r) =
      shardNestImpl sum n i (interp route isSchema k) (r.map (interp route isSchema)) := by
  induction r generalizing k i with
  | nil => rfl
  | cons k' r ih => simp only [Cfg.shardNest, interp, List.map_cons, shardNestImpl, ih]

theorem interp_replicaNest (route isSchema : Bytes → Bool) :
    ∀ (r : List Cfg) (k : Cfg),
      interp route isSchema (Cfg.replicaNest k r) =
        replicaNestImpl (interp route isSchema k) (r.map (interp route isSchema)) := by
  intro r
  induction r with
  | nil => intro _; rfl
  | cons k' r ih => intro k; simp only [Cfg.replicaNest, interp, List.map_cons, replicaNestImpl, ih]

theorem wf_shardNest (sum : Bytes → Nat) (n : Nat) (r : List Cfg) (k : Cfg) (i : Nat)
    (hk : k.WF = true) (hr : ∀ c ∈ r, c.WF = true) : (Cfg.shardNest sum n i k r).WF = true := by
  induction r generalizing k i with
  | nil => exact hk
  | cons k' r ih =>
    simp only [Cfg.shardNest, Cfg.WF, Bool.and_eq_true]
    exact ⟨hk, ih k' (i + 1) (hr k' List.mem_cons_self) fun c hc => hr c (List.mem_cons_of_mem _ hc)⟩

theorem wf_replicaNest (r : List Cfg) (k : Cfg) (hk : k.WF = true) (hr : ∀ c ∈ r, c.WF = true) :
    (Cfg.replicaNest k r).WF = true := by
  induction r generalizing k with
  | nil => exact hk
  | cons k' r ih =>
    simp only [Cfg.replicaNest, Cfg.WF, Bool.and_eq_true]
    exact ⟨hk, ih k' (hr k' List.mem_cons_self) fun c hc => hr c (List.mem_cons_of_mem _ hc)⟩

/-- a refinement proof for every sub-store of a list -/
def RKids (content : Bytes → Bytes) : List Impl → Type
  | [] => Unit
  | k :: r => Refines content k × RKids content r

theorem enumOf_asc {content : Bytes → Bytes} {A : SMap Bytes} (hA : Good content A) (after : Bytes)
    (limit : Nat) :
    Asc ltB (MergedEnum.keys (enumOf A after limit)) ∧ (enumOf A after limit).length ≤ limit := by
  refine ⟨?_, by simp [enumOf, List.length_take]; omega⟩
  rw [MergedEnum.ascK_iff_pw]
  exact List.Pairwise.sublist (List.take_sublist _ _) (pw_sizes (kasc_filter _ hA.1))

theorem step_at {content : Bytes → Bytes} {I : Impl} (R : Refines content I) {s : I.σ} {A : SMap Bytes}
    (hi : R.Inv s) (ha : R.abs s = A) (op : Op) (hop : op.WK content) :
    ∃ s1, I.step s op = (s1, out A op) ∧ R.Inv s1 ∧ R.abs s1 = next A op := by
  obtain ⟨ho, ha', hi'⟩ := R.step_ok s op hi hop
  rw [ha] at ho ha'
  exact ⟨_, Prod.ext rfl ho, hi', ha'⟩

/-- the state of the list of sub-stores as the state of the nested tree -/
def toNest (route : Bytes → Nat) (n : Nat) :
    (r : List Impl) → (k : Impl) → (i : Nat) → KidsSt (k :: r) → (shardNestImpl route n i k r).σ
  | [], _, _, s => s.1
  | k' :: r, _, i, s => (s.1, toNest route n r k' (i + 1) s.2)

theorem toNest_init (route : Bytes → Nat) (n : Nat) (r : List Impl) (k : Impl) (i : Nat) :
    toNest route n r k i (kidsInit (k :: r)) = (shardNestImpl route n i k r).init := by
  induction r generalizing k i with
  | nil => rfl
  | cons k' r ih =>
    simp only [toNest, kidsInit, shardNestImpl, shard2Impl]
    rw [← ih k' (i + 1)]
    rfl

theorem pair_step_eq {α β γ : Type} (a : α) {x : β × γ} {y1 : β} {y2 : γ} (h : x = (y1, y2)) :
    ((a, x.1), x.2) = ((a, y1), y2) := by subst h; rfl

/-- receive / fetch / stat / remove: indexing the slice is walking down the tree -/
theorem nest_point (route : Bytes → Nat) (n : Nat) (op : Op) (hne : opIsEnum op = false)
    (r : List Impl) (k : Impl) (i : Nat) (s : KidsSt (k :: r))
    (h1 : i ≤ route (opKey op) % n) (h2 : route (opKey op) % n < i + 1 + r.length) :
    (shardNestImpl route n i k r).step (toNest route n r k i s) op =
      (toNest route n r k i (stepAt (k :: r) s (route (opKey op) % n - i) op).1,
       (stepAt (k :: r) s (route (opKey op) % n - i) op).2) := by
  induction r generalizing k i with
  | nil =>
    have e : route (opKey op) % n - i = 0 := Nat.sub_eq_zero_of_le (Nat.le_of_lt_succ h2)
    rw [e]
    obtain ⟨sk, su⟩ := s
    simp only [shardNestImpl, toNest, stepAt]
  | cons k' r ih =>
    obtain ⟨sk, sr⟩ := s
    simp only [shardNestImpl, toNest]
    rw [shard2_step_keyed _ _ _ _ _ op hne]
    by_cases hj : route (opKey op) % n = i
    ·
      simp only [hj, Nat.sub_self, stepAt, bne_self_eq_false, Bool.false_eq_true, if_false]
      rfl
    ·
      have hlt : i < route (opKey op) % n := Nat.lt_of_le_of_ne h1 (Ne.symm hj)
      have e : route (opKey op) % n - i = (route (opKey op) % n - (i + 1)) + 1 :=
        (Nat.succ_pred_eq_of_pos (Nat.sub_pos_of_lt hlt)).symm
      have ih := ih k' (i + 1) sr hlt (by rw [Nat.add_right_comm]; exact h2)
      simp only [e, stepAt, bne_iff_ne, ne_eq, hj, not_false_eq_true, if_true]
      exact pair_step_eq sk ih

def shardNestRefines {content : Bytes → Bytes} (route : Bytes → Nat) (n : Nat) :
    (r : List Impl) → (k : Impl) → (i : Nat) → Refines content k → RKids content r →
      Refines content (shardNestImpl route n i k r)
  | [], _, _, Rk, _ => Rk
  | k' :: r, _, i, Rk, Rr =>
    shard2Refines (fun key => route key % n != i) Rk (shardNestRefines route n r k' (i + 1) Rr.1 Rr.2)

/-- enumerate: under the tree's invariant every sub-store sends an ascending list within the limit,
and the ONE n-way merge of the slice is the nested two-way merges of the tree -/
theorem nest_enum {content : Bytes → Bytes} (route : Bytes → Nat) (n : Nat) (after : Bytes)
    (limit : Nat) (r : List Impl) (k : Impl) (i : Nat) (Rk : Refines content k)
    (Rr : RKids content r) (s : KidsSt (k :: r))
    (h : (shardNestRefines route n r k i Rk Rr).Inv (toNest route n r k i s)) :
    ∃ s1 srcs, enumAll (k :: r) s after limit = (s1, some srcs) ∧ MergedEnum.AllAsc srcs ∧
      (shardNestImpl route n i k r).step (toNest route n r k i s) (.enum after limit) =
        (toNest route n r k i s1, .refs (MergedEnum.mergedEnumerate limit srcs)) := by
  induction r generalizing k i with
  | nil =>
    obtain ⟨sk, su⟩ := s
    have h' : Rk.Inv sk := h
    obtain ⟨sk1, hk, -, -⟩ := step_at Rk h' rfl (.enum after limit) trivial
    obtain ⟨hasc, hlen⟩ := enumOf_asc (Rk.good sk h') after limit
    refine ⟨(sk1, su), [enumOf (Rk.abs sk) after limit], by simp only [enumAll, hk, out], ?_, ?_⟩
    · intro t ht; rw [List.mem_singleton.mp ht]; exact hasc
    · simp only [shardNestImpl, toNest, hk, out]
      rw [MergedEnum.merged_single limit _ hasc hlen]
  | cons k' r ih =>
    obtain ⟨sk, sr⟩ := s
    have h' : PartInv Rk (shardNestRefines route n r k' (i + 1) Rr.1 Rr.2)
        (fun key => route key % n != i) (sk, toNest route n r k' (i + 1) sr) := h
    obtain ⟨sk1, hk, -, -⟩ := step_at Rk h'.1 rfl (.enum after limit) trivial
    obtain ⟨hasc, hlen⟩ := enumOf_asc (Rk.good sk h'.1) after limit
    obtain ⟨sr1, srcs, hs, hall, hstep⟩ := ih k' (i + 1) Rr.1 Rr.2 sr h'.2.1
    have hall' : MergedEnum.AllAsc (enumOf (Rk.abs sk) after limit :: srcs) := by
      intro t ht
      rcases List.mem_cons.mp ht with rfl | ht'
      · exact hasc
      · exact hall t ht'
    refine ⟨(sk1, sr1), _, by simp only [enumAll, hk, out, hs], hall', ?_⟩
    simp only [shardNestImpl, toNest, shard2Impl, enum2, hk, out]
    -- the state type of `shardNestImpl … (k' :: r)` is a pair only after unfolding `σ`: hence `erw`
    erw [hstep]
    simp only []
    rw [MergedEnum.merged_cons_nest limit _ srcs hall']

theorem shardN_step_keyed (route : Bytes → Nat) (kids : List Impl) (s : KidsSt kids) (op : Op)
    (hne : opIsEnum op = false) :
    (shardNImpl route kids).step s op = stepAt kids s (route (opKey op) % kids.length) op := by
  cases op with
  | enum _ _ => cases hne
  | _ => rfl

/-- **shard over any number of sub-stores refines the reference map whenever every sub-store does**:
`shardNImpl` – the slice of shards indexed by `route k % len`, ONE n-way merged enumeration – answers
every well-keyed history from its initial state exactly as the reference map does -/
theorem shardN_run_eq {content : Bytes → Bytes} (route : Bytes → Nat) (k : Impl) (r : List Impl)
    (Rk : Refines content k) (Rr : RKids content r) (ops : List Op) (hops : ∀ op ∈ ops, op.WK content) :
    (shardNImpl route (k :: r)).run (shardNImpl route (k :: r)).init ops = RefMap.run [] ops := by
  generalize hn : r.length + 1 = n
  have hlen : (k :: r).length = n := hn
  let R := shardNestRefines route n r k 0 Rk Rr
  have hsim := run_eq_of_sim (I := shardNImpl route (k :: r)) (J := shardNestImpl route n 0 k r)
    (toNest route n r k 0) R.Inv (fun op => op.WK content) (by
      intro s op hI hop
      refine ⟨?_, (R.step_ok (toNest route n r k 0 s) op hI hop).2.2⟩
      cases he : opIsEnum op with
      | true =>
        cases op with
        | enum after limit =>
          obtain ⟨s1, srcs, hs, -, hstep⟩ := nest_enum route n after limit r k 0 Rk Rr s hI
          rw [hstep]
          simp only [shardNImpl, enumN, hs]
        | _ => cases he
      | false =>
        have hlt : route (opKey op) % n < 0 + 1 + r.length := by
          have := Nat.mod_lt (route (opKey op)) (show 0 < n by omega)
          omega
        rw [nest_point route n op he r k 0 s (Nat.zero_le _) hlt,
          shardN_step_keyed route (k :: r) s op he, hlen, Nat.sub_zero])
  have hinit : toNest route n r k 0 (shardNImpl route (k :: r)).init = (shardNestImpl route n 0 k r).init :=
    toNest_init route n r k 0
  rw [hsim ops _ (by rw [hinit]; exact R.init_inv) hops, hinit]
  exact R.run_init ops hops

/-- every sub-store satisfies its invariant and holds exactly the map `A` -/
def AllAt {content : Bytes → Bytes} : (kids : List Impl) → RKids content kids → KidsSt kids → SMap Bytes → Prop
  | [], _, _, _ => True
  | _ :: r, R, s, A => R.1.Inv s.1 ∧ R.1.abs s.1 = A ∧ AllAt r R.2 s.2 A

theorem allAt_init {content : Bytes → Bytes} (kids : List Impl) (R : RKids content kids) :
    AllAt kids R (kidsInit kids) [] := by
  induction kids with
  | nil => trivial
  | cons _ r ih => exact ⟨R.1.init_inv, R.1.init_abs, ih R.2⟩

theorem stepAll_spec {content : Bytes → Bytes} (op : Op) (hop : op.WK content) (A : SMap Bytes)
    (kids : List Impl) (R : RKids content kids) (s : KidsSt kids) (h : AllAt kids R s A) :
    ∃ s1, stepAll kids s op = (s1, List.replicate kids.length (out A op)) ∧
      AllAt kids R s1 (next A op) := by
  induction kids with
  | nil => exact ⟨_, rfl, trivial⟩
  | cons k r ih =>
    obtain ⟨sk, sr⟩ := s
    obtain ⟨hi, ha, hr⟩ := h
    obtain ⟨sk1, hk, hi', ha'⟩ := step_at R.1 hi ha op hop
    obtain ⟨sr1, hs, ih⟩ := ih R.2 sr hr
    exact ⟨(sk1, sr1), by simp only [stepAll, hk, hs, List.length_cons, List.replicate_succ],
      hi', ha', ih⟩

theorem fetchFirst_none {content : Bytes → Bytes} (key : Bytes) (A : SMap Bytes)
    (hA : SMap.get A key = none)
    (kids : List Impl) (R : RKids content kids) (s : KidsSt kids) (failed : Bool) (h : AllAt kids R s A) :
    AllAt kids R (fetchFirst kids s key failed).1 A ∧
      (fetchFirst kids s key failed).2 = (if failed then .err else .notExist) := by
  induction kids with
  | nil => exact ⟨trivial, rfl⟩
  | cons k r ih =>
    obtain ⟨sk, sr⟩ := s
    obtain ⟨hi, ha, hr⟩ := h
    obtain ⟨sk1, hk, hi', ha'⟩ := step_at R.1 hi ha (.fetch key) trivial
    obtain ⟨ih1, ih2⟩ := ih R.2 sr hr
    simp only [out, hA] at hk
    simp only [fetchFirst, hk]
    exact ⟨⟨hi', ha', ih1⟩, ih2⟩

theorem fetchFirst_some {content : Bytes → Bytes} (key v : Bytes) (A : SMap Bytes)
    (hA : SMap.get A key = some v) (k : Impl) (r : List Impl) (R : RKids content (k :: r))
    (s : KidsSt (k :: r)) (failed : Bool) (h : AllAt (k :: r) R s A) :
    AllAt (k :: r) R (fetchFirst (k :: r) s key failed).1 A ∧
      (fetchFirst (k :: r) s key failed).2 = .bytes v := by
  obtain ⟨sk, sr⟩ := s
  obtain ⟨hi, ha, hr⟩ := h
  obtain ⟨sk1, hk, hi', ha'⟩ := step_at R.1 hi ha (.fetch key) trivial
  simp only [out, hA] at hk
  simp only [fetchFirst, hk]
  exact ⟨⟨hi', ha', hr⟩, trivial⟩

theorem enumAll_spec {content : Bytes → Bytes} (after : Bytes) (limit : Nat) (A : SMap Bytes)
    (kids : List Impl) (R : RKids content kids) (s : KidsSt kids) (h : AllAt kids R s A) :
    ∃ s1, enumAll kids s after limit =
        (s1, some (List.replicate kids.length (enumOf A after limit))) ∧ AllAt kids R s1 A := by
  induction kids with
  | nil => exact ⟨_, rfl, trivial⟩
  | cons k r ih =>
    obtain ⟨sk, sr⟩ := s
    obtain ⟨hi, ha, hr⟩ := h
    obtain ⟨sk1, hk, hi', ha'⟩ := step_at R.1 hi ha (.enum after limit) trivial
    obtain ⟨sr1, hs, ih⟩ := ih R.2 sr hr
    exact ⟨(sk1, sr1), by simp only [enumAll, hk, out, hs, List.length_cons, List.replicate_succ],
      hi', ha', ih⟩

theorem statAnsN_sized (m n : Nat) : statAnsN (List.replicate (n + 1) (.sized m)) = .sized m := by
  induction n with
  | zero => rfl
  | succ n ih => rw [List.replicate_succ, statAnsN, ih]

theorem statAnsN_notExist (n : Nat) : statAnsN (List.replicate n .notExist) = .notExist := by
  induction n with
  | zero => rfl
  | succ n ih => rw [List.replicate_succ, statAnsN, ih]

/-- **replica over any number of sub-stores refines the reference map whenever every sub-store does**
(all replicas read and written, `minWritesForSuccess` = their number): the invariant is that every
replica holds the same map -/
def replicaNRefines {content : Bytes → Bytes} (k : Impl) (r : List Impl) (R : RKids content (k :: r)) :
    Refines content (replicaNImpl (k :: r)) where
  abs := fun s => R.1.abs s.1
  Inv := fun s => AllAt (k :: r) R s (R.1.abs s.1)
  init_inv := by
    have h := allAt_init (k :: r) R
    have e : R.1.abs (replicaNImpl (k :: r)).init.1 = [] := R.1.init_abs
    rw [e]; exact h
  init_abs := R.1.init_abs
  good := fun s h => R.1.good s.1 h.1
  step_ok := by
    intro s op h hop
    -- the new state's first replica holds `next A op`, so `AllAt … (next A op)` is the new invariant
    have fin : ∀ (s' : KidsSt (k :: r)) (o : Out), AllAt (k :: r) R s' (next (R.1.abs s.1) op) →
        o = out (R.1.abs s.1) op →
        o = out (R.1.abs s.1) op ∧ R.1.abs s'.1 = next (R.1.abs s.1) op ∧ AllAt (k :: r) R s' (R.1.abs s'.1) := by
      intro s' o h' ho
      have e : R.1.abs s'.1 = next (R.1.abs s.1) op := h'.2.1
      exact ⟨ho, e, by rw [e]; exact h'⟩
    cases op with
    | recv key v =>
      obtain ⟨s1, hs, h1⟩ := stepAll_spec (.recv key v) hop _ (k :: r) R s h
      simp only [replicaNImpl, hs]
      exact fin _ _ h1 (by simp [out, List.all_replicate])
    | stat key =>
      obtain ⟨s1, hs, h1⟩ := stepAll_spec (.stat key) hop _ (k :: r) R s h
      simp only [replicaNImpl, hs]
      apply fin _ _ h1
      simp only [out, List.length_cons]
      cases SMap.get (R.1.abs s.1) key with
      | none => exact statAnsN_notExist _
      | some w => exact statAnsN_sized _ _
    | rm key =>
      obtain ⟨s1, hs, h1⟩ := stepAll_spec (.rm key) hop _ (k :: r) R s h
      simp only [replicaNImpl, hs]
      exact fin _ _ h1 (by simp [out, List.replicate_succ])
    | fetch key =>
      simp only [replicaNImpl]
      cases hA : SMap.get (R.1.abs s.1) key with
      | none =>
        obtain ⟨h1, h2⟩ := fetchFirst_none key _ hA (k :: r) R s false h
        exact fin _ _ h1 (by rw [h2]; simp [out, hA])
      | some w =>
        obtain ⟨h1, h2⟩ := fetchFirst_some key w _ hA k r R s false h
        exact fin _ _ h1 (by rw [h2]; simp [out, hA])
    | enum after limit =>
      obtain ⟨s1, hs, h1⟩ := enumAll_spec after limit _ (k :: r) R s h
      simp only [replicaNImpl, enumN, hs]
      apply fin _ _ h1
      simp only [out]
      congr 1
      obtain ⟨ha, hl⟩ := enumOf_asc (R.1.good s.1 h.1) after limit
      exact MergedEnum.merged_all_same limit _ _ (by simp [List.replicate_succ])
        (fun t ht => (List.mem_replicate.mp ht).2) ha hl

end Pk.Stores
