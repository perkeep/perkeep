import PkVerif.Lemmas.BlobPacked
/-!
# Lemmas for C04: reading a whole file back from the zips, given the `w:` rows of a complete pack
-/
namespace Pk.BP
open Pk Pk.SMap
variable {C : Ref → Bytes}

theorem insertPart_last (x : WPart) : ∀ (l : List WPart), (∀ y ∈ l, y.idx < x.idx) → insertPart x l = l ++ [x]
  | [], _ => rfl
  | y :: ys, h => by
    have hy := h y (by simp)
    simp only [insertPart, show ¬ x.idx ≤ y.idx by omega, if_false, List.cons_append]
    rw [insertPart_last x ys (fun z hz => h z (List.mem_cons_of_mem _ hz))]

theorem mem_sortParts (x : WPart) : ∀ (l : List WPart), x ∈ sortParts l ↔ x ∈ l := by
  have hins : ∀ (a : WPart) (l : List WPart), x ∈ insertPart a l ↔ x = a ∨ x ∈ l := by
    intro a l
    induction l with
    | nil => simp [insertPart]
    | cons y ys ih => simp only [insertPart]; split <;> simp [ih, or_left_comm]
  intro l
  induction l with
  | nil => simp [sortParts]
  | cons a as ih => simp [sortParts, hins, ih]

theorem sortParts_snoc_min (x : WPart) : ∀ (a : List WPart), (∀ y ∈ a, x.idx < y.idx) →
    sortParts (a ++ [x]) = x :: sortParts a
  | [], _ => rfl
  | y :: ys, h => by
    have hy := h y (by simp)
    simp only [List.cons_append, sortParts]
    rw [sortParts_snoc_min x ys (fun z hz => h z (List.mem_cons_of_mem _ hz))]
    simp only [insertPart, show ¬ y.idx ≤ x.idx by omega, if_false]

/-- the part rows of a running/complete pack (stored newest first) sort back into zip order -/
theorem sortParts_reverse_chain : ∀ (zs : List ZipRec) (i o : Nat), Chain zs i o →
    sortParts (zs.map toPart).reverse = zs.map toPart
  | [], _, _, _ => rfl
  | q :: qs, i, o, hc => by
    obtain ⟨c1, _, c3⟩ := hc
    simp only [List.map_cons, List.reverse_cons]
    rw [sortParts_snoc_min, sortParts_reverse_chain qs (i + 1) _ c3]
    intro y hy
    simp only [List.mem_reverse, List.mem_map] at hy
    obtain ⟨r, hr, rfl⟩ := hy
    have := (chain_idx qs (i + 1) _ c3 r hr).1
    simp only [toPart]
    omega

theorem contiguous_chain : ∀ (zs : List ZipRec) (i o : Nat), Chain zs i o → contiguous (zs.map toPart) i = true
  | [], _, _, _ => rfl
  | q :: qs, i, o, hc => by
    obtain ⟨c1, _, c3⟩ := hc
    simp only [List.map_cons, contiguous, toPart, c1, beq_self_eq_true, Bool.true_and]
    exact contiguous_chain qs (i + 1) _ c3

/-- the part row is backed by bytes `B` in `large`: every sub-range of it reads as the sub-slice -/
def Backed (s : St) (p : WPart) (B : Bytes) : Prop :=
  B.length = p.len ∧ ∃ z, get s.large p.zip = some z ∧
    ∀ o n, o + n ≤ p.len → z.read (p.zipOff + o) n = some (slice B o n)

inductive BackedL (s : St) : List WPart → List Bytes → Prop
  | nil : BackedL s [] []
  | cons {p B ps Bs} : Backed s p B → BackedL s ps Bs → BackedL s (p :: ps) (B :: Bs)

theorem readParts_backed (s : St) {ps : List WPart} {Bs : List Bytes} (h : BackedL s ps Bs) :
    ∀ (acc : Bytes), readParts s ps Bs.flatten.length acc = (.ok 0 [], acc ++ Bs.flatten) := by
  induction h with
  | nil => intro acc; simp [readParts]
  | @cons p B ps Bs hb _ ih =>
    intro acc
    obtain ⟨hl, z, hz, hr⟩ := hb
    cases hn : (B :: Bs).flatten.length with
    | zero =>
      -- nothing remains to be read: every remaining part is empty
      simp only [List.flatten_cons, List.length_append] at hn
      have hB : B = [] := List.eq_nil_of_length_eq_zero (Nat.eq_zero_of_add_eq_zero_right hn)
      have hBs : Bs.flatten = [] := List.eq_nil_of_length_eq_zero (Nat.eq_zero_of_add_eq_zero_left hn)
      simp [readParts, hB, hBs]
    | succ m =>
      have hread := hr 0 p.len (Nat.le_of_eq (Nat.zero_add _))
      simp only [Nat.add_zero] at hread
      have hsl : slice B 0 p.len = B := by rw [← hl, slice_full]
      simp only [readParts, hz, hread, hsl]
      have : m + 1 - B.length = Bs.flatten.length := by
        simp only [List.flatten_cons, List.length_append] at hn
        rw [← hn, Nat.add_sub_cancel_left]
      rw [this, ih (acc ++ B)]
      simp

theorem skipParts_backed (s : St) {ps : List WPart} {Bs : List Bytes} (h : BackedL s ps Bs) :
    ∀ (off : Nat), ∃ Bs', BackedL s (skipParts ps off) Bs' ∧ Bs'.flatten = Bs.flatten.drop off := by
  induction h with
  | nil => exact fun _ => ⟨[], .nil, by simp⟩
  | @cons p B ps Bs hb hrest ih =>
    intro off
    obtain ⟨hl, z, hz, hr⟩ := hb
    simp only [skipParts]
    split
    · rename_i hge
      obtain ⟨Bs', hb', he⟩ := ih (off - p.len)
      refine ⟨Bs', hb', ?_⟩
      rw [he, List.flatten_cons, List.drop_append, hl]
      have : B.drop off = [] := List.drop_eq_nil_of_le (hl ▸ hge)
      simp [this]
    · rename_i hlt
      have hlt : off < p.len := Nat.lt_of_not_ge hlt
      split
      · refine ⟨B.drop off :: Bs, .cons ⟨by simp [hl], z, hz, fun o n hon => ?_⟩ hrest, ?_⟩
        · simp only at hon ⊢
          rw [Nat.add_assoc, hr (off + o) n (Nat.add_assoc .. ▸ Nat.add_le_of_le_sub' (Nat.le_of_lt hlt) hon)]
          simp [slice, List.drop_drop]
        · rw [List.flatten_cons, List.flatten_cons, List.drop_append, Nat.sub_eq_zero_of_le (hl ▸ Nat.le_of_lt hlt)]
          simp
      · rename_i hpos
        rw [Nat.eq_zero_of_not_pos hpos]
        exact ⟨B :: Bs, .cons ⟨hl, z, hz, hr⟩ hrest, by simp⟩

theorem goodZip_backed {zipMax : Nat} {allBytes : Bytes} {whole : Ref} {wsz : Nat} {s : St}
    {p : ZipRec} (h : GoodZip C zipMax allBytes whole wsz s p) :
    Backed s (toPart p) (slice allBytes p.off p.len) := by
  obtain ⟨z, hz, _, _, _, _, _, hds, _, hlen, hb, hdata, _⟩ := h
  refine ⟨by rw [← hdata]; exact hlen, z, hz, ?_⟩
  intro o n hon
  simp only [toPart] at hon ⊢
  rw [← hds, Zip.read_data z _ _ (hlen ▸ hon), ← hdata]

theorem backedL_map {s : St} {f : ZipRec → Bytes} : ∀ (zs : List ZipRec), (∀ p ∈ zs, Backed s (toPart p) (f p)) →
    BackedL s (zs.map toPart) (zs.map f)
  | [], _ => .nil
  | q :: qs, h => .cons (h q List.mem_cons_self) (backedL_map qs fun p hp => h p (List.mem_cons_of_mem _ hp))

theorem chain_flatten (allBytes : Bytes) : ∀ (zs : List ZipRec) (i o : Nat), Chain zs i o →
    (zs.map (fun p => slice allBytes p.off p.len)).flatten = slice allBytes o (sumLen zs)
  | [], _, o, _ => by simp [sumLen, slice]
  | q :: qs, i, o, hc => by
    obtain ⟨_, c2, c3⟩ := hc
    simp only [sumLen, List.map_cons, List.flatten_cons]
    rw [chain_flatten allBytes qs (i + 1) (o + q.len) c3, c2]
    simp only [slice]
    rw [← List.drop_drop, List.take_add]

/-- **reading a completely packed file back**: with the `w:` rows a complete pack wrote and its zips
in `large`, `OpenWholeRef(whole, off)` delivers the file's bytes from `off` on, for every offset -/
theorem openWholeRef_of_pack (s' : St) (whole : Ref) (wsz : Nat) (zs : List ZipRec) (allBytes : Bytes)
    (hw : get s'.w whole = some ⟨some (wsz, zs.length), (zs.map toPart).reverse⟩)
    (hg : ∀ p ∈ zs, Backed s' (toPart p) (slice allBytes p.off p.len)) (hc : Chain zs 0 0)
    (hsum : sumLen zs = allBytes.length) (hwsz : wsz = allBytes.length) (off : Nat) :
    openWholeRef s' whole off = .ok wsz (allBytes.drop off) := by
  unfold openWholeRef
  rw [hw]
  simp only [List.length_reverse, List.length_map, ne_eq, not_true_eq_false, if_false]
  rw [sortParts_reverse_chain zs 0 0 hc, contiguous_chain zs 0 0 hc]
  simp only [Bool.not_true, Bool.false_eq_true, if_false]
  obtain ⟨Bs', hb', he⟩ := skipParts_backed s' (backedL_map zs hg) off
  have hfl := chain_flatten allBytes zs 0 0 hc
  rw [hfl, hsum] at he
  rw [slice_full] at he
  have hlen : wsz - off = Bs'.flatten.length := by rw [he, List.length_drop, hwsz]
  rw [hlen, readParts_backed s' hb' []]
  simp [he]

end Pk.BP
