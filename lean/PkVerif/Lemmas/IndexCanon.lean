import PkVerif.Lemmas.Index
/-!
# Schedules, the quiescent index, live = reload (C05, C06)

Every step of a valid schedule keeps `AllInv` (`allInv_run`); so do draining the ready queue and Reindex. At
quiescence each blob of the source is in one of three situations (`final_cases`); its status, its contribution
to the canonical rows and so the rows themselves are read off them (`final_rows`). The canonical rows are
looked at key by key (`get_canonFold_iff`), which also shows that they depend on the set only. The exported
queries see the corpus only through its row map and the set of deletions (`observe_congr`): an index whose
mirrors are exact answers like a reloaded one (`observe_of_mirrors`), and a ReceiveBlob that fails on the store
leaves them exact (`receiveFault_failed`).
-/
namespace Pk.Index
open Pk Pk.SMap

def delivered : List Act → List Ref
  | [] => []
  | .recv b :: rest => b :: delivered rest
  | _ :: rest => delivered rest

theorem mem_delivered (acts : List Act) (b : Ref) : b ∈ delivered acts ↔ Act.recv b ∈ acts := by
  induction acts with
  | nil => simp [delivered]
  | cons a rest ih =>
    cases a <;> simp [delivered, ih]

theorem allInv_step {W : World} {ver : Nat} {s : State} {seen : List Ref} (hW : WF W) (h : AllInv W ver s seen)
    (a : Act) (ha : a.ok s = true) : AllInv W ver (step W ver s a) (delivered [a] ++ seen) := by
  cases a with
  | src b => exact allInv_srcAdd h b
  | recv b => exact allInv_receive hW h b (by simpa [Act.ok] using ha)
  | reidx b => exact allInv_reidx hW h b
  | restart => exact allInv_restart h (by simpa [Act.ok] using ha)

theorem AllInv.weaken {W : World} {ver : Nat} {s : State} {seen seen' : List Ref} (h : AllInv W ver s seen)
    (hs : ∀ b ∈ seen', b ∈ seen) : AllInv W ver s seen' :=
  ⟨h.1.weaken hs, h.2⟩

theorem delivered_cons (a : Act) (rest : List Act) : delivered (a :: rest) = delivered [a] ++ delivered rest := by
  cases a <;> rfl

theorem allInv_run {W : World} {ver : Nat} (hW : WF W) (acts : List Act) (s : State) (seen : List Ref)
    (h : AllInv W ver s seen) (hv : Valid W ver s acts) : AllInv W ver (run W ver s acts) (delivered acts ++ seen) := by
  induction acts generalizing s seen with
  | nil => exact h
  | cons a rest ih =>
    refine (ih _ _ (allInv_step hW h a hv.1) hv.2).weaken fun b hb => ?_
    rw [delivered_cons] at hb
    simp only [List.mem_append] at hb ⊢
    rcases hb with (h | h) | h
    · exact Or.inr (Or.inl h)
    · exact Or.inl h
    · exact Or.inr (Or.inr h)

theorem allInv_reachable {W : World} {ver : Nat} (hW : WF W) {c : Bool} {acts : List Act}
    (hv : Valid W ver (State.init ver c) acts) :
    AllInv W ver (run W ver (State.init ver c) acts) (delivered acts) :=
  List.append_nil (delivered acts) ▸ allInv_run hW acts _ [] (allInv_init W ver c) hv

theorem valid_of_validB (W : World) (ver : Nat) (s : State) (acts : List Act) (h : validB W ver s acts = true) :
    Valid W ver s acts := by
  induction acts generalizing s with
  | nil => trivial
  | cons a rest ih =>
    simp only [validB, Bool.and_eq_true] at h
    exact ⟨h.1, ih _ h.2⟩

theorem commitAll_frame (s : State) (b : Ref) (mm : List Row) (r : Bool) :
    (s.commitAll b mm r).src = s.src ∧ (s.commitAll b mm r).corpus.isSome = s.corpus.isSome := by
  obtain ⟨hsrc', _, hcorp'⟩ := nbi_fields ((s.commit mm).corpusAdd b mm r) b
  obtain ⟨_, _, _, _, hsrc, _, hcorp⟩ := corpusAdd_fields (s.commit mm) b mm r
  refine ⟨hsrc'.trans hsrc, ?_⟩
  rw [State.commitAll, hcorp', hcorp]
  exact Option.isSome_map ..

theorem receive_frame (W : World) (s : State) (b : Ref) :
    (s.receive W b).src = s.src ∧ (s.receive W b).corpus.isSome = s.corpus.isSome := by
  unfold State.receive
  by_cases hi : indexedVal (SMap.get s.rows (kHave b)) = true
  · rw [if_pos hi]; exact ⟨rfl, rfl⟩
  rw [if_neg hi]
  -- `removeAllMissingEdges` is unfolded first: unifying it against `commitAll` is slow
  cases firstMissing W s.src b with
  | some m => exact ⟨rfl, rfl⟩
  | none =>
    cases idep W b with
    | none =>
      dsimp only [State.removeAllMissingEdges]
      exact commitAll_frame s b _ _
    | some t =>
      dsimp only
      cases s.metaType t with
      | none => exact commitAll_frame (s.noteNeeded b t) b _ _
      | some tt =>
        dsimp only [State.removeAllMissingEdges]
        exact commitAll_frame s b _ _

theorem reidx_frame (W : World) (s : State) (b : Ref) :
    (s.reidx W b).src = s.src ∧ (s.reidx W b).corpus.isSome = s.corpus.isSome := by
  unfold State.reidx
  split
  · exact receive_frame W _ b
  · exact ⟨rfl, rfl⟩

theorem step_corpus_isSome (W : World) (ver : Nat) (s : State) (a : Act) :
    (step W ver s a).corpus.isSome = s.corpus.isSome := by
  cases a with
  | src b =>
    show (s.srcAdd b).corpus.isSome = _
    unfold State.srcAdd; split <;> rfl
  | recv b => exact (receive_frame W s b).2
  | reidx b => exact (reidx_frame W s b).2
  | restart =>
    show (s.restart ver).corpus.isSome = _
    unfold State.restart reopen
    cases s.corpus.isSome <;> rfl

theorem run_corpus_isSome (W : World) (ver : Nat) (s : State) (acts : List Act) :
    (run W ver s acts).corpus.isSome = s.corpus.isSome := by
  induction acts generalizing s with
  | nil => rfl
  | cons a rest ih =>
    show (run W ver (step W ver s a) rest).corpus.isSome = _
    rw [ih, step_corpus_isSome]

section canon
variable {W : World} {ver : Nat}

def canonFold (W : World) (ver : Nat) (S : List Ref) (L : List Ref) : SMap Bytes :=
  L.foldr (fun b acc => SMap.union (contrib W S b) acc) [schemaRow ver]

theorem kasc_canonFold (S L : List Ref) : KAsc (canonFold W ver S L) := by
  induction L with
  | nil => exact List.pairwise_singleton _ _
  | cons b rest ih => exact kasc_union _ ih

theorem owns_contrib (S : List Ref) (b : Ref) (k v : Bytes) (h : SMap.get (contrib W S b) k = some v) :
    Owns W b (k, v) := by
  have hmem := get_some_mem h
  have hmiss : ∀ m, (k, v) ∈ [(kMissing b m, [1])] → Owns W b (k, v) := fun m hm => by
    rw [List.mem_singleton.mp hm]; exact Or.inl rfl
  unfold contrib at hmem
  split at hmem
  · exact hmiss _ hmem
  · split at hmem
    · split at hmem
      · exact (good_rowsFor W .full b _ hmem).1
      · exact (List.mem_append.mp hmem).elim (fun h1 => (good_rowsFor W .half b _ h1).1) (hmiss _)
    · exact (good_rowsFor W .full b _ hmem).1

/-- a key of the canonical rows comes from the contribution of a blob – the contributions never disagree –
or, if no blob has it, from the schema row -/
theorem get_canonFold_iff (S L : List Ref) (k v : Bytes) :
    SMap.get (canonFold W ver S L) k = some v ↔
      (∃ b ∈ L, SMap.get (contrib W S b) k = some v) ∨
      ((∀ b ∈ L, SMap.get (contrib W S b) k = none) ∧ SMap.get [schemaRow ver] k = some v) := by
  induction L with
  | nil => simp [canonFold]
  | cons b rest ih =>
    show SMap.get (SMap.union (contrib W S b) (canonFold W ver S rest)) k = some v ↔ _
    rw [get_union]
    simp only [List.mem_cons, exists_eq_or_imp, forall_eq_or_imp]
    cases hg : SMap.get (contrib W S b) k with
    | none => simpa using ih
    | some w =>
      have : ∀ b' ∈ rest, SMap.get (contrib W S b') k = some v → w = v := fun b' _ h' => by
        by_cases e : b = b'
        · rw [← e, hg] at h'; exact Option.some.inj h'
        · exact owns_compat W e (owns_contrib S b k w hg) (owns_contrib S b' k v h')
      simp only [Option.some.injEq, reduceCtorEq, false_and, or_false]
      exact ⟨Or.inl, fun h' => h'.elim id (fun ⟨b', hb', h''⟩ => this b' hb' h'')⟩

end canon

section final
variable {W : World} {ver : Nat} {s : State} {seen : List Ref}

theorem leaf_full (h : Inv W ver s seen none) (hq : s.ready = []) (m : Ref) (hm : m ∈ seen)
    (hl : fdeps W m = [] ∧ idep W m = none) : stOf W s.rows m = .full := by
  cases hst : stOf W s.rows m with
  | full => rfl
  | absent =>
    rcases h.j1 m hm (by simp) (by rw [hst]; simp) with ⟨x, hx⟩ | h1
    · obtain ⟨pre, post, e, _⟩ := h.j4a m x hx hst
      rw [hl.1] at e
      exact absurd e (by simp)
    · rw [hq] at h1; cases h1
  | half =>
    rcases h.j1 m hm (by simp) (by rw [hst]; simp) with ⟨x, hx⟩ | h1
    · rcases h.j4b m x hx hst with h2 | h2
      · rw [hl.2] at h2; cases h2
      · rw [hl.1] at h2; cases h2
    · rw [hq] at h1; cases h1

theorem needs_absent (hW : WF W) (h : Inv W ver s seen none) (hq : s.ready = []) (hall : ∀ b ∈ s.src, b ∈ seen)
    (b m : Ref) (hbm : (b, m) ∈ s.needs) (hst : stOf W s.rows b = .absent) : firstMissing W s.src b = some m := by
  obtain ⟨pre, post, e, hpre⟩ := h.j4a b m hbm hst
  refine (firstMissing_some_iff W s.src b m).mpr ⟨pre, post, e, hpre, fun hm => ?_⟩
  have hleaf := hW.1 b m (by rw [e]; simp)
  have := leaf_full h hq m (hall m hm) hleaf
  rw [h.j2 b m hbm] at this; cases this

theorem needs_half (hW : WF W) (h : Inv W ver s seen none) (hq : s.ready = []) (hall : ∀ b ∈ s.src, b ∈ seen)
    (b m : Ref) (hbm : (b, m) ∈ s.needs) (hst : stOf W s.rows b = .half) : idep W b = some m := by
  rcases h.j4b b m hbm hst with h1 | h1
  · exact h1
  · have hsrc : m ∈ s.src := (firstMissing_none_iff W s.src b).mp (h.j4c b (by rw [hst]; simp)) m h1
    have := leaf_full h hq m (hall m hsrc) (hW.1 b m h1)
    rw [h.j2 b m hbm] at this; cases this

theorem committedIn_iff (S : List Ref) (t : Ref) :
    committedIn W S t = true ↔ t ∈ S ∧ firstMissing W S t = none := by
  unfold committedIn
  simp [Option.isNone_iff_eq_none]

/-- at quiescence, once every blob of the source has been delivered, a blob of the source is in one of three
situations: it waits for its first missing fetch dependency; it is half indexed and waits for its target,
which is not committed; or it is fully indexed, and so is its target as far as the meta row goes -/
theorem final_cases (hW : WF W) (h : Inv W ver s seen none) (hq : s.ready = []) (hall : ∀ b ∈ s.src, b ∈ seen)
    (b : Ref) (hb : b ∈ s.src) :
    (stOf W s.rows b = .absent ∧ ∃ m, firstMissing W s.src b = some m ∧ ∀ y, (b, y) ∈ s.needs ↔ y = m) ∨
    (stOf W s.rows b = .half ∧ firstMissing W s.src b = none ∧
      ∃ t, idep W b = some t ∧ committedIn W s.src t = false ∧ ∀ y, (b, y) ∈ s.needs ↔ y = t) ∨
    (stOf W s.rows b = .full ∧ firstMissing W s.src b = none ∧
      ∀ t, idep W b = some t → committedIn W s.src t = true) := by
  have hwait : ∀ x, x ∈ s.src → stOf W s.rows x ≠ .full → ∃ y, (x, y) ∈ s.needs := fun x hx hne =>
    (h.j1 x (hall x hx) (by simp) hne).resolve_right (by rw [hq]; exact List.not_mem_nil)
  cases hst : stOf W s.rows b with
  | absent =>
    obtain ⟨x, hx⟩ := hwait b hb (by rw [hst]; simp)
    have hfm := needs_absent hW h hq hall b x hx hst
    exact Or.inl ⟨rfl, x, hfm, fun y => ⟨fun hy =>
      Option.some.inj ((needs_absent hW h hq hall b y hy hst).symm.trans hfm), fun e => e ▸ hx⟩⟩
  | half =>
    obtain ⟨x, hx⟩ := hwait b hb (by rw [hst]; simp)
    have hd := needs_half hW h hq hall b x hx hst
    refine Or.inr (Or.inl ⟨rfl, h.j4c b (by rw [hst]; simp), x, hd, ?_, fun y => ⟨fun hy =>
      Option.some.inj ((needs_half hW h hq hall b y hy hst).symm.trans hd), fun e => e ▸ hx⟩⟩)
    -- the target is absent, so it is not in the source or waits for a fetch dependency itself
    have hxa := h.j2 b x hx
    refine Bool.eq_false_iff.mpr fun hc => ?_
    obtain ⟨h1, h2⟩ := (committedIn_iff s.src x).mp hc
    obtain ⟨y, hy⟩ := hwait x h1 (by rw [hxa]; simp)
    rw [needs_absent hW h hq hall x y hy hxa] at h2; cases h2
  | full =>
    refine Or.inr (Or.inr ⟨rfl, h.j4c b (by rw [hst]; simp), fun t hd => ?_⟩)
    have ht := h.j4d b t hst hd
    exact (committedIn_iff s.src t).mpr ⟨h.s1 t ht, h.j4c t ht⟩

/-- at quiescence, once every blob of the source has been delivered, every blob is exactly as far as the
source allows -/
theorem final_status (hW : WF W) (h : Inv W ver s seen none) (hq : s.ready = []) (hall : ∀ b ∈ s.src, b ∈ seen)
    (b : Ref) : stOf W s.rows b = canonStatus W s.src b := by
  unfold canonStatus
  by_cases hb : b ∈ s.src
  · rw [if_neg (by simpa using hb)]
    rcases final_cases hW h hq hall b hb with ⟨e, m, hm, _⟩ | ⟨e, hfm, t, ht, hc, _⟩ | ⟨e, hfm, hc⟩ <;> rw [e]
    · rw [hm]; rfl
    · rw [hfm, ht]; simp [hc]
    · rw [hfm]
      cases hd : idep W b with
      | none => rfl
      | some t => simp [hc t hd]
  · rw [if_pos (by simpa using hb)]
    exact Classical.byContradiction fun e => hb (h.s1 b e)

theorem get_final_contrib (hW : WF W) (h : Inv W ver s seen none) (hq : s.ready = []) (hall : ∀ b ∈ s.src, b ∈ seen)
    (b : Ref) (hb : b ∈ s.src) (k v : Bytes) :
    SMap.get (contrib W s.src b) k = some v ↔
      SMap.get (rowsFor W (stOf W s.rows b) b) k = some v ∨
      (∃ m, (b, m) ∈ s.needs ∧ stOf W s.rows b ≠ .full ∧ k = kMissing b m ∧ v = [1]) := by
  obtain ⟨l, hcontrib, hl⟩ : ∃ l, contrib W s.src b = rowsFor W (stOf W s.rows b) b ++ l ∧
      (SMap.get l k = some v ↔ ∃ m, (b, m) ∈ s.needs ∧ stOf W s.rows b ≠ .full ∧ k = kMissing b m ∧ v = [1]) := by
    have hone : ∀ m, (∀ y, (b, y) ∈ s.needs ↔ y = m) → stOf W s.rows b ≠ .full →
        (SMap.get [(kMissing b m, ([1] : Bytes))] k = some v ↔
          ∃ m, (b, m) ∈ s.needs ∧ stOf W s.rows b ≠ .full ∧ k = kMissing b m ∧ v = [1]) := fun m hn hne => by
      constructor
      · intro hg
        by_cases e : k = kMissing b m
        · rw [e, SMap.get, if_pos rfl] at hg
          exact ⟨m, (hn m).mpr rfl, hne, e, (Option.some.inj hg).symm⟩
        · rw [SMap.get, if_neg e] at hg; cases hg
      · rintro ⟨m', hm', _, rfl, rfl⟩
        rw [(hn m').mp hm', SMap.get, if_pos rfl]
    unfold contrib
    rcases final_cases hW h hq hall b hb with ⟨e, m, hm, hn⟩ | ⟨e, hfm, t, ht, hc, hn⟩ | ⟨e, hfm, hc⟩
    · rw [hm]; exact ⟨_, by rw [e]; rfl, hone m hn (by rw [e]; simp)⟩
    · rw [hfm, ht]; simp only [hc]
      exact ⟨_, by rw [e]; rfl, hone t hn (by rw [e]; simp)⟩
    · refine ⟨[], ?_, ⟨nofun, fun ⟨_, _, hne, _⟩ => absurd e hne⟩⟩
      rw [hfm, e, List.append_nil]
      cases hd : idep W b with
      | none => rfl
      | some t => simp only [hc t hd]; rfl
  rw [hcontrib, get_append, ← hl]
  cases hg : SMap.get (rowsFor W (stOf W s.rows b) b) k with
  | none => simp
  | some v' =>
    refine ⟨Or.inl, fun h' => h'.elim id fun h'' => ?_⟩
    obtain ⟨m, _, _, rfl, _⟩ := hl.mp h''
    rw [rowsFor_no_missing _ _ _ (kMissing_isMissing b m)] at hg; cases hg

/-- the rows of a quiescent, fully delivered index are the canonical rows of its source -/
theorem final_rows (hW : WF W) (h : Inv W ver s seen none) (hq : s.ready = []) (hall : ∀ b ∈ s.src, b ∈ seen) :
    s.rows = canonicalRows W ver s.src := by
  apply SMap.ext h.kasc (kasc_canonFold s.src s.src)
  intro k
  apply Option.ext
  intro v
  show _ ↔ SMap.get (canonFold W ver s.src s.src) k = some v
  rw [get_canonFold_iff]
  have hcontrib : (∃ b ∈ s.src, SMap.get (contrib W s.src b) k = some v) ↔
      (∃ b, SMap.get (rowsFor W (stOf W s.rows b) b) k = some v) ∨
      (∃ b m, (b, m) ∈ s.needs ∧ stOf W s.rows b ≠ .full ∧ k = kMissing b m ∧ v = [1]) := by
    constructor
    · rintro ⟨b, hb, hv⟩
      exact ((get_final_contrib hW h hq hall b hb k v).mp hv).imp (fun h' => ⟨b, h'⟩) (fun h' => ⟨b, h'⟩)
    · rintro (⟨b, hv⟩ | ⟨b, m, hm, hv⟩)
      · have hb : b ∈ s.src := h.s1 b fun e => by rw [e] at hv; cases hv
        exact ⟨b, hb, (get_final_contrib hW h hq hall b hb k v).mpr (Or.inl hv)⟩
      · exact ⟨b, h.s2 b m hm, (get_final_contrib hW h hq hall b (h.s2 b m hm) k v).mpr (Or.inr ⟨m, hm, hv⟩)⟩
  rw [hcontrib]
  by_cases hks : k = kSchema
  · -- the schema row belongs to no blob
    have hno : ∀ b w, ¬ Owns W b (kSchema, w) := fun b w ho =>
      ho.elim (fun e => by cases e) (fun ⟨x, e⟩ => by cases e)
    rw [hks, h.schema]
    constructor
    · intro e
      exact Or.inr ⟨fun b hb => Option.eq_none_iff_forall_ne_some.mpr fun w hw => hno b w (owns_contrib s.src b _ w hw), e⟩
    · rintro (h' | ⟨_, e⟩)
      · rcases h' with ⟨b, hv⟩ | ⟨b, m, _, _, e, _⟩
        · exact absurd (get_good (good_rowsFor W _ b) hv).2.2 (fun e => e rfl)
        · cases e
      · exact e
  · have hsch : SMap.get [schemaRow ver] k = none := if_neg hks
    rw [hsch]
    by_cases hk : isMissingKey k = true
    · obtain ⟨x, y, rfl⟩ : ∃ x y, k = kMissing x y := by
        unfold isMissingKey at hk
        split at hk
        · exact ⟨_, _, rfl⟩
        · cases hk
      rw [h.r3 x y]
      constructor
      · intro e
        by_cases hc : (x, y) ∈ s.needs ∧ stOf W s.rows x ≠ .full
        · rw [if_pos hc] at e
          exact Or.inl (Or.inr ⟨x, y, hc.1, hc.2, rfl, (Option.some.inj e).symm⟩)
        · rw [if_neg hc] at e; cases e
      · rintro ((⟨b, hv⟩ | ⟨b, m, hm, hne, e, rfl⟩) | ⟨_, e⟩)
        · rw [rowsFor_no_missing _ _ _ hk] at hv; cases hv
        · obtain ⟨rfl, rfl⟩ : x = b ∧ y = m := by simpa [kMissing] using e
          rw [if_pos ⟨hm, hne⟩]
        · cases e
    · rw [h.r2 k v (Bool.eq_false_iff.mpr hk) hks]
      constructor
      · exact fun h' => Or.inl (Or.inl h')
      · rintro ((h' | ⟨b, m, _, _, e, _⟩) | ⟨_, e⟩)
        · exact h'
        · rw [e] at hk; exact absurd rfl hk
        · cases e

end final

theorem firstMissing_congr (W : World) (S S' : List Ref) (h : ∀ x, x ∈ S ↔ x ∈ S') (b : Ref) :
    firstMissing W S b = firstMissing W S' b := by
  unfold firstMissing
  congr 1
  funext m
  rw [Bool.eq_iff_iff]; simp [h m]

theorem contrib_congr (W : World) (S S' : List Ref) (h : ∀ x, x ∈ S ↔ x ∈ S') (b : Ref) :
    contrib W S b = contrib W S' b := by
  have hc : ∀ t, S.contains t = S'.contains t := fun t => by rw [Bool.eq_iff_iff]; simp [h t]
  unfold contrib committedIn
  rw [firstMissing_congr W S S' h b]
  cases firstMissing W S' b with
  | some m => rfl
  | none =>
    simp only
    cases idep W b with
    | none => rfl
    | some t => simp only; rw [hc t, firstMissing_congr W S S' h t]

/-- the canonical index depends only on which blobs are in the set -/
theorem canonicalRows_congr (W : World) (ver : Nat) (S S' : List Ref) (h : ∀ x, x ∈ S ↔ x ∈ S') :
    canonicalRows W ver S = canonicalRows W ver S' := by
  apply SMap.ext (kasc_canonFold S S) (kasc_canonFold S' S')
  intro k
  apply Option.ext
  intro v
  show SMap.get (canonFold W ver S S) k = some v ↔ SMap.get (canonFold W ver S' S') k = some v
  rw [get_canonFold_iff, get_canonFold_iff, funext (contrib_congr W S S' h)]
  simp only [h]

theorem allInv_drain {W : World} {ver : Nat} (hW : WF W) (n : Nat) (s : State) (seen : List Ref)
    (h : AllInv W ver s seen) : AllInv W ver (State.drain W n s) seen := by
  induction n generalizing s with
  | zero => exact h
  | succ n ih =>
    unfold State.drain
    split
    · exact h
    · split
      · exact ih _ (allInv_reidx hW h _)
      · exact h

theorem drain_src (W : World) (n : Nat) (s : State) : (State.drain W n s).src = s.src := by
  induction n generalizing s with
  | zero => rfl
  | succ n ih =>
    unfold State.drain
    split
    · rfl
    · split
      · rw [ih, (reidx_frame W s _).1]
      · rfl

/-- the indexing loop of Reindex over `order` from a state `s0` -/
def reindexLoop (W : World) (fuel : Nat) (s0 : State) (order : List Ref) : State :=
  order.foldl (fun s b => if s.src.contains b then State.drain W fuel (s.receive W b) else s) s0

theorem allInv_reindexLoop {W : World} {ver : Nat} (hW : WF W) (fuel : Nat) (order : List Ref) (s0 : State)
    (seen : List Ref) (h : AllInv W ver s0 seen) :
    ∃ seen', AllInv W ver (reindexLoop W fuel s0 order) seen' ∧ (reindexLoop W fuel s0 order).src = s0.src ∧
      (∀ b ∈ seen, b ∈ seen') ∧ (∀ b ∈ order, b ∈ s0.src → b ∈ seen') := by
  induction order generalizing s0 seen with
  | nil => exact ⟨seen, h, rfl, fun _ hb => hb, fun _ hb => by cases hb⟩
  | cons a rest ih =>
    unfold reindexLoop
    rw [List.foldl_cons]
    by_cases ha : s0.src.contains a = true
    · rw [if_pos ha]
      have h1 := allInv_drain hW fuel _ _ (allInv_receive hW h a (by simpa using ha))
      have hsrc1 : (State.drain W fuel (s0.receive W a)).src = s0.src := by rw [drain_src, (receive_frame W s0 a).1]
      obtain ⟨seen', i1, i2, i3, i4⟩ := ih _ _ h1
      refine ⟨seen', i1, by rw [← hsrc1]; exact i2, fun b hb => i3 b (List.mem_cons_of_mem _ hb), ?_⟩
      intro b hb hbs
      cases hb with
      | head => exact i3 a (by simp)
      | tail _ hb' => exact i4 b hb' (by rw [hsrc1]; exact hbs)
    · rw [if_neg ha]
      obtain ⟨seen', i1, i2, i3, i4⟩ := ih _ _ h
      refine ⟨seen', i1, i2, i3, ?_⟩
      intro b hb hbs
      cases hb with
      | head => exact absurd (by simpa using hbs) ha
      | tail _ hb' => exact i4 b hb' hbs

/-- `Pk.Attr.isDeletedIn_congr` is the same fact about C07's model of the same recursion -/
theorem isDeletedIn_congr (ds ds' : List Del) (h : ∀ d, d ∈ ds ↔ d ∈ ds') (n : Nat) (br : Ref) :
    isDeletedIn n ds br = isDeletedIn n ds' br := by
  induction n generalizing br with
  | zero => rfl
  | succ n ih =>
    unfold isDeletedIn
    have : (fun d : Del => d.target == br && !isDeletedIn n ds d.deleter) =
        (fun d : Del => d.target == br && !isDeletedIn n ds' d.deleter) := by
      funext d; rw [ih d.deleter]
    rw [this]
    exact any_eq_of_mem_iff h _

theorem observe_congr (univ pns : List Ref) (fuel : Nat) (ixd ixd' : List Del) (c c' : Corpus)
    (hm : c.m = c'.m) (hb : c.bad = c'.bad) (hd : ∀ d, d ∈ c.deletes ↔ d ∈ c'.deletes)
    (hi : ∀ d, d ∈ ixd ↔ d ∈ ixd') : observe univ pns fuel ixd c = observe univ pns fuel ixd' c' := by
  have hdel : c.isDeleted fuel = c'.isDeleted fuel := by
    funext br; exact isDeletedIn_congr _ _ hd fuel br
  have hidx : isDeletedIn fuel ixd = isDeletedIn fuel ixd' := by
    funext br; exact isDeletedIn_congr _ _ hi fuel br
  have hpm : pmClaims c = pmClaims c' := by funext pn; unfold pmClaims; rw [hm]
  have happ : appendClaims c fuel = appendClaims c' fuel := by
    funext pn; unfold appendClaims; rw [hpm, hdel]
  have hmod : modtime c fuel = modtime c' fuel := by
    funext pn; unfold modtime; rw [hpm, hdel]
  have hattr : attrValue c = attrValue c' := by
    funext pn a1 a2; unfold attrValue; rw [hpm]
  have hcc : camliContent c = camliContent c' := by
    funext pn; unfold camliContent; rw [hpm]
  have hany : anyTime c fuel = anyTime c' fuel := by
    funext pn; unfold anyTime; rw [hcc, hm, hmod]
  have hord : ∀ t, pnOrder c fuel pns t = pnOrder c' fuel pns t := by
    intro t; unfold pnOrder; rw [hm, hdel]
  unfold observe
  rw [hm, hdel, hidx, happ, hmod, hany, hattr, hord, hord, hb]

theorem COk_m_eq (rows : SMap Bytes) (hk : KAsc rows) (c : Corpus) (hc : COk rows c) : c.m = (Corpus.load rows).m := by
  obtain ⟨_, ck, cm, _⟩ := hc
  obtain ⟨_, lk, lm, _⟩ := COk_load rows hk
  apply SMap.ext ck lk
  intro k; rw [cm k, lm k]

theorem observe_of_mirrors (s : State) (hk : KAsc s.rows) (hc : CorpusOk s) (hd : DelOk s)
    (hcs : s.corpus.isSome = true) (univ pns : List Ref) (fuel : Nat) :
    s.observe univ pns fuel = some (observeReload s.rows univ pns fuel) := by
  obtain ⟨c, hcc⟩ := Option.isSome_iff_exists.mp hcs
  have hck : COk s.rows c := (corpusOk_iff s).1 hc c hcc
  rw [State.observe, hcc]
  exact congrArg some (observe_congr univ pns fuel _ _ c _ (COk_m_eq s.rows hk c hck) hck.1 hck.2.2.2 hd)

theorem receiveFault_failed (W : World) (s : State) (b : Ref) (f : Fault)
    (h : (s.receiveFault W b f).2 = false) :
    (s.receiveFault W b f).1 = s ∨ ∃ t, (s.receiveFault W b f).1 = s.noteNeeded b t := by
  revert h
  unfold State.receiveFault
  by_cases hi : indexedVal (SMap.get s.rows (kHave b)) = true
  · -- already indexed: nothing is written
    rw [if_pos hi]; exact fun _ => Or.inl rfl
  rw [if_neg hi]
  cases firstMissing W s.src b with
  | some m =>
    -- a fetch dependency is missing: only the `Set` of the `missing|` row can fail
    dsimp only
    by_cases hf : f = .set
    · rw [if_pos hf]; exact fun _ => Or.inl rfl
    · rw [if_neg hf]; exact nofun
  | none =>
    cases idep W b with
    | none =>
      cases f with
      | commit => exact fun _ => Or.inl rfl
      | set => exact nofun
      | delete => exact nofun
    | some t =>
      dsimp only
      cases s.metaType t with
      | none =>
        -- a delete claim whose target has no meta row: the dependency is noted before the commit
        cases f with
        | commit => exact fun _ => Or.inr ⟨_, rfl⟩
        | set => exact fun _ => Or.inl rfl
        | delete => exact nofun
      | some tt =>
        cases f with
        | commit => exact fun _ => Or.inl rfl
        | set => exact nofun
        | delete => exact nofun

end Pk.Index
