import PkVerif.Model.Stores
import PkVerif.Lemmas.MergedEnum
/-! Helper lemmas for C01 and C13: key-preserving maps over `SMap`, the inclusive-Find/exclusive-cursor
rule, and what one call to a sub-store that may fail gives its caller (`StepSpec`, `FRefines.sub`). -/
namespace Pk.Stores
open Pk Pk.SMap Pk.RefMap

/-- rebuild a map from a key set and a function of the key: the abstraction function of namespace
(inventory ↦ contents) and of diskpacked (index ↦ contents), with `f = content` -/
def mapK {V W : Type} (f : Bytes → W) (m : SMap V) : SMap W := m.map (fun p => (p.1, f p.1))

theorem kasc_mapK {V W : Type} (f : Bytes → W) {m : SMap V} (h : KAsc m) : KAsc (mapK f m) := by
  unfold KAsc mapK
  rw [List.pairwise_map]
  exact h

theorem get_mapK {V W : Type} (f : Bytes → W) (m : SMap V) (k : Bytes) :
    SMap.get (mapK f m) k = if has m k then some (f k) else none := by
  induction m with
  | nil => simp [mapK, SMap.get, has]
  | cons p rest ih =>
    obtain ⟨k', v⟩ := p
    by_cases hk : k = k'
    · subst hk; simp [mapK, SMap.get, has]
    · simp only [mapK, List.map_cons, SMap.get, has, hk, if_false] at ih ⊢
      exact ih

theorem has_mapK {V W : Type} (f : Bytes → W) (m : SMap V) (k : Bytes) : has (mapK f m) k = has m k := by
  unfold has; rw [get_mapK]; unfold has
  cases SMap.get m k <;> simp

theorem mapK_ins {V W : Type} (f : Bytes → W) (k : Bytes) (v : V) (m : SMap V) :
    mapK f (ins k v m) = ins k (f k) (mapK f m) := by
  induction m with
  | nil => simp [mapK, ins]
  | cons p rest ih =>
    obtain ⟨k', v'⟩ := p
    simp only [mapK, List.map_cons, ins] at ih ⊢
    by_cases h1 : ltB k k' = true
    · simp [h1]
    · simp only [h1, Bool.false_eq_true, if_false]
      by_cases h2 : k = k'
      · subst h2; simp
      · simp [h2, ih]

theorem mapK_del {V W : Type} (f : Bytes → W) (k : Bytes) (m : SMap V) :
    mapK f (del k m) = del k (mapK f m) := by
  induction m with
  | nil => simp [mapK, del]
  | cons p rest ih =>
    obtain ⟨k', v'⟩ := p
    simp only [mapK, List.map_cons, del] at ih ⊢
    by_cases h : k = k'
    · simp [h]
    · simp [h, ih]

theorem mapK_filter {V W : Type} (f : Bytes → W) (p : Bytes → Bool) (m : SMap V) :
    (mapK f m).filter (fun q => p q.1) = mapK f (m.filter (fun q => p q.1)) := by
  induction m with
  | nil => rfl
  | cons q rest ih =>
    simp only [mapK, List.map_cons, List.filter_cons] at ih ⊢
    by_cases h : p q.1 = true
    · simp [h, ih]
    · simp [h, ih]

theorem sizes_mapK (content : Bytes → Bytes) (inv : SMap Nat)
    (h : ∀ p ∈ inv, p.2 = (content p.1).length) : sizes (mapK content inv) = inv := by
  induction inv with
  | nil => rfl
  | cons p rest ih =>
    have hp := h p (by simp)
    simp only [sizes, mapK, List.map_cons, List.map_map] at ih ⊢
    rw [ih (fun q hq => h q (by simp [hq]))]
    obtain ⟨k, n⟩ := p
    simp at hp ⊢; exact hp.symm

/-! ### inclusive `Find(after, "")` + "skip the row equal to the cursor" = strictly after the cursor -/

theorem filter_ge_eq_of_head_ge {V : Type} {m : SMap V} (hm : KAsc m) (after : Bytes) :
    ∀ p rest, m.filter (fun p => !ltB p.1 after) = p :: rest →
      (p.1 = after → rest = m.filter (fun q => ltB after q.1)) ∧
      (p.1 ≠ after → p :: rest = m.filter (fun q => ltB after q.1)) := by
  intro p rest hf
  -- what is strictly after the cursor is among what is at or after it
  have hsub : m.filter (fun q => ltB after q.1) = (p :: rest).filter (fun q => ltB after q.1) := by
    rw [← hf, List.filter_filter]
    apply List.filter_congr
    intro q _
    cases h : ltB after q.1 with
    | false => rfl
    | true => simp [ltB_asymm _ _ h]
  have hpge : ltB p.1 after = false := by
    have : p ∈ m.filter (fun p => !ltB p.1 after) := by rw [hf]; simp
    simpa using (List.mem_filter.mp this).2
  have hasc : KAsc (p :: rest) := by rw [← hf]; exact kasc_filter _ hm
  -- the head is at or after the cursor, the rest is after the head
  have hrest : ∀ q ∈ rest, ltB after q.1 = true := by
    intro q hq
    have hpq := kasc_head_lt hasc q hq
    rcases ltB_total after q.1 with h | h | h
    · exact h
    · rw [← h, hpge] at hpq; cases hpq
    · rw [ltB_trans _ _ _ hpq h] at hpge; cases hpge
  rw [hsub, List.filter_cons, List.filter_eq_self.mpr hrest]
  constructor
  · intro hp; simp [hp, ltB_irrefl]
  · intro hp
    rcases ltB_total p.1 after with h | h | h
    · rw [h] at hpge; cases hpge
    · exact absurd h hp
    · simp [h]

/-- the exclusive-cursor rule over an inclusive range scan, for ANY cursor string -/
theorem findSkip_eq_filter_gt {V : Type} {m : SMap V} (hm : KAsc m) (hne : ∀ p ∈ m, p.1 ≠ [])
    (after : Bytes) :
    findSkip m after = m.filter (fun q => ltB after q.1) := by
  unfold findSkip
  cases hf : m.filter (fun p => !ltB p.1 after) with
  | nil =>
    simp only
    symm
    apply List.filter_eq_nil_iff.mpr
    intro q hq hlt
    have : q ∈ m.filter (fun p => !ltB p.1 after) := by
      apply List.mem_filter.mpr
      exact ⟨hq, by simp [ltB_asymm _ _ hlt]⟩
    rw [hf] at this; cases this
  | cons p rest =>
    obtain ⟨h1, h2⟩ := filter_ge_eq_of_head_ge hm after p rest hf
    simp only
    by_cases hp : p.1 = after
    · by_cases ha : after = []
      · -- the empty cursor never equals a key: keys (ref texts) are non-empty
        have hpm : p ∈ m := by
          have : p ∈ m.filter (fun p => !ltB p.1 after) := by rw [hf]; simp
          exact (List.mem_filter.mp this).1
        exact absurd (hp.trans ha) (hne p hpm)
      · simp [ha, hp, h1 hp]
    · have : ¬ (after ≠ [] ∧ p.1 = after) := by intro h; exact hp h.2
      simp only [this, if_false]
      exact h2 hp

theorem get_next_recv_any (m : SMap Bytes) (k v x : Bytes) :
    SMap.get (next m (.recv k v)) x =
      if x = k then some (match SMap.get m k with | some w => w | none => v) else SMap.get m x := by
  simp only [next]
  by_cases hx : x = k
  · subst hx
    cases hg : SMap.get m x with
    | none => simp [has, hg, get_ins]
    | some w => simp [has, hg]
  · rw [if_neg hx]
    split
    · rfl
    · rw [get_ins, if_neg hx]

theorem get_next_recv {content : Bytes → Bytes} {m : SMap Bytes} (hm : Good content m)
    {k v : Bytes} (hv : v = content k) (x : Bytes) :
    SMap.get (next m (.recv k v)) x = if x = k then some v else SMap.get m x := by
  rw [get_next_recv_any]
  by_cases hx : x = k
  · subst hx
    cases hg : SMap.get m x with
    | none => simp
    | some w => simp [(hm.2 x w hg).1, hv]
  · simp [hx]

theorem get_recv_keep {content : Bytes → Bytes} {m m' : SMap Bytes} (hm : Good content m)
    {k v k' : Bytes} (hv : v = content k) (hmv : m' = m ∨ m' = next m (.recv k v))
    (h : SMap.get m k' = some (content k')) : SMap.get m' k' = some (content k') := by
  rcases hmv with rfl | rfl
  · exact h
  · rw [get_next_recv hm hv]
    by_cases hk : k' = k
    · subst hk; simp [hv]
    · simp only [hk, if_false]; exact h


/-- what one step of a combinator owes: the faulted-or-exact contract, and exactness when quiet -/
def StepSpec (A A' : SMap Bytes) (o : Out) (op : Op) (q q' : Prop) : Prop :=
  StepOK A A' o op ∧ (q → o = out A op ∧ A' = next A op ∧ q')

theorem StepSpec.exact {A A' : SMap Bytes} {o : Out} {op : Op} {q q' : Prop}
    (ho : o = out A op) (ha : A' = next A op) (hq : q → q') : StepSpec A A' o op q q' :=
  ⟨Or.inl ⟨ho, ha⟩, fun h => ⟨ho, ha, hq h⟩⟩

theorem StepSpec.failed {A A' : SMap Bytes} {o : Out} {op : Op} {q q' : Prop}
    (ho : o = .err) (ha : A' = A ∨ A' = next A op) (hq : ¬ q) : StepSpec A A' o op q q' :=
  ⟨Or.inr ⟨ho, ha⟩, fun h => absurd h hq⟩

theorem _root_.Pk.RefMap.FRefines.sub {content : Bytes → Bytes} {I : Impl} (F : FRefines content I) (s : I.σ) (op : Op)
    (h : F.Inv s) (hop : op.WK content) :
    F.Inv (I.step s op).1 ∧
    StepSpec (F.abs s) (F.abs (I.step s op).1) (I.step s op).2 op (F.Quiet s) (F.Quiet (I.step s op).1) :=
  ⟨(F.step_ok s op h hop).1, (F.step_ok s op h hop).2, fun hq => F.quiet_step s op h hq hop⟩

theorem _root_.Pk.RefMap.FRefines.not_quiet_of_err {content : Bytes → Bytes} {I : Impl}
    (F : FRefines content I) (s : I.σ) (op : Op) (h : F.Inv s) (hop : op.WK content)
    (he : (I.step s op).2 = .err) : ¬ F.Quiet s := fun hq =>
  out_ne_err _ _ ((F.quiet_step s op h hq hop).1.symm.trans he)

end Pk.Stores
