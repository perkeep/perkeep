import PkVerif.Lemmas.Encrypt
/-!
# The invariant of the encrypt store under every interleaving of its goroutines and crashes (C11)

`Step` is the small-step semantics: the ReceiveBlob in flight and every running packer advance one
micro-step at a time in any order, and the process may crash and restart at any point.  `Inv` is the
invariant; `inv_step` its preservation; the property theorems in `Props/C11.lean` are read off `Inv`.
`truth` is the mapping the store stands for and `restart_spec` says the start-up scan rebuilds exactly it;
`TraceOK`/`trace_reach` say what is handed to the wrapped stores.
-/
namespace Pk.Encrypt
open Pk Pk.SMap

/-- the order of ReceiveBlob's effects in the source -/
def goodR : List RStep := [.putBlobs, .putMeta, .record, .setIndex]
/-- the order of makePackedMetaBlob's effects in the source: upload, then record, then remove -/
def goodP : List PStep := [.upload, .record, .remove]

/-- the idealisations about hash and cipher the theorems are stated under: a collision-free digest
whose text is a well-formed ref, and ciphertexts that determine the randomness they were made with
(as an age file does: it carries its ephemeral share and nonce) -/
structure Ideal (P : Params) : Prop where
  digest_inj : ∀ a b, P.digest a = P.digest b → a = b
  nonce_visible : ∀ k r r' p p', P.A.enc k r p = P.A.enc k r' p' → r = r'
  ref_known : ∀ b, P.parseKnown (P.digest b) = true
  ref_valid : ∀ b, P.parseValid (P.digest b) = true
  ref_nosep : ∀ b, NoSep (P.digest b)

variable (P : Params)

/-- one step of the system.  `recvBegin` needs no ReceiveBlob in flight (one API caller); a restart
reads the meta blobs in any order that lists exactly the blobs present.  `plain.length < 2^32`: the size
text has to survive `strconv.ParseUint(_, 10, 32)` in `unpackIndexEntry` (in Go `MaxBlobSize` rules larger
blobs out).  `s.failIndex = 0`: `failIndex` is set by the driver only (`St.failIndex`); no step of this
relation changes it, so the premise holds in every reachable state. -/
inductive Step (rsteps : List RStep) (psteps : List PStep) : St → St → Prop
  | recvBegin (s : St) (ref plain : Bytes) (s' : St) :
      s.recv = none → plain.length < 4294967296 → recvBegin P rsteps s ref plain = (s', none) →
      Step rsteps psteps s s'
  | recvStep (s : St) : s.recv ≠ none → s.failIndex = 0 → Step rsteps psteps s (recvStep P psteps s)
  | jobStep (s : St) (i : Nat) : Step rsteps psteps s (stepJob P psteps s i)
  | restart (s : St) (wipe : Bool) (order : List Bytes) :
      (∀ n, n ∈ order ↔ has s.metas n = true) →
      Step rsteps psteps s (restart P psteps wipe order s).1
  /-- the environment arms a transient fault: the b-th / m-th next write to `blobs` / `meta` will fail -/
  | arm (s : St) (b m : Nat) : Step rsteps psteps s { s with failBlobs := b, failMeta := m }

inductive Reach (rsteps : List RStep) (psteps : List PStep) : St → Prop
  | init : Reach rsteps psteps {}
  | step (s s' : St) : Reach rsteps psteps s → Step P rsteps psteps s s' → Reach rsteps psteps s'

/-- `n` names a ciphertext made with randomness already consumed -/
def Old (nonce : Nat) (n : Bytes) : Prop := ∃ r t, r < nonce ∧ n = P.digest (encryptBlob P r t)

/-- whatever meta blob is stored under `n`, its lines are about plains in `pl` -/
def Tracks (metas : SMap Bytes) (n : Bytes) (pl : List Bytes) : Prop :=
  ∀ c ls, get metas n = some c → linesOf P c = some ls → ∀ pv ∈ ls, pv.1 ∈ pl

/-- `n` is an old name and whatever lies under it speaks only of plains in `pl`: what the heap and the
packers know of a small meta blob -/
def T (metas : SMap Bytes) (nonce : Nat) (n : Bytes) (pl : List Bytes) : Prop :=
  Old P nonce n ∧ Tracks P metas n pl

/-- a row `plain ref ↦ size/encref` that names a stored ciphertext of a blob with that ref and size -/
def RowOK (blobs : SMap Bytes) (pv : Bytes × Bytes) : Prop :=
  ∃ plain r, pv.1 = P.digest plain ∧ plain.length < 4294967296 ∧
    pv.2 = packIndexEntry plain.length (P.digest (encryptBlob P r plain)) ∧
    get blobs (P.digest (encryptBlob P r plain)) = some (encryptBlob P r plain)

/-- `n` may be removed by a packer that has already uploaded its replacement.  (The `check` script greps
for the Lean keyword of this name in lower case followed by a blank: keep hypothesis names clear of it.) -/
def Unsafe (jobs : List Job) (n : Bytes) : Prop := ∃ j ∈ jobs, j.packed.isSome = true ∧ n ∈ j.toDelete

/-- the row of the ReceiveBlob in flight between its meta write and its index.Set.  The mapping the store
stands for is the index rows together with this row: `truth`, `truth_of_pending` -/
def Pending (recv : Option Recv) (pv : Bytes × Bytes) : Prop :=
  ∃ x, recv = some x ∧ x.metaBR.isSome = true ∧ RStep.setIndex ∈ x.rest ∧
    pv = (x.plainBR, packIndexEntry x.size x.encBR)

/-- a packer: the names it will delete are old and speak of its plains only; and it is either before its
upload (`packed = none`, the whole program ahead) or after it (`packed = some m`, `m` old and about its
plains, the rest of the program being record-remove, remove, or nothing) -/
def JobOK (metas : SMap Bytes) (nonce : Nat) (j : Job) : Prop :=
  (∀ n ∈ j.toDelete, T P metas nonce n j.plains) ∧
  ((j.packed = none ∧ j.rest = goodP) ∨
   (∃ m, j.packed = some m ∧ T P metas nonce m j.plains ∧
      (j.rest = [.record, .remove] ∨ j.rest = [.remove] ∨ j.rest = [])))

/-- the ReceiveBlob in flight, four conjuncts: (1) its fields are an honest encryption of a plaintext with
that ref and size; (2) while `index.Set` is ahead the index has no row for the ref; (3) once `putBlobs`
is behind, the ciphertext is stored; (4) its phase, read off `x.rest`: before the meta write
(`metaBR = none`; `goodR`, or `putMeta` next, or `[]` after a failed write) or after it (`metaBR = some m`,
`m` old; `[]`, or `record`/`setIndex` ahead, and then `m` is stored, holds exactly the pending row and
no packer that has uploaded is about to delete it) -/
def RecvOK (s : St) (x : Recv) : Prop :=
  (∃ plain r, x.plainBR = P.digest plain ∧ x.size = plain.length ∧ plain.length < 4294967296 ∧
      x.encBytes = encryptBlob P r plain ∧ x.encBR = P.digest x.encBytes) ∧
  (RStep.setIndex ∈ x.rest → get s.index x.plainBR = none) ∧
  (x.rest ≠ [] ∧ RStep.putBlobs ∉ x.rest → get s.blobs x.encBR = some x.encBytes) ∧
  ((x.metaBR = none ∧ (x.rest = goodR ∨ x.rest = [.putMeta, .record, .setIndex] ∨ x.rest = [])) ∨
   (∃ m, x.metaBR = some m ∧ Old P s.nonce m ∧
      (x.rest = [] ∨
       ((x.rest = [.record, .setIndex] ∨ x.rest = [.setIndex]) ∧
        ∃ c, get s.metas m = some c ∧
          linesOf P c = some [(x.plainBR, packIndexEntry x.size x.encBR)] ∧ ¬ Unsafe s.jobs m))))

structure Inv (s : St) : Prop where
  kI : KAsc s.index
  kM : KAsc s.metas
  kB : KAsc s.blobs
  /-- every stored meta blob is an honest encryption, named by its digest, of lines that are good rows -/
  dec : ∀ n c, get s.metas n = some c → n = P.digest c ∧ (∃ r t, r < s.nonce ∧ c = encryptBlob P r t) ∧
    ∃ ls, linesOf P c = some ls ∧ ∀ pv ∈ ls, RowOK P s.blobs pv
  /-- every line of a stored meta blob is an index row, or the row the ReceiveBlob in flight is about to set -/
  lines : ∀ n c ls, get s.metas n = some c → linesOf P c = some ls →
    ∀ pv ∈ ls, get s.index pv.1 = some pv.2 ∨ Pending s.recv pv
  /-- every index row is a line of a stored meta blob that no packer is about to delete -/
  cov : ∀ p v, get s.index p = some v →
    ∃ n c ls, get s.metas n = some c ∧ linesOf P c = some ls ∧ (p, v) ∈ ls ∧ ¬ Unsafe s.jobs n
  /-- `heap`, `jobs`, `recv`: what `s.heap`, `s.jobs`, `s.recv` hold is as `T`, `JobOK`, `RecvOK` say -/
  heap : ∀ e ∈ s.heap, T P s.metas s.nonce e.br e.plains
  jobs : ∀ j ∈ s.jobs, JobOK P s.metas s.nonce j
  recv : ∀ x, s.recv = some x → RecvOK P s x

/-- the invariant does not look at the trace, the armed faults or the error flag -/
theorem Inv.frame {P : Params} {s : St} (h : Inv P s) (tr : List Call) (fb fm fi : Nat) (lf : Bool) :
    Inv P { s with trace := tr, failBlobs := fb, failMeta := fm, failIndex := fi, lastFailed := lf } :=
  ⟨h.kI, h.kM, h.kB, h.dec, h.lines, h.cov, h.heap, h.jobs, h.recv⟩

theorem Old.mono {n : Bytes} {a b : Nat} (h : Old P a n) (hab : a ≤ b) : Old P b n := by
  obtain ⟨r, t, hr, hn⟩ := h
  exact ⟨r, t, Nat.lt_of_lt_of_le hr hab, hn⟩

theorem T.mono_pl {metas : SMap Bytes} {nonce : Nat} (n : Bytes) (pl pl' : List Bytes)
    (h : T P metas nonce n pl) (hs : ∀ p ∈ pl, p ∈ pl') : T P metas nonce n pl' :=
  ⟨h.1, fun c ls hg hl pv hpv => hs _ (h.2 c ls hg hl pv hpv)⟩

variable {P}

theorem fresh_ne (I : Ideal P) {nonce : Nat} {n : Bytes} (h : Old P nonce n) (t : Bytes) :
    n ≠ P.digest (encryptBlob P nonce t) := by
  obtain ⟨r, t', hr, hn⟩ := h
  intro e
  rw [hn] at e
  have := I.digest_inj _ _ e
  simp only [encryptBlob, List.cons.injEq, true_and] at this
  exact Nat.lt_irrefl _ (I.nonce_visible _ _ _ _ _ this ▸ hr)

theorem T.ins_fresh (I : Ideal P) {metas : SMap Bytes} {nonce : Nat} {n : Bytes} {pl : List Bytes}
    (h : T P metas nonce n pl) (t : Bytes) (c : Bytes) :
    T P (ins (P.digest (encryptBlob P nonce t)) c metas) (nonce + 1) n pl := by
  refine ⟨h.1.mono P (Nat.le_succ _), ?_⟩
  intro c' ls hg
  rw [get_ins] at hg
  simp only [fresh_ne I h.1 t, if_false] at hg
  exact h.2 c' ls hg

theorem T.nonce_succ {metas : SMap Bytes} {nonce : Nat} {n : Bytes} {pl : List Bytes}
    (h : T P metas nonce n pl) : T P metas (nonce + 1) n pl := ⟨h.1.mono P (Nat.le_succ _), h.2⟩

theorem T.of_delMetas {metas : SMap Bytes} (hk : KAsc metas) {nonce : Nat} {n : Bytes} {pl : List Bytes}
    (h : T P metas nonce n pl) (td : List Bytes) : T P (delMetas td metas) nonce n pl := by
  refine ⟨h.1, ?_⟩
  intro c ls hg
  rw [get_delMetas td hk] at hg
  split at hg
  · cases hg
  · exact h.2 c ls hg

theorem RowOK.ins (I : Ideal P) {blobs : SMap Bytes} {pv : Bytes × Bytes} (h : RowOK P blobs pv)
    (c : Bytes) : RowOK P (ins (P.digest c) c blobs) pv := by
  obtain ⟨plain, r, h1, h2, h3, h4⟩ := h
  refine ⟨plain, r, h1, h2, h3, ?_⟩
  rw [get_ins]
  split
  · rename_i e
    rw [I.digest_inj _ _ e]
  · exact h4

theorem RowOK.good (I : Ideal P) {blobs : SMap Bytes} {pv : Bytes × Bytes} (h : RowOK P blobs pv) :
    GoodLine P pv := by
  obtain ⟨plain, r, h1, _, h3, _⟩ := h
  refine ⟨by rw [h1]; exact I.ref_known _, by rw [h1]; exact I.ref_nosep _, decEnc plain.length, _, h3, ?_,
    I.ref_nosep _⟩
  exact ⟨decEnc_no 47 (by decide) _, decEnc_no 10 (by decide) _⟩

/-! ## the invariant only looks at the set of running packers -/

theorem Unsafe.sub {J J' : List Job} (h : ∀ x ∈ J', x ∈ J) {n : Bytes} (hu : Unsafe J' n) : Unsafe J n := by
  obtain ⟨j, hj, h1, h2⟩ := hu
  exact ⟨j, h j hj, h1, h2⟩

theorem RecvOK.frame {s s' : St} {x : Recv} (h : RecvOK P s x)
    (hi : s'.index = s.index) (hb : s'.blobs = s.blobs)
    (hm : ∀ m c, ¬ Unsafe s.jobs m → get s.metas m = some c → get s'.metas m = some c) (hn : s.nonce ≤ s'.nonce)
    (hj : ∀ n, Unsafe s'.jobs n → Unsafe s.jobs n) : RecvOK P s' x := by
  obtain ⟨h1, h2, h3, h4⟩ := h
  refine ⟨h1, by rw [hi]; exact h2, by rw [hb]; exact h3, ?_⟩
  rcases h4 with h4 | ⟨m, hm1, hm2, hm3⟩
  · exact Or.inl h4
  · refine Or.inr ⟨m, hm1, hm2.mono P hn, ?_⟩
    rcases hm3 with hm3 | ⟨hr, c, hc1, hc2, hc3⟩
    · exact Or.inl hm3
    · exact Or.inr ⟨hr, c, hm m c hc3 hc1, hc2, fun hu => hc3 (hj m hu)⟩

theorem JobOK.imp {M M' : SMap Bytes} {N N' : Nat} {j : Job}
    (hT : ∀ n pl, T P M N n pl → T P M' N' n pl) (h : JobOK P M N j) : JobOK P M' N' j :=
  ⟨fun n hn => hT _ _ (h.1 n hn), h.2.imp id fun ⟨m, h1, h2, h3⟩ => ⟨m, h1, hT _ _ h2, h3⟩⟩

/-- heap and packers may be replaced by any that keep `T`, as long as no further name becomes unsafe -/
theorem Inv.with_jobs {s : St} (h : Inv P s) (H : List MetaBlob) (J : List Job)
    (hH : ∀ e ∈ H, T P s.metas s.nonce e.br e.plains) (hJ : ∀ j ∈ J, JobOK P s.metas s.nonce j)
    (hun : ∀ n, Unsafe J n → Unsafe s.jobs n) : Inv P { s with heap := H, jobs := J } where
  kI := h.kI
  kM := h.kM
  kB := h.kB
  dec := h.dec
  lines := h.lines
  cov := fun p v hg =>
    let ⟨n, c, ls, h1, h2, h3, h4⟩ := h.cov p v hg
    ⟨n, c, ls, h1, h2, h3, fun hu => h4 (hun n hu)⟩
  heap := hH
  jobs := hJ
  recv := fun x hx => (h.recv x hx).frame rfl rfl (fun _ _ _ hg => hg) (Nat.le_refl _) hun

/-- fewer packers (one ended, or the process died); the invariant looks at them only as a set -/
theorem Inv.subjobs {s : St} (h : Inv P s) (R : List Job) (hR : ∀ x ∈ R, x ∈ s.jobs) :
    Inv P { s with jobs := R } :=
  h.with_jobs s.heap R h.heap (fun j hj => h.jobs j (hR j hj)) (fun _ hu => hu.sub hR)

/-- `St.record`: the heap and the new packers keep `T`; nothing else changes -/
theorem Inv.record {s : St} (h : Inv P s) (b : MetaBlob) (hb : T P s.metas s.nonce b.br b.plains) :
    Inv P (St.record P goodP s b) := by
  obtain ⟨r1, r2⟩ := recordMeta_inv P (T P s.metas s.nonce) (fun n pl pl' => T.mono_pl P n pl pl') s.heap b h.heap hb
  refine h.with_jobs _ _ r1 (fun j hj => ?_) (fun n ⟨j, hj, h1, h2⟩ => ?_)
  · -- every packer, old or just started, is `JobOK`
    rcases List.mem_append.mp hj with hj | hj
    · exact h.jobs j hj
    · obtain ⟨x, hx, rfl⟩ := List.mem_map.mp hj
      exact ⟨r2 x hx, Or.inl ⟨rfl, rfl⟩⟩
  · -- a packer just started has not uploaded: no further name is unsafe
    rcases List.mem_append.mp hj with hj | hj
    · exact ⟨j, hj, h1, h2⟩
    · obtain ⟨x, _, rfl⟩ := List.mem_map.mp hj
      cases h1

/-- index rows are rows of stored meta blobs, hence well-formed -/
theorem Inv.row_ok {s : St} (h : Inv P s) {p v : Bytes} (hg : get s.index p = some v) : RowOK P s.blobs (p, v) := by
  obtain ⟨n, c, ls, h1, h2, h3, _⟩ := h.cov p v hg
  obtain ⟨_, _, ls', hl, hr⟩ := h.dec n c h1
  -- two equations `_ = some _` for one lookup identify what was found
  cases h2.symm.trans hl
  exact hr _ h3

theorem Inv.stored_old {s : St} (h : Inv P s) {n c : Bytes} (hg : get s.metas n = some c) : Old P s.nonce n := by
  obtain ⟨hn, ⟨r, t, hr, hc⟩, _⟩ := h.dec n c hg
  exact ⟨r, t, hr, by rw [hn, hc]⟩

theorem Inv.stored_ne_fresh (I : Ideal P) {s : St} (h : Inv P s) (t : Bytes) {n c : Bytes}
    (hg : get s.metas n = some c) : n ≠ P.digest (encryptBlob P s.nonce t) :=
  fresh_ne I (h.stored_old hg) t

theorem old_fresh (nonce : Nat) (t : Bytes) : Old P (nonce + 1) (P.digest (encryptBlob P nonce t)) :=
  ⟨nonce, t, Nat.lt_succ_self _, rfl⟩

/-- a meta blob whose lines are good rows is read back by the start-up scan line for line -/
theorem linesOf_rows (I : Ideal P) {blobs : SMap Bytes} {ls : List (Bytes × Bytes)} (hrow : ∀ pv ∈ ls, RowOK P blobs pv)
    (r : Nat) : linesOf P (encryptBlob P r (fmtMeta ls)) = some ls :=
  linesOf_encrypt P r ls (fun pv hpv => (hrow pv hpv).good I)

/-- a meta blob made with the next randomness is written: its rows are good rows that the index has or
that the ReceiveBlob in flight (which may move on in the same step) is about to set -/
theorem Inv.ins_meta (I : Ideal P) {s : St} (h : Inv P s) {ls : List (Bytes × Bytes)} {enc m : Bytes}
    (henc : encryptBlob P s.nonce (fmtMeta ls) = enc) (hm : P.digest enc = m)
    (hrow : ∀ pv ∈ ls, RowOK P s.blobs pv) (R : Option Recv)
    (hl : ∀ pv ∈ ls, get s.index pv.1 = some pv.2 ∨ Pending R pv)
    (hp : ∀ pv, Pending s.recv pv → get s.index pv.1 = some pv.2 ∨ Pending R pv)
    (hr : ∀ x, R = some x → RecvOK P { s with metas := ins m enc s.metas, nonce := s.nonce + 1 } x) :
    Inv P { s with metas := ins m enc s.metas, nonce := s.nonce + 1, recv := R } := by
  subst henc; subst hm
  have hlines := linesOf_rows I hrow s.nonce
  have hTfr : ∀ n pl, T P s.metas s.nonce n pl → T P (ins (P.digest (encryptBlob P s.nonce (fmtMeta ls)))
      (encryptBlob P s.nonce (fmtMeta ls)) s.metas) (s.nonce + 1) n pl :=
    fun n pl ht => ht.ins_fresh I (fmtMeta ls) _
  exact {
    kI := h.kI
    kM := kasc_ins _ _ h.kM
    kB := h.kB
    dec := by
      intro n c hg
      rcases get_ins_some hg with ⟨hn, hce⟩ | ⟨_, hg⟩
      · exact ⟨by rw [hn, hce], ⟨s.nonce, fmtMeta ls, Nat.lt_succ_self _, hce⟩, ls, hce ▸ hlines, hrow⟩
      · obtain ⟨d1, ⟨r, t, hr, hc⟩, d3⟩ := h.dec n c hg
        exact ⟨d1, ⟨r, t, Nat.lt_succ_of_lt hr, hc⟩, d3⟩
    lines := by
      intro n c ls' hg hl' pv hpv
      rcases get_ins_some hg with ⟨_, rfl⟩ | ⟨_, hg⟩
      · cases hlines.symm.trans hl'
        exact hl pv hpv
      · exact (h.lines n c ls' hg hl' pv hpv).elim Or.inl (hp pv)
    cov := fun p v hg =>
      let ⟨n, c, ls', h1, h2, h3, h4⟩ := h.cov p v hg
      ⟨n, c, ls', get_ins_of_ne _ (h.stored_ne_fresh I _ h1) h1, h2, h3, h4⟩
    heap := fun e he => hTfr _ _ (h.heap e he)
    jobs := fun j hj => (h.jobs j hj).imp hTfr
    recv := hr }

/-- a packer whose packed meta blob `m` is stored takes over the rows of the small blobs it will delete:
every index row of a ref it packs is a line of `m`, and nobody is going to delete `m` -/
theorem Inv.pack {s : St} (h : Inv P s) (j : Job) (hj : j ∈ s.jobs) (R : List Job) (hR : ∀ x ∈ R, x ∈ s.jobs)
    {m enc : Bytes} {ls : List (Bytes × Bytes)} (hg : get s.metas m = some enc) (hl : linesOf P enc = some ls)
    (hT : T P s.metas s.nonce m j.plains)
    (hrows : ∀ p ∈ j.plains, ∃ v, (p, v) ∈ ls ∧ get s.index p = some v)
    (hsafe : ∀ x ∈ s.jobs, m ∉ x.toDelete)
    (rest : List PStep) (hrest : rest = [.record, .remove] ∨ rest = [.remove] ∨ rest = []) :
    Inv P { s with jobs := { j with packed := some m, rest := rest } :: R } := by
  have hjok := h.jobs j hj
  have hun : ∀ n, Unsafe ({ j with packed := some m, rest := rest } :: R) n → Unsafe s.jobs n ∨ n ∈ j.toDelete := by
    intro n ⟨x, hx, h1, h2⟩
    rcases List.mem_cons.mp hx with rfl | e
    · exact Or.inr h2
    · exact Or.inl ⟨x, hR x e, h1, h2⟩
  have hm : ¬ Unsafe ({ j with packed := some m, rest := rest } :: R) m := fun hu =>
    (hun m hu).elim (fun ⟨x, hx, _, hx2⟩ => hsafe x hx hx2) (hsafe j hj)
  exact {
    kI := h.kI, kM := h.kM, kB := h.kB, dec := h.dec, lines := h.lines
    cov := by
      intro p v hgp
      obtain ⟨n, c, ls', h1, h2, h3, h4⟩ := h.cov p v hgp
      by_cases hnd : n ∈ j.toDelete
      · obtain ⟨v', hpv, hv⟩ := hrows p ((hjok.1 n hnd).2 c ls' h1 h2 (p, v) h3)
        cases hgp.symm.trans hv
        exact ⟨m, enc, ls, hg, hl, hpv, hm⟩
      · exact ⟨n, c, ls', h1, h2, h3, fun hu => (hun n hu).elim h4 hnd⟩
    heap := h.heap
    jobs := by
      intro x hx
      rcases List.mem_cons.mp hx with rfl | e
      · exact ⟨hjok.1, Or.inr ⟨m, rfl, hT, hrest⟩⟩
      · exact h.jobs x (hR x e)
    recv := by
      intro x hx
      obtain ⟨r1, r2, r3, r4⟩ := h.recv x hx
      refine ⟨r1, r2, r3, r4.imp id fun ⟨mx, hm1, hm2, hm3⟩ => ⟨mx, hm1, hm2, hm3.imp id ?_⟩⟩
      intro ⟨hr, c, hc1, hc2, hc3⟩
      refine ⟨hr, c, hc1, hc2, fun hu => (hun mx hu).elim hc3 fun hd => ?_⟩
      -- the packer would have needed the index row that is not set yet
      obtain ⟨_, _, hv⟩ := hrows x.plainBR
        ((hjok.1 mx hd).2 c _ hc1 hc2 (x.plainBR, packIndexEntry x.size x.encBR) (List.mem_singleton.mpr rfl))
      rw [r2 (by rcases hr with hr | hr <;> simp [hr])] at hv
      cases hv }

/-- the upload step of a packer: the packed meta blob is written, then stands in for the small ones -/
theorem inv_upload (I : Ideal P) {s : St} (h : Inv P s) (j : Job) (hj : j ∈ s.jobs)
    (R : List Job) (hR : ∀ x ∈ R, x ∈ s.jobs)
    (ls : List (Bytes × Bytes)) (hls : packedLines s.index (sortRefs j.plains) = some ls)
    (rest : List PStep) (hrest : rest = [.record, .remove] ∨ rest = [.remove] ∨ rest = []) :
    Inv P { s with
      metas := ins (P.digest (encryptBlob P s.nonce (fmtMeta ls))) (encryptBlob P s.nonce (fmtMeta ls)) s.metas,
      nonce := s.nonce + 1,
      jobs := { j with packed := some (P.digest (encryptBlob P s.nonce (fmtMeta ls))), rest := rest } :: R } := by
  obtain ⟨hls1, hls2⟩ := packedLines_spec _ _ _ hls
  have hget : ∀ pv ∈ ls, get s.index pv.1 = some pv.2 := fun pv hpv => (hls1 pv hpv).2
  have hrow : ∀ pv ∈ ls, RowOK P s.blobs pv := fun pv hpv => h.row_ok (hget pv hpv)
  have hlines := linesOf_rows I hrow s.nonce
  have A := h.ins_meta I rfl rfl hrow s.recv
    (fun pv hpv => Or.inl (hget pv hpv)) (fun _ hp => Or.inr hp)
    (fun x hx => (h.recv x hx).frame rfl rfl (fun n c _ hg => get_ins_of_ne _ (h.stored_ne_fresh I _ hg) hg)
      (Nat.le_succ _) (fun _ hu => hu))
  refine A.pack j hj R hR (get_ins_self _ _ _) hlines ⟨old_fresh _ _, fun c ls' hg hl pv hpv => ?_⟩
    (fun p hp => (hls2 p ((mem_sortRefs _ _).mpr hp)).imp fun v hv => ⟨hv, hget _ hv⟩)
    -- a name on somebody's `toDelete` is old, so it is not the fresh name
    (fun x hx hd => fresh_ne I ((h.jobs x hx).1 _ hd).1 _ rfl) rest hrest
  cases (get_ins_self _ _ _).symm.trans hg
  cases hlines.symm.trans hl
  exact (mem_sortRefs _ _).mp (hls1 pv hpv).1

/-- names that a packer which has uploaded may remove can go: nothing else relies on them -/
theorem Inv.of_delMetas {s : St} (h : Inv P s) (td : List Bytes) (htd : ∀ n ∈ td, Unsafe s.jobs n) :
    Inv P { s with metas := delMetas td s.metas } := by
  have hkeep : ∀ n, ¬ Unsafe s.jobs n → get (delMetas td s.metas) n = get s.metas n := fun n hn => by
    rw [get_delMetas _ h.kM, if_neg fun hm => hn (htd n hm)]
  have hsub : ∀ n c, get (delMetas td s.metas) n = some c → get s.metas n = some c := by
    intro n c hg
    rw [get_delMetas _ h.kM] at hg
    split at hg
    · cases hg
    · exact hg
  exact {
    kI := h.kI
    kM := kasc_delMetas _ h.kM
    kB := h.kB
    dec := fun n c hg => h.dec n c (hsub n c hg)
    lines := fun n c ls hg hl => h.lines n c ls (hsub n c hg) hl
    cov := fun p v hg =>
      let ⟨n, c, ls, h1, h2, h3, h4⟩ := h.cov p v hg
      ⟨n, c, ls, (hkeep n h4).trans h1, h2, h3, h4⟩
    heap := fun e he => (h.heap e he).of_delMetas h.kM _
    jobs := fun x hx => (h.jobs x hx).imp fun _ _ ht => ht.of_delMetas h.kM _
    recv := fun x hx =>
      (h.recv x hx).frame rfl rfl (fun m c hu hg => (hkeep m hu).trans hg) (Nat.le_refl _) (fun _ hu => hu) }

/-- replacing a packer by one that differs only in its remaining program -/
theorem Inv.rejob {s : St} (h : Inv P s) (j : Job) (hj : j ∈ s.jobs) (R : List Job) (hR : ∀ x ∈ R, x ∈ s.jobs)
    (j' : Job) (hj' : j'.plains = j.plains ∧ j'.toDelete = j.toDelete ∧ j'.packed = j.packed)
    (hshape : ∀ m, j.packed = some m → (j'.rest = [.record, .remove] ∨ j'.rest = [.remove] ∨ j'.rest = []))
    (hshape0 : j.packed = none → j'.rest = goodP) :
    Inv P { s with jobs := j' :: R } := by
  refine h.with_jobs s.heap _ h.heap (fun x hx => ?_) (fun n ⟨x, hx, h1, h2⟩ => ?_)
  · -- `JobOK` of the replaced packer and of the others
    rcases List.mem_cons.mp hx with rfl | hx
    · obtain ⟨j1, j2⟩ := h.jobs j hj
      rw [JobOK, hj'.1, hj'.2.1, hj'.2.2]
      exact ⟨j1, j2.imp (fun j2 => ⟨j2.1, hshape0 j2.1⟩) fun ⟨m, hm1, hm2, _⟩ => ⟨m, hm1, hm2, hshape m hm1⟩⟩
    · exact h.jobs x (hR x hx)
  · -- no further name is unsafe
    rcases List.mem_cons.mp hx with rfl | hx
    · exact ⟨j, hj, hj'.2.2 ▸ h1, hj'.2.1 ▸ h2⟩
    · exact ⟨x, hR x hx, h1, h2⟩

theorem inv_stepJob (I : Ideal P) {s : St} (h : Inv P s) (i : Nat) : Inv P (stepJob P goodP s i) := by
  unfold stepJob
  cases hji : s.jobs[i]? with
  | none => exact h
  | some j =>
    have hj : j ∈ s.jobs := List.mem_of_getElem? hji
    have hR : ∀ x ∈ s.jobs.eraseIdx i, x ∈ s.jobs := fun x hx => List.mem_of_mem_eraseIdx hx
    obtain ⟨j1, j2⟩ := h.jobs j hj
    rcases j2 with ⟨hp, hr⟩ | ⟨m, hm1, hm2, hr⟩
    · -- not uploaded yet: the upload step (or the packer gives up)
      simp only [jobStep, hr, goodP]
      cases hls : packedLines s.index (sortRefs j.plains) with
      | none => exact h.subjobs _ hR
      | some ls =>
        by_cases hf : s.failMeta = 1
        · -- the upload fails: the goroutine gives up
          simp only [hf, if_true]
          exact (h.subjobs _ hR).frame _ _ _ _ _
        · simp only [hf, if_false]
          have A := inv_upload I h j hj _ hR ls hls [.record, .remove] (Or.inl rfl)
          exact (A.subjobs _ (fun _ => mem_reinsert)).frame _ _ _ _ _
    · rcases hr with hr | hr | hr
      · -- record
        simp only [jobStep, hr, hm1]
        have A := h.rejob j hj _ hR ⟨j.plains, j.toDelete, some m, [.remove]⟩ ⟨rfl, rfl, hm1.symm⟩
          (fun _ _ => Or.inr (Or.inl rfl)) (fun h0 => by rw [hm1] at h0; cases h0)
        by_cases hfull : j.plains.length < P.full
        · simp only [hfull, if_true]
          have B := A.record ⟨m, j.plains⟩ hm2
          exact B.subjobs _ (fun _ => mem_reinsert)
        · simp only [hfull, if_false]
          exact A.subjobs _ (fun _ => mem_reinsert)
      · -- remove
        simp only [jobStep, hr]
        have A := (h.rejob j hj _ hR { j with rest := [] } ⟨rfl, rfl, rfl⟩ (fun _ _ => Or.inr (Or.inr rfl))
          (fun h0 => by rw [hm1] at h0; cases h0)).of_delMetas j.toDelete
          (fun n hn => ⟨_, List.mem_cons_self, by rw [hm1]; rfl, hn⟩)
        exact (A.subjobs _ (fun _ => mem_reinsert)).frame _ _ _ _ _
      · -- the goroutine returns
        simp only [jobStep, hr]
        exact h.subjobs _ hR

theorem unpack_pack (I : Ideal P) (n : Nat) (hn : n < 4294967296) (c : Bytes) :
    unpackIndexEntry P (packIndexEntry n (P.digest c)) = some (n, P.digest c) := by
  unfold unpackIndexEntry packIndexEntry
  rw [splitOn_append 47 _ _ (decEnc_no 47 (by decide) n), splitOn_nosep 47 _ (I.ref_nosep c).1]
  simp [parseUint32_decEnc n hn, I.ref_valid c]

theorem fetchMeta_row (I : Ideal P) {s : St} (h : Inv P s) {p v : Bytes} (hg : get s.index p = some v) :
    ∃ plain r, p = P.digest plain ∧ plain.length < 4294967296 ∧
      get s.blobs (P.digest (encryptBlob P r plain)) = some (encryptBlob P r plain) ∧
      fetchMeta P s.index p = .ok plain.length (P.digest (encryptBlob P r plain)) := by
  obtain ⟨plain, r, h1, h2, h3, h4⟩ := h.row_ok hg
  refine ⟨plain, r, h1, h2, h4, ?_⟩
  simp only at h1 h3
  simp only [fetchMeta, hg, h3, unpack_pack I _ h2]

theorem pending_recv_none {pv : Bytes × Bytes} : ¬ Pending none pv := by
  intro ⟨x, hx, _⟩; cases hx

/-- a ReceiveBlob that goes on past its checks: the ref is the digest of the bytes and is not indexed as
a well-formed row; one unit of randomness is consumed for the ciphertext -/
theorem recvBegin_none {rsteps : List RStep} {s s' : St} {ref plain : Bytes}
    (hb : recvBegin P rsteps s ref plain = (s', none)) :
    P.digest plain = ref ∧ (∀ sz e, fetchMeta P s.index ref ≠ .ok sz e) ∧
    s' = { s with nonce := s.nonce + 1, lastFailed := false,
                  recv := some ⟨ref, plain.length, encryptBlob P s.nonce plain,
                    P.digest (encryptBlob P s.nonce plain), none, rsteps⟩ } := by
  unfold recvBegin at hb
  split at hb
  · cases hb
  · rename_i hf
    split at hb
    · cases hb
    · rename_i hd
      cases hb
      exact ⟨Decidable.not_not.mp hd, fun sz e h => hf sz e h, rfl⟩

theorem inv_recvBegin (I : Ideal P) {s s' : St} (h : Inv P s) (ref plain : Bytes)
    (h0 : s.recv = none) (hlen : plain.length < 4294967296)
    (hb : recvBegin P goodR s ref plain = (s', none)) : Inv P s' := by
  obtain ⟨hd, hf, rfl⟩ := recvBegin_none hb
  have hnone : get s.index ref = none := by
    cases hg : get s.index ref with
    | none => rfl
    | some v =>
      obtain ⟨pl, r, _, _, _, hf'⟩ := fetchMeta_row I h hg
      exact absurd hf' (hf _ _)
  exact {
    kI := h.kI, kM := h.kM, kB := h.kB
    dec := by
      intro n c hg
      obtain ⟨d1, ⟨r, t, hr, hc⟩, d3⟩ := h.dec n c hg
      exact ⟨d1, ⟨r, t, Nat.lt_succ_of_lt hr, hc⟩, d3⟩
    lines := by
      intro n c ls hg hl pv hpv
      exact Or.inl ((h.lines n c ls hg hl pv hpv).resolve_right (h0 ▸ pending_recv_none))
    cov := h.cov
    heap := fun e he => (h.heap e he).nonce_succ
    jobs := fun j hj => (h.jobs j hj).imp fun _ _ ht => ht.nonce_succ
    recv := by
      intro x hx
      cases hx
      exact ⟨⟨plain, s.nonce, hd.symm, rfl, hlen, rfl, rfl⟩, fun _ => hnone,
        fun hn => absurd (show RStep.putBlobs ∈ goodR by simp [goodR]) hn.2, Or.inl ⟨rfl, Or.inl rfl⟩⟩ }

/-- the ReceiveBlob in flight may move on in any way that keeps `RecvOK` and does not drop a pending row -/
theorem Inv.with_recv {s : St} (h : Inv P s) (R : Option Recv)
    (hp : ∀ pv, Pending s.recv pv → get s.index pv.1 = some pv.2 ∨ Pending R pv)
    (hr : ∀ x, R = some x → RecvOK P s x) : Inv P { s with recv := R } where
  kI := h.kI
  kM := h.kM
  kB := h.kB
  dec := h.dec
  lines := fun n c ls hg hl pv hpv => (h.lines n c ls hg hl pv hpv).elim Or.inl (hp pv)
  cov := h.cov
  heap := h.heap
  jobs := h.jobs
  recv := hr

/-- before its meta blob exists a ReceiveBlob has no pending row -/
theorem not_pending_before_meta {s : St} {x : Recv} (hx : s.recv = some x) (hm : x.metaBR = none) (pv : Bytes × Bytes) :
    ¬ Pending s.recv pv := by
  intro ⟨y, hy, hy2, _⟩
  rw [hx] at hy; cases hy
  rw [hm] at hy2; cases hy2

/-- a write to a wrapped store fails before the meta blob exists: ReceiveBlob is about to return the
error; nothing it has done so far is relied upon -/
theorem Inv.failed {s : St} (h : Inv P s) (x : Recv) (hx : s.recv = some x) (hm : x.metaBR = none) :
    Inv P { s with recv := some { x with rest := [] } } := by
  refine h.with_recv _ (fun pv hp => absurd hp (not_pending_before_meta hx hm pv)) (fun y hy => ?_)
  cases hy
  exact ⟨(h.recv x hx).1, fun hn => absurd hn List.not_mem_nil, fun hn => absurd rfl hn.1,
    Or.inl ⟨hm, Or.inr (Or.inr rfl)⟩⟩

theorem inv_recvStep (I : Ideal P) {s : St} (h : Inv P s) (hfi : s.failIndex = 0) :
    Inv P (recvStep P goodP s) := by
  unfold recvStep
  cases hx : s.recv with
  | none => exact h
  | some x =>
    obtain ⟨r1, r2, r3, r4⟩ := h.recv x hx
    have ⟨plain, r, x1, x2, x3, x4, x5⟩ := r1
    rcases r4 with ⟨hm, hr | hr | hr⟩ | ⟨m, hm, hold, hr⟩
    · -- putBlobs
      simp only [hr, goodR]
      by_cases hf : s.failBlobs = 1
      · simp only [hf, if_true]
        exact (h.failed x hx hm).frame _ _ _ _ _
      simp only [hf, if_false]
      exact {
        kI := h.kI, kM := h.kM, kB := kasc_ins _ _ h.kB
        dec := by
          intro n c hg
          obtain ⟨d1, d2, ls, d3, d4⟩ := h.dec n c hg
          exact ⟨d1, d2, ls, d3, fun pv hpv => x5 ▸ (d4 pv hpv).ins I _⟩
        lines := by
          intro n c ls hg hl pv hpv
          exact Or.inl ((h.lines n c ls hg hl pv hpv).resolve_right (not_pending_before_meta hx hm pv))
        cov := h.cov, heap := h.heap, jobs := h.jobs
        recv := by
          intro y hy
          cases hy
          refine ⟨r1, fun _ => r2 (by simp [hr, goodR]), fun _ => ?_,
            Or.inl ⟨hm, Or.inr (Or.inl rfl)⟩⟩
          exact get_ins_self _ _ _ }
    · -- putMeta
      simp only [hr]
      by_cases hf : s.failMeta = 1
      · simp only [hf, if_true]
        exact (h.failed x hx hm).frame _ _ _ _ _
      simp only [hf, if_false]
      have hblob := r3 (by simp [hr])
      have hrow : ∀ pv ∈ [(x.plainBR, packIndexEntry x.size x.encBR)], RowOK P s.blobs pv := fun pv hpv =>
        List.mem_singleton.mp hpv ▸ ⟨plain, r, x1, x3, by simp only [x2, x5, x4], by rw [← x4, ← x5]; exact hblob⟩
      refine (h.ins_meta I rfl rfl hrow
        (some { x with metaBR := some (P.digest (makeSingleMetaBlob P s.nonce x.plainBR x.encBR x.size)),
                       rest := [.record, .setIndex] })
        (fun pv hpv => Or.inr ⟨_, rfl, rfl, ?_, List.mem_singleton.mp hpv⟩)
        (fun pv hp => absurd hp (not_pending_before_meta hx hm pv)) (fun y hy => ?_)).frame _ _ _ _ _
      · exact List.mem_cons_of_mem _ (List.mem_singleton.mpr rfl)
      · cases hy
        refine ⟨r1, fun _ => r2 (by simp [hr]), fun _ => hblob,
          Or.inr ⟨_, rfl, old_fresh _ _, Or.inr ⟨Or.inl rfl, _, get_ins_self _ _ _, linesOf_rows I hrow _, ?_⟩⟩⟩
        intro ⟨j, hj, _, hj2⟩
        exact fresh_ne I ((h.jobs j hj).1 _ hj2).1 _ rfl
    · -- ReceiveBlob returns the error of the wrapped store
      simp only [hr]
      exact h.with_recv none (fun pv hp => absurd hp (not_pending_before_meta hx hm pv)) (fun y hy => by cases hy)
    · rcases hr with hr | ⟨hr, c, hc1, hc2, hc3⟩
      · -- ReceiveBlob returns
        simp only [hr]
        refine h.with_recv none (fun pv ⟨y, hy, _, hy3, _⟩ => ?_) (fun y hy => by cases hy)
        rw [hx] at hy; cases hy
        rw [hr] at hy3; cases hy3
      · rcases hr with hr | hr
        · -- recordMeta
          simp only [hr, hm]
          have hmid : Inv P { s with recv := some { x with metaBR := some m, rest := [RStep.setIndex] } } := by
            refine h.with_recv _ (fun pv ⟨y, hy, _, _, hy4⟩ => ?_) (fun y hy => ?_)
            · rw [hx] at hy; cases hy
              exact Or.inr ⟨_, rfl, rfl, List.mem_singleton.mpr rfl, hy4⟩
            · cases hy
              exact ⟨r1, fun _ => r2 (by simp [hr]), fun _ => r3 (by simp [hr]),
                Or.inr ⟨m, rfl, hold, Or.inr ⟨Or.inr rfl, c, hc1, hc2, hc3⟩⟩⟩
          refine hmid.record ⟨m, [x.plainBR]⟩ ⟨hold, ?_⟩
          intro c' ls hg hl pv hpv
          cases hc1.symm.trans hg
          cases hc2.symm.trans hl
          cases List.mem_singleton.mp hpv
          simp
        · -- index.Set
          simp only [hr, hfi, Nat.zero_ne_one, if_false]
          have hnone := r2 (by simp [hr])
          exact {
            kI := kasc_ins _ _ h.kI, kM := h.kM, kB := h.kB, dec := h.dec
            lines := by
              intro n c' ls hg hl pv hpv
              refine Or.inl ?_
              rcases h.lines n c' ls hg hl pv hpv with e | ⟨y, hy, _, _, hy4⟩
              · exact get_ins_of_ne _ (fun e' => by rw [e', hnone] at e; cases e) e
              · rw [hx] at hy; cases hy
                rw [hy4]; exact get_ins_self _ _ _
            cov := by
              intro p v hg
              rcases get_ins_some hg with ⟨rfl, rfl⟩ | ⟨_, hg⟩
              · exact ⟨m, c, _, hc1, hc2, List.mem_singleton.mpr rfl, hc3⟩
              · exact h.cov p v hg
            heap := h.heap, jobs := h.jobs
            recv := by
              intro y hy
              cases hy
              exact ⟨r1, fun hn => by simp at hn, fun _ => r3 (by simp [hr]),
                Or.inr ⟨m, hm, hold, Or.inl rfl⟩⟩ }

/-- the mapping the store stands for: its index rows, plus the row of a ReceiveBlob that has written its
meta blob but not yet set its index row -/
def truth (s : St) (p : Bytes) : Option Bytes :=
  match get s.index p with
  | some v => some v
  | none =>
    match s.recv with
    | some x =>
      if x.metaBR.isSome = true ∧ RStep.setIndex ∈ x.rest ∧ p = x.plainBR then
        some (packIndexEntry x.size x.encBR) else none
    | none => none

theorem truth_of_index {s : St} {p v : Bytes} (h : get s.index p = some v) : truth s p = some v := by
  simp [truth, h]

theorem truth_of_pending {s : St} (h : Inv P s) {pv : Bytes × Bytes} (hp : Pending s.recv pv) :
    truth s pv.1 = some pv.2 := by
  obtain ⟨x, hx, h1, h2, h3⟩ := hp
  obtain ⟨_, r2, _, _⟩ := h.recv x hx
  subst h3
  simp [truth, r2 h2, hx, h1, h2]

/-- every line of every stored meta blob agrees with `truth` -/
theorem Inv.lines_truth {s : St} (h : Inv P s) (n c : Bytes) (ls : List (Bytes × Bytes))
    (hg : get s.metas n = some c) (hl : linesOf P c = some ls) : ∀ pv ∈ ls, truth s pv.1 = some pv.2 := by
  intro pv hpv
  rcases h.lines n c ls hg hl pv hpv with e | e
  · exact truth_of_index e
  · exact truth_of_pending h e

/-- and every row of `truth` is a line of some stored meta blob -/
theorem Inv.truth_covered {s : St} (h : Inv P s) (p v : Bytes) (ht : truth s p = some v) :
    ∃ n c ls, get s.metas n = some c ∧ linesOf P c = some ls ∧ (p, v) ∈ ls := by
  unfold truth at ht
  cases hg : get s.index p with
  | some w =>
    simp only [hg] at ht
    cases ht
    obtain ⟨n, c, ls, h1, h2, h3, _⟩ := h.cov p _ hg
    exact ⟨n, c, ls, h1, h2, h3⟩
  | none =>
    simp only [hg] at ht
    cases hx : s.recv with
    | none => simp [hx] at ht
    | some x =>
      simp only [hx] at ht
      split at ht
      · rename_i hc
        obtain ⟨c1, c2, c3⟩ := hc
        cases ht
        obtain ⟨_, _, _, r4⟩ := h.recv x hx
        rcases r4 with ⟨hm, _⟩ | ⟨m, hm, _, hr⟩
        · rw [hm] at c1; cases c1
        · rcases hr with hr | ⟨_, c, hc1, hc2, _⟩
          · rw [hr] at c2; cases c2
          · exact ⟨m, c, _, hc1, hc2, by rw [c3]; simp⟩
      · cases ht

/-- what the start-up scan leaves alone: it writes the index, the heap and the packer queue, nothing else -/
structure ScanFrame (r t : St) : Prop where
  metas : r.metas = t.metas
  nonce : r.nonce = t.nonce
  blobs : r.blobs = t.blobs
  recv : r.recv = t.recv
  trace : r.trace = t.trace

theorem readAll_frame (psteps : List PStep) (order : List Bytes) (t : St) :
    ScanFrame (readAllMetaBlobs P psteps order t).1 t := by
  induction order generalizing t with
  | nil => exact ⟨rfl, rfl, rfl, rfl, rfl⟩
  | cons n rest ih =>
    simp only [readAllMetaBlobs]
    split
    · exact ⟨rfl, rfl, rfl, rfl, rfl⟩
    · split
      · exact ⟨rfl, rfl, rfl, rfl, rfl⟩
      · exact ⟨(ih _).metas, (ih _).nonce, (ih _).blobs, (ih _).recv, (ih _).trace⟩

/-- the scan, from any state whose index is inside a mapping `F` that all stored lines agree with -/
theorem scan_spec (F : Bytes → Option Bytes) (order : List Bytes) (t : St)
    (hdec : ∀ n c, get t.metas n = some c → Old P t.nonce n ∧ ∃ ls, linesOf P c = some ls)
    (hF : ∀ n c ls, get t.metas n = some c → linesOf P c = some ls → ∀ pv ∈ ls, F pv.1 = some pv.2)
    (horder : ∀ n ∈ order, has t.metas n = true) (hk : KAsc t.index)
    (hsub : ∀ p v, get t.index p = some v → F p = some v)
    (hheap : ∀ e ∈ t.heap, T P t.metas t.nonce e.br e.plains)
    (hjobs : ∀ j ∈ t.jobs, (∀ n ∈ j.toDelete, T P t.metas t.nonce n j.plains) ∧ j.packed = none ∧ j.rest = goodP) :
    (readAllMetaBlobs P goodP order t).2 = true ∧
    KAsc (readAllMetaBlobs P goodP order t).1.index ∧
    (∀ p v, get (readAllMetaBlobs P goodP order t).1.index p = some v → F p = some v) ∧
    (∀ p v, get t.index p = some v → get (readAllMetaBlobs P goodP order t).1.index p = some v) ∧
    (∀ n ∈ order, ∀ c ls, get t.metas n = some c → linesOf P c = some ls →
        ∀ pv ∈ ls, get (readAllMetaBlobs P goodP order t).1.index pv.1 = some pv.2) ∧
    (∀ e ∈ (readAllMetaBlobs P goodP order t).1.heap, T P t.metas t.nonce e.br e.plains) ∧
    (∀ j ∈ (readAllMetaBlobs P goodP order t).1.jobs,
        (∀ n ∈ j.toDelete, T P t.metas t.nonce n j.plains) ∧ j.packed = none ∧ j.rest = goodP) := by
  induction order generalizing t with
  | nil => exact ⟨rfl, hk, hsub, fun _ _ h => h, fun _ h => absurd h List.not_mem_nil, hheap, hjobs⟩
  | cons n rest ih =>
    have hpres := horder n List.mem_cons_self
    simp only [has] at hpres
    cases hg : get t.metas n with
    | none => simp [hg] at hpres
    | some dat =>
      obtain ⟨hold, ls, hls⟩ := hdec n dat hg
      obtain ⟨s1, s2, s3⟩ := get_setAll F ls t.index (hF n dat ls hg hls) hsub
      simp only [readAllMetaBlobs, hg, process_of_linesOf P t.index dat ls hls]
      have hT : T P t.metas t.nonce n (ls.map Prod.fst) := by
        refine ⟨hold, fun c ls' hg' hl' pv hpv => ?_⟩
        cases hg.symm.trans hg'
        cases hls.symm.trans hl'
        exact List.mem_map_of_mem hpv
      obtain ⟨q1, q2⟩ := recordMeta_inv P (T P t.metas t.nonce) (fun n pl pl' => T.mono_pl P n pl pl') t.heap
        ⟨n, ls.map Prod.fst⟩ hheap hT
      obtain ⟨hok, hkasc, hin, hmono, hset, hheap', hjobs'⟩ :=
        ih (St.record P goodP { t with index := setAll ls t.index } ⟨n, ls.map Prod.fst⟩) hdec hF
          (fun k hk' => horder k (List.mem_cons_of_mem n hk')) (kasc_setAll ls t.index hk) s1 q1
          (fun j hj => (List.mem_append.mp hj).elim (hjobs j) fun hj' => by
            obtain ⟨x, hx, rfl⟩ := List.mem_map.mp hj'
            exact ⟨q2 x hx, rfl, rfl⟩)
      refine ⟨hok, hkasc, hin, fun p v hp => hmono p v (s2 p v hp), fun k hk' c ls' hgk hlk pv hpv => ?_, hheap', hjobs'⟩
      rcases List.mem_cons.mp hk' with rfl | e
      · cases hg.symm.trans hgk
        cases hls.symm.trans hlk
        exact hmono _ _ (s3 pv hpv)
      · exact hset k e c ls' hgk hlk pv hpv

/-- crash at any point, then the start-up scan in any arrival order: it succeeds, the index it leaves is
exactly `truth` (wiped or not), and the invariant holds again -/
theorem restart_spec {s : St} (h : Inv P s) (wipe : Bool) (order : List Bytes)
    (hord : ∀ n, n ∈ order ↔ has s.metas n = true) :
    (restart P goodP wipe order s).2 = true ∧
    (∀ p, get (restart P goodP wipe order s).1.index p = truth s p) ∧
    Inv P (restart P goodP wipe order s).1 := by
  have hdec : ∀ n c, get s.metas n = some c → Old P s.nonce n ∧ ∃ ls, linesOf P c = some ls :=
    fun n c hg => ⟨h.stored_old hg, (h.dec n c hg).2.2.imp fun _ hl => hl.1⟩
  have hk : KAsc (crash wipe s).index := by
    simp only [crash]; split
    · exact kasc_nil
    · exact h.kI
  have hsub : ∀ p v, get (crash wipe s).index p = some v → truth s p = some v := by
    intro p v hg
    simp only [crash] at hg
    split at hg
    · simp [SMap.get] at hg
    · exact truth_of_index hg
  have fr := readAll_frame (P := P) goodP order (crash wipe s)
  obtain ⟨hok, hkasc, hin, _, hset, hheap, hjobs⟩ :=
    scan_spec (truth s) order (crash wipe s) hdec (fun n c ls => h.lines_truth n c ls)
      (fun n hn => (hord n).mp hn) hk hsub
      (by intro e he; cases he) (by intro j hj; cases hj)
  unfold restart
  generalize readAllMetaBlobs P goodP order (crash wipe s) = r at fr hok hkasc hin hset hheap hjobs
  obtain ⟨hmetas, hnonce, hblobs, hrecv, _⟩ := fr
  have hpres : ∀ n c, get s.metas n = some c → n ∈ order := by
    intro n c hg; exact (hord n).mpr (by simp [has, hg])
  have hall : ∀ p v, truth s p = some v → get r.1.index p = some v := by
    intro p v ht
    obtain ⟨n, c, ls, h1, h2, h3⟩ := h.truth_covered p v ht
    exact hset n (hpres n c h1) c ls h1 h2 (p, v) h3
  have hnounsafe : ∀ n, ¬ Unsafe r.1.jobs n := by
    intro n ⟨j, hj, hj1, _⟩
    rw [(hjobs j hj).2.1] at hj1
    cases hj1
  refine ⟨hok, ?_, ?_⟩
  · intro p
    cases ht : truth s p with
    | some v => exact hall p v ht
    | none =>
      cases hg : get r.1.index p with
      | none => rfl
      | some v => have := hin p v hg; rw [ht] at this; cases this
  · exact {
      kI := hkasc
      kM := by rw [hmetas]; exact h.kM
      kB := by rw [hblobs]; exact h.kB
      dec := by rw [hmetas, hnonce, hblobs]; exact h.dec
      lines := by
        rw [hmetas]
        intro n c ls hg hl pv hpv
        exact Or.inl (hset n (hpres n c hg) c ls hg hl pv hpv)
      cov := by
        rw [hmetas]
        intro p v hg
        obtain ⟨n, c, ls, h1, h2, h3⟩ := h.truth_covered p v (hin p v hg)
        exact ⟨n, c, ls, h1, h2, h3, hnounsafe n⟩
      heap := by rw [hmetas, hnonce]; exact hheap
      jobs := by
        rw [hmetas, hnonce]
        intro j hj
        exact ⟨(hjobs j hj).1, Or.inl (hjobs j hj).2⟩
      recv := by intro x hx; rw [hrecv] at hx; cases hx }

theorem inv_init : Inv P ({} : St) where
  kI := kasc_nil
  kM := kasc_nil
  kB := kasc_nil
  dec := by intro n c hg; simp [SMap.get] at hg
  lines := by intro n c ls hg; simp [SMap.get] at hg
  cov := by intro p v hg; simp [SMap.get] at hg
  heap := by intro e he; cases he
  jobs := by intro j hj; cases hj
  recv := by intro x hx; cases hx

theorem inv_step (I : Ideal P) {s s' : St} (h : Inv P s) (st : Step P goodR goodP s s') : Inv P s' := by
  cases st with
  | recvBegin ref plain _ h0 hlen hb => exact inv_recvBegin I h ref plain h0 hlen hb
  | recvStep _ hfi => exact inv_recvStep I h hfi
  | jobStep i => exact inv_stepJob I h i
  | restart wipe order hord => exact (restart_spec h wipe order hord).2.2
  | arm b m => exact h.frame _ _ _ _ _

theorem inv_reach (I : Ideal P) {s : St} (hr : Reach P goodR goodP s) : Inv P s := by
  induction hr with
  | init => exact inv_init
  | step s s' _ st ih => exact inv_step I ih st

/-- a call to a wrapped store that carries only ciphertext and names only ciphertext -/
def CallOK (P : Params) : Call → Prop
  | .putBlobs n c => ∃ r t, c = encryptBlob P r t ∧ n = P.digest c
  | .putMeta n c => ∃ r t, c = encryptBlob P r t ∧ n = P.digest c
  | .rmMeta ns => ∀ n ∈ ns, ∃ r t, n = P.digest (encryptBlob P r t)

def TraceOK (P : Params) (s : St) : Prop := ∀ c ∈ s.trace, CallOK P c

theorem TraceOK.cons {s s' : St} {c : Call} (ht : TraceOK P s) (hc : CallOK P c) (h : s'.trace = c :: s.trace) :
    TraceOK P s' := by
  intro c' hc'
  rw [h] at hc'
  rcases List.mem_cons.mp hc' with rfl | e
  · exact hc
  · exact ht c' e

theorem jobStep_trace (s0 : St) (j : Job) (ht : TraceOK P s0)
    (hn : ∀ n ∈ j.toDelete, ∃ r t, n = P.digest (encryptBlob P r t)) :
    TraceOK P (jobStep P goodP s0 j).1 := by
  unfold jobStep
  cases hr : j.rest with
  | nil => exact ht
  | cons a rest =>
    cases a with
    | upload =>
      simp only
      cases packedLines s0.index (sortRefs j.plains) with
      | none => exact ht
      | some ls =>
        simp only
        split
        · exact ht
        · exact ht.cons (c := .putMeta _ _) ⟨_, _, rfl, rfl⟩ rfl
    | record =>
      simp only
      cases j.packed with
      | none => exact ht
      | some br => simp only; split <;> exact ht
    | remove => exact ht.cons (c := .rmMeta j.toDelete) hn rfl

theorem trace_step {s s' : St} (h : Inv P s) (ht : TraceOK P s) (st : Step P goodR goodP s s') :
    TraceOK P s' := by
  cases st with
  | recvBegin ref plain _ h0 hlen hb =>
    obtain ⟨_, _, rfl⟩ := recvBegin_none hb
    exact ht
  | recvStep hne hfi =>
    unfold recvStep
    cases hx : s.recv with
    | none => exact ht
    | some x =>
      obtain ⟨⟨plain, r, _, _, _, x4, x5⟩, _⟩ := h.recv x hx
      simp only
      split
      · exact ht                 -- the program is over
      · split                    -- putBlobs
        · exact ht
        · exact ht.cons (c := .putBlobs x.encBR x.encBytes) ⟨r, plain, x4, x5⟩ rfl
      · split                    -- putMeta
        · exact ht
        · exact ht.cons (c := .putMeta _ _) ⟨_, _, rfl, rfl⟩ rfl
      · split <;> exact ht       -- record
      · split <;> exact ht       -- setIndex
  | jobStep i =>
    unfold stepJob
    cases hji : s.jobs[i]? with
    | none => exact ht
    | some j =>
      have hj : j ∈ s.jobs := List.mem_of_getElem? hji
      obtain ⟨j1, _⟩ := h.jobs j hj
      have key := jobStep_trace { s with jobs := s.jobs.eraseIdx i } j ht (fun n hn => by
        obtain ⟨r, t, _, hnt⟩ := (j1 n hn).1
        exact ⟨r, t, hnt⟩)
      simp only
      generalize jobStep P goodP { s with jobs := s.jobs.eraseIdx i } j = res at key
      obtain ⟨s1, oj⟩ := res
      cases oj <;> exact key
  | restart wipe order hord =>
    unfold restart
    intro c hc
    rw [(readAll_frame _ _ _).trace] at hc
    exact ht c hc
  | arm b m => exact ht

theorem trace_reach (I : Ideal P) {s : St} (hr : Reach P goodR goodP s) : TraceOK P s := by
  induction hr with
  | init => intro c hc; cases hc
  | step s s' hr' st ih => exact trace_step (inv_reach I hr') ih st

theorem recvStep_failIndex (s : St) (h : s.failIndex = 0) : (recvStep P goodP s).failIndex = 0 := by
  unfold recvStep
  split
  · exact h
  · split
    · exact h                -- the program is over
    · split <;> exact h      -- putBlobs
    · split <;> exact h      -- putMeta
    · split <;> exact h      -- record
    · split                  -- setIndex
      · rfl
      · show s.failIndex - 1 = 0
        rw [h]

theorem recvBegin_failIndex (s : St) (k v : Bytes) :
    (recvBegin P goodR s k v).1.failIndex = s.failIndex := by
  unfold recvBegin
  split
  · rfl
  · split <;> rfl

/-- run a ReceiveBlob to its end, one micro-step at a time, without letting the packers run: the four steps
of `goodR`, and a fifth that finds the program empty and clears `recv` -/
def recvAll (P : Params) (s : St) (plain : Bytes) : St :=
  let s1 := (recvBegin P goodR s (P.digest plain) plain).1
  recvStep P goodP (recvStep P goodP (recvStep P goodP (recvStep P goodP (recvStep P goodP s1))))

end Pk.Encrypt
