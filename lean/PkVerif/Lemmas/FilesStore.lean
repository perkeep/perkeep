import PkVerif.Model.FilesStore
import PkVerif.Lemmas.Pack
/-! Lemmas for the files-store VFS model (C03).  While a safe effect order of `ReceiveBlob` runs, `FrameInv` says
what every file other than the temp file is, and `Rel` what the scan state knows of the temp file; a crash
then leaves those files alone (`FrameInv.crash_mem`).  Then: temp names are no `.dat` names, `enumerate`
lists only `.dat` files with their sizes, and the paths through an extracted effect list. -/
namespace Pk.FilesStore
open Pk.Pack (decEnc)

theorem tmpName_inj (dir pfx : Bytes) (a b : Nat) (h : tmpName dir pfx a = tmpName dir pfx b) : a = b := by
  simp only [tmpName, join, List.append_cancel_left_eq, List.cons.injEq, true_and] at h
  exact Pk.Pack.decEnc_inj a b h

/-- what holds of the VFS at every point of a safe effect order, relative to the state `v0` the
receive started from -/
structure FrameInv (c : Ctx) (v0 : VFS) (s : RunSt) : Prop where
  noclash : ∀ n, tmpName c.dir c.pfx n ≠ c.final
  tmp_name : ∀ t, s.tmp = some t → t ≠ c.final ∧ ∃ n, t = tmpName c.dir c.pfx n
  final_file : ∀ f ∈ s.vfs.files, f.path = c.final → f.dur = f.cur ∧ (f.cur = c.data ∨ f ∈ v0.files)
  frame_sub : ∀ f ∈ s.vfs.files, f.path ≠ c.final → (∀ n, f.path ≠ tmpName c.dir c.pfx n) → f ∈ v0.files
  frame_sup : ∀ f ∈ v0.files, f.path ≠ c.final → (∀ n, f.path ≠ tmpName c.dir c.pfx n) → f ∈ s.vfs.files
  fresh : ∀ f ∈ s.vfs.files, ∀ n, s.vfs.counter ≤ n → f.path ≠ tmpName c.dir c.pfx n

/-- the temp file exists and every file of that name satisfies `P` -/
def TmpIs (s : RunSt) (P : File → Prop) : Prop :=
  ∃ t, s.tmp = some t ∧ (∃ f ∈ s.vfs.files, f.path = t) ∧ ∀ f ∈ s.vfs.files, f.path = t → P f

/-- durable and visible content of the temp file in scan state `a` -/
def tmpContent (c : Ctx) : Nat → Option (Bytes × Bytes)
  | 1 => some ([], [])
  | 2 => some ([], c.data)
  | 3 => some (c.data, c.data)
  | _ => none

/-- what the scan state `a` of `scanStep` knows about the VFS: in states 1 to 3 the temp file exists with
the content of that state, in state 4 a file sits at the blob's path -/
def Rel (c : Ctx) (a : Nat) (s : RunSt) : Prop :=
  (∀ d cu, tmpContent c a = some (d, cu) → TmpIs s (fun f => f.dur = d ∧ f.cur = cu)) ∧
  (a = 4 → ∃ f ∈ s.vfs.files, f.path = c.final)

section steps
variable {c : Ctx} {v0 : VFS} {s : RunSt} {a : Nat}

theorem Rel.zero : Rel c 0 s :=
  ⟨fun _ _ h => (by cases h), fun h => (by cases h)⟩

theorem Rel.four (h : ∃ f ∈ s.vfs.files, f.path = c.final) : Rel c 4 s :=
  ⟨fun _ _ h => (by cases h), fun _ => h⟩

theorem Rel.of_tmpIs {d cu : Bytes} (ha : tmpContent c a = some (d, cu))
    (h : TmpIs s (fun f => f.dur = d ∧ f.cur = cu)) : Rel c a s :=
  ⟨fun d' cu' h' => by rw [ha] at h'; cases h'; exact h, fun e => by subst e; cases ha⟩

theorem lookup_some (v : VFS) (p : Bytes) (f : File) (h : v.lookup p = some f) : f ∈ v.files ∧ f.path = p := by
  unfold VFS.lookup at h
  exact ⟨List.mem_of_find?_eq_some h, by simpa using List.find?_some h⟩

theorem lookup_isNone_eq_false (v : VFS) (p : Bytes) (h : ∃ f ∈ v.files, f.path = p) : (v.lookup p).isNone = false := by
  simp only [VFS.lookup, Option.isNone_eq_false_iff, List.find?_isSome]
  grind

theorem FrameInv.lt_counter (hb : FrameInv c v0 s) {f : File} (hf : f ∈ s.vfs.files)
    {n : Nat} (h : f.path = tmpName c.dir c.pfx n) : n < s.vfs.counter :=
  Nat.lt_of_not_le fun hle => hb.fresh f hf n hle h

theorem FrameInv.of_files (hb : FrameInv c v0 s) (s' : RunSt)
    (htmp : ∀ t, s'.tmp = some t → t ≠ c.final ∧ ∃ n, t = tmpName c.dir c.pfx n)
    (hcnt : s.vfs.counter ≤ s'.vfs.counter)
    (hnew : ∀ f' ∈ s'.vfs.files, f' ∈ s.vfs.files ∨
      (∃ n, n < s'.vfs.counter ∧ f'.path = tmpName c.dir c.pfx n) ∨
      (f'.path = c.final ∧ f'.dur = f'.cur ∧ f'.cur = c.data))
    (hold : ∀ f ∈ s.vfs.files, f.path ≠ c.final → (∀ n, f.path ≠ tmpName c.dir c.pfx n) → f ∈ s'.vfs.files) :
    FrameInv c v0 s' := by
  refine ⟨hb.noclash, htmp, ?_, ?_, fun f hf hp hn => hold f (hb.frame_sup f hf hp hn) hp hn, ?_⟩
  · intro f hf hp
    rcases hnew f hf with h | ⟨n, _, h⟩ | ⟨_, h1, h2⟩
    · exact hb.final_file f h hp
    · exact absurd (h ▸ hp) (hb.noclash n)
    · exact ⟨h1, Or.inl h2⟩
  · intro f hf hp hn
    rcases hnew f hf with h | ⟨n, _, h⟩ | ⟨h, _⟩
    · exact hb.frame_sub f h hp hn
    · exact absurd h (hn n)
    · exact absurd h hp
  · intro f hf m hm
    rcases hnew f hf with h | ⟨n, hlt, h⟩ | ⟨h, _⟩
    · exact hb.fresh f h m (Nat.le_trans hcnt hm)
    · rw [h]; exact fun e => Nat.not_lt.mpr hm (tmpName_inj _ _ _ _ e ▸ hlt)
    · rw [h]; exact fun e => hb.noclash m e.symm

theorem step_tempFile (hb : FrameInv c v0 s) : FrameInv c v0 (step c s .tempFile) ∧ Rel c 1 (step c s .tempFile) := by
  have ef : (step c s .tempFile).vfs.files = s.vfs.files ++ [⟨tmpName c.dir c.pfx s.vfs.counter, [], []⟩] := rfl
  have et : (step c s .tempFile).tmp = some (tmpName c.dir c.pfx s.vfs.counter) := rfl
  refine ⟨hb.of_files _ ?_ (Nat.le_succ _) ?_ ?_, ?_⟩
  · intro t ht
    rw [et] at ht; cases ht
    exact ⟨hb.noclash _, _, rfl⟩
  · intro f hf
    rw [ef] at hf
    rcases List.mem_append.mp hf with hf | hf
    · exact Or.inl hf
    · rw [List.mem_singleton.mp hf]; exact Or.inr (Or.inl ⟨_, Nat.lt_succ_self _, rfl⟩)
  · intro f hf _ _
    rw [ef]; exact List.mem_append_left _ hf
  · refine Rel.of_tmpIs rfl ⟨_, et, ⟨_, by rw [ef]; exact List.mem_append_right _ (List.mem_singleton_self _), rfl⟩, ?_⟩
    intro f hf hp
    rw [ef] at hf
    rcases List.mem_append.mp hf with hf | hf
    · exact absurd hp (hb.fresh f hf _ (Nat.le_refl _))
    · rw [List.mem_singleton.mp hf]; exact ⟨rfl, rfl⟩

theorem step_mapFile {t : Bytes} (g : File → File) (ht : s.tmp = some t) (hg : ∀ f, (g f).path = f.path)
    (hb : FrameInv c v0 s) :
    FrameInv c v0 { s with vfs := s.vfs.mapFile t g } ∧
    ∀ P Q : File → Prop, (∀ f, P f → Q (g f)) → TmpIs s P → TmpIs { s with vfs := s.vfs.mapFile t g } Q := by
  obtain ⟨_, n0, hn0⟩ := hb.tmp_name t ht
  have mem : ∀ f', f' ∈ (s.vfs.mapFile t g).files ↔ ∃ f ∈ s.vfs.files, (if f.path = t then g f else f) = f' := by
    simp [VFS.mapFile]
  refine ⟨hb.of_files _ hb.tmp_name (Nat.le_refl _) ?_ ?_, ?_⟩
  · intro f' hf'
    obtain ⟨f, hf, e⟩ := (mem f').mp hf'
    by_cases hpt : f.path = t
    · rw [if_pos hpt] at e
      exact Or.inr (Or.inl ⟨n0, hb.lt_counter hf (hpt.trans hn0), by rw [← e, hg, hpt, hn0]⟩)
    · rw [if_neg hpt] at e; exact Or.inl (e ▸ hf)
  · intro f hf _ hn
    exact (mem f).mpr ⟨f, hf, if_neg (by rw [hn0]; exact hn n0)⟩
  · rintro P Q hPQ ⟨t', ht', ⟨f0, hf0, hp0⟩, hall⟩
    rw [ht] at ht'; cases ht'
    refine ⟨t, ht, ⟨g f0, (mem _).mpr ⟨f0, hf0, if_pos hp0⟩, (hg f0).trans hp0⟩, ?_⟩
    intro f' hf' hp'
    obtain ⟨f, hf, e⟩ := (mem f').mp hf'
    by_cases hpt : f.path = t
    · rw [if_pos hpt] at e; exact e ▸ hPQ f (hall f hf hpt)
    · rw [if_neg hpt] at e; exact absurd (e ▸ hp') hpt

theorem step_copy (hb : FrameInv c v0 s) (hr : Rel c 1 s) :
    FrameInv c v0 (step c s .copy) ∧ Rel c 2 (step c s .copy) := by
  obtain ⟨t, ht, hex, hall⟩ := hr.1 [] [] rfl
  have e : step c s .copy = { s with vfs := s.vfs.mapFile t (fun x => { x with cur := x.cur ++ c.data }) } := by
    simp [step, onTmp, ht, VFS.write]
  obtain ⟨h1, h2⟩ := step_mapFile (fun x => { x with cur := x.cur ++ c.data }) ht (fun _ => rfl) hb
  rw [e]
  exact ⟨h1, Rel.of_tmpIs rfl (h2 _ _ (fun f hf => by simp [hf.1, hf.2]) ⟨t, ht, hex, hall⟩)⟩

theorem tmpContent_clean {d cu : Bytes} (h : tmpContent c a = some (d, cu)) (ha : a ≠ 2) : d = cu := by
  unfold tmpContent at h
  split at h
  · cases h; rfl
  · exact absurd rfl ha
  · cases h; rfl
  · cases h

theorem step_sync (hb : FrameInv c v0 s) (hr : Rel c a s) :
    FrameInv c v0 (step c s .sync) ∧ Rel c (if a = 2 then 3 else a) (step c s .sync) := by
  cases ht : s.tmp with
  | none =>
    have e : step c s .sync = s := by simp [step, onTmp, ht]
    rw [e]
    refine ⟨hb, ?_⟩
    split
    · -- in state 2 there is a temp file
      rename_i ha
      obtain ⟨t, ht', _⟩ := (ha ▸ hr).1 [] c.data rfl
      rw [ht] at ht'; cases ht'
    · exact hr
  | some t =>
    have e : step c s .sync = { s with vfs := s.vfs.mapFile t (fun x => { x with dur := x.cur }) } := by
      simp [step, onTmp, ht, VFS.sync]
    obtain ⟨h1, h2⟩ := step_mapFile (fun x => { x with dur := x.cur }) ht (fun _ => rfl) hb
    rw [e]
    refine ⟨h1, ?_⟩
    split
    · rename_i ha
      exact Rel.of_tmpIs rfl (h2 _ _ (fun f hf => ⟨hf.2, hf.2⟩) ((ha ▸ hr).1 [] c.data rfl))
    · rename_i ha
      refine ⟨fun d cu h => ?_, fun h4 => ?_⟩
      · have hd := tmpContent_clean h ha
        exact h2 _ _ (fun f hf => ⟨hf.2.trans hd.symm, hf.2⟩) (hr.1 d cu h)
      · obtain ⟨f, hf, hp⟩ := hr.2 h4
        refine ⟨(if f.path = t then { f with dur := f.cur } else f), ?_, by split <;> exact hp⟩
        simp only [VFS.mapFile, List.mem_map]
        exact ⟨f, hf, rfl⟩

theorem step_remove (hb : FrameInv c v0 s) :
    FrameInv c v0 (step c s .remove) ∧
    ((∃ f ∈ s.vfs.files, f.path = c.final) → ∃ f ∈ (step c s .remove).vfs.files, f.path = c.final) := by
  cases ht : s.tmp with
  | none =>
    have e : step c s .remove = s := by simp [step, onTmp, ht]
    rw [e]; exact ⟨hb, id⟩
  | some t =>
    have e : step c s .remove = { s with vfs := s.vfs.remove t } := by simp [step, onTmp, ht]
    rw [e]
    obtain ⟨htf, n0, hn0⟩ := hb.tmp_name t ht
    refine ⟨hb.of_files _ hb.tmp_name (Nat.le_refl _) (fun f hf => Or.inl (List.mem_filter.mp hf).1) ?_, ?_⟩
    · intro f hf _ hn
      simp only [VFS.remove, List.mem_filter]
      exact ⟨hf, by simpa using (by rw [hn0]; exact hn n0 : f.path ≠ t)⟩
    · rintro ⟨f, hf, hp⟩
      refine ⟨f, ?_, hp⟩
      simp only [VFS.remove, List.mem_filter]
      exact ⟨hf, by simpa [hp] using (fun e => htf e.symm : c.final ≠ t)⟩

theorem step_rename (hb : FrameInv c v0 s) (hr : Rel c 3 s) :
    FrameInv c v0 (step c s .rename) ∧ (∃ f ∈ (step c s .rename).vfs.files, f.path = c.final) := by
  obtain ⟨t, ht, hex, hall⟩ := hr.1 c.data c.data rfl
  obtain ⟨htf, n0, hn0⟩ := hb.tmp_name t ht
  have e : step c s .rename = ⟨⟨s.vfs.dirs, (s.vfs.files.filter (fun x => x.path ≠ c.final)).map
      (fun x => if x.path = t then { x with path := c.final } else x), s.vfs.counter⟩, s.tmp⟩ := by
    simp [step, onTmp, ht, VFS.rename, lookup_isNone_eq_false s.vfs t hex]
  rw [e]
  refine ⟨hb.of_files _ hb.tmp_name (Nat.le_refl _) ?_ ?_, ?_⟩
  · intro f' hf'
    simp only [List.mem_map, List.mem_filter] at hf'
    obtain ⟨f, ⟨hf, _⟩, e'⟩ := hf'
    by_cases hpt : f.path = t
    · obtain ⟨h1, h2⟩ := hall f hf hpt
      rw [if_pos hpt] at e'
      exact Or.inr (Or.inr (e' ▸ ⟨rfl, h1.trans h2.symm, h2⟩))
    · rw [if_neg hpt] at e'; exact Or.inl (e' ▸ hf)
  · intro f hf hp hn
    simp only [List.mem_map, List.mem_filter]
    exact ⟨f, ⟨hf, by simpa using hp⟩, by rw [if_neg (by rw [hn0]; exact hn n0)]⟩
  · obtain ⟨f0, hf0, hp0⟩ := hex
    refine ⟨{ f0 with path := c.final }, ?_, rfl⟩
    simp only [List.mem_map, List.mem_filter]
    exact ⟨f0, ⟨hf0, by simpa [hp0] using htf⟩, by rw [if_pos hp0]⟩

theorem step_safe {a' : Nat} {e : Eff} (hs : scanStep a e = some a') (hb : FrameInv c v0 s) (hr : Rel c a s) :
    FrameInv c v0 (step c s e) ∧ Rel c a' (step c s e) := by
  -- the bullets follow the arms of `scanStep`
  unfold scanStep at hs
  split at hs
  -- mkdirAll: changes `dirs` only, of which neither `FrameInv` nor `Rel` speaks
  · cases hs; exact ⟨⟨hb.noclash, hb.tmp_name, hb.final_file, hb.frame_sub, hb.frame_sup, hb.fresh⟩, hr⟩
  -- close
  · cases hs; exact ⟨hb, hr⟩
  -- lstat
  · cases hs; exact ⟨hb, hr⟩
  -- tempFile
  · split at hs
    · cases hs; exact step_tempFile hb
    · cases hs
  -- copy
  · split at hs
    · rename_i ha; subst ha; cases hs; exact step_copy hb hr
    · cases hs
  -- sync
  · cases hs; exact step_sync hb hr
  -- rename
  · split at hs
    · rename_i ha; subst ha; cases hs
      exact ⟨(step_rename hb hr).1, Rel.four (step_rename hb hr).2⟩
    · cases hs
  -- remove
  · cases hs
    refine ⟨(step_remove hb).1, ?_⟩
    split
    · rename_i ha
      exact Rel.four ((step_remove hb).2 (hr.2 ha))
    · exact Rel.zero
  -- every other effect
  · cases hs

theorem run_safe {aEnd : Nat} (effs : List Eff) (hs : scan a effs = some aEnd)
    (hb : FrameInv c v0 s) (hr : Rel c a s) (k : Nat) :
    ∃ ak, scan a (effs.take k) = some ak ∧ FrameInv c v0 (run c s (effs.take k)) ∧ Rel c ak (run c s (effs.take k)) := by
  induction effs generalizing a s k with
  | nil => rw [List.take_nil]; exact ⟨a, rfl, hb, hr⟩
  | cons e t ih =>
    cases k with
    | zero => exact ⟨a, rfl, hb, hr⟩
    | succ k =>
      simp only [scan, List.take_succ_cons] at hs ⊢
      cases hse : scanStep a e with
      | none => simp [hse] at hs
      | some a1 =>
        simp only [hse] at hs ⊢
        exact ih hs (step_safe hse hb hr).1 (step_safe hse hb hr).2 k

end steps

theorem crashFile_clean (j : Nat) (f : File) (h : f.dur = f.cur) : crashFile j f = f := by
  cases f with
  | mk p d cu =>
    simp only at h; subst h
    simp [crashFile]

theorem crashFile_path (j : Nat) (f : File) : (crashFile j f).path = f.path := rfl

/-- a VFS as a restart finds it: nothing un-synced, and `TempFile` will not hand out an existing name (the
model's `counter` stands for the retry of `os.CreateTemp` on an existing name, files/osfs.go:49) -/
def Restarted (c : Ctx) (v0 : VFS) : Prop :=
  (∀ f ∈ v0.files, f.dur = f.cur) ∧ (∀ f ∈ v0.files, ∀ n, v0.counter ≤ n → f.path ≠ tmpName c.dir c.pfx n)

theorem FrameInv.init {c : Ctx} {v0 : VFS} (hT : ∀ n, tmpName c.dir c.pfx n ≠ c.final) (h0 : Restarted c v0) :
    FrameInv c v0 ⟨v0, none⟩ :=
  ⟨hT, fun t ht => (by cases ht), fun f hf _ => ⟨h0.1 f hf, Or.inr hf⟩, fun f hf _ _ => hf, fun f hf _ _ => hf, h0.2⟩

/-- a crash does not touch the files at the blob's path or at a path that is no temp name: they are synced -/
theorem FrameInv.crash_mem {c : Ctx} {v0 : VFS} {s : RunSt} (hb : FrameInv c v0 s) (h0 : Restarted c v0) (j : Nat)
    (f' : File) (hn : f'.path = c.final ∨ ∀ n, f'.path ≠ tmpName c.dir c.pfx n) :
    f' ∈ (s.vfs.crash j).files ↔ f' ∈ s.vfs.files := by
  have clean : ∀ f ∈ s.vfs.files, f.path = f'.path → f.dur = f.cur := fun f hf hp => by
    by_cases hfin : f.path = c.final
    · exact (hb.final_file f hf hfin).1
    · exact h0.1 f (hb.frame_sub f hf hfin fun n => hp ▸ hn.resolve_left (fun e => hfin (hp.trans e)) n)
  simp only [VFS.crash, List.mem_map]
  constructor
  · rintro ⟨f, hf, rfl⟩
    rw [crashFile_clean j f (clean f hf rfl)]; exact hf
  · exact fun hf => ⟨f', hf, crashFile_clean j f' (clean f' hf rfl)⟩

theorem hasSuffix_split (s suf : Bytes) (h : hasSuffix s suf = true) : s = s.take (s.length - suf.length) ++ suf := by
  simp only [hasSuffix, Bool.and_eq_true, decide_eq_true_eq, beq_iff_eq] at h
  have := List.take_append_drop (s.length - suf.length) s
  rw [h.2] at this
  exact this.symm

theorem hasSuffix_append (a suf : Bytes) : hasSuffix (a ++ suf) suf = true := by
  simp [hasSuffix]

/-- a name that ends in a decimal digit (what `TempFile` returns) is not a `.dat` name -/
theorem tmpName_not_dat (dir pfx : Bytes) (n : Nat) : hasSuffix (tmpName dir pfx n) dotDat = false := by
  cases h : hasSuffix (tmpName dir pfx n) dotDat with
  | false => rfl
  | true =>
    -- a `.dat` name ends in `t`, a temp name in the last digit of `n`
    have h1 : (tmpName dir pfx n).getLast? = some 116 := by
      rw [hasSuffix_split _ _ h, List.getLast?_append]; rfl
    have hne := Pk.Pack.decEnc_ne_nil n
    have hd := Pk.Pack.decEnc_digits n _ (List.getLast_mem hne)
    rw [tmpName, join, ← List.cons_append, ← List.append_assoc, List.getLast?_append,
      List.getLast?_eq_some_getLast hne] at h1
    rw [Option.some_or, Option.some.injEq] at h1
    rw [h1] at hd; cases hd

theorem tmpName_ne_dat (dir pfx : Bytes) (n : Nat) (p : Bytes) (hp : hasSuffix p dotDat = true) :
    tmpName dir pfx n ≠ p := by
  intro e
  rw [← e, tmpName_not_dat] at hp
  cases hp

/-- every listed entry is a file whose name is the listed ref followed by `.dat`, with that file's size -/
def EnumSound (v : VFS) (es : List (Bytes × Nat)) : Prop :=
  ∀ e ∈ es, ∃ f ∈ v.files, ∃ d, f.path = join d (e.1 ++ dotDat) ∧ e.2 = f.cur.length

theorem enumName_sound (okRef : Bytes → Bool) (v : VFS) (sub : Bytes → List (Bytes × Nat) × Bool)
    (dirFull name : Bytes) (hsub : ∀ d, EnumSound v (sub d).1) :
    EnumSound v (enumName okRef v sub dirFull name).1 := by
  intro e he
  have key : ∀ f, v.lookup (join dirFull name) = some f → hasSuffix name dotDat = true →
      ∃ f' ∈ v.files, ∃ d, f'.path = join d (name.take (name.length - 4) ++ dotDat) ∧ f.cur.length = f'.cur.length :=
    fun f hf hd => ⟨f, (lookup_some v _ f hf).1, dirFull, by
      rw [(lookup_some v _ f hf).2]; exact congrArg _ (hasSuffix_split name dotDat hd), rfl⟩
  -- skipDir: nothing; a directory: what `sub` lists (`hsub`); not `.dat`: nothing; lookup `none`: nothing;
  -- lookup `some`: the one entry of `key`, or nothing if the ref is not accepted
  unfold enumName at he
  grind [EnumSound]

theorem enumNames_sound (okRef : Bytes → Bool) (v : VFS) (sub : Bytes → List (Bytes × Nat) × Bool)
    (dirFull : Bytes) (names : List Bytes) (hsub : ∀ d, EnumSound v (sub d).1) :
    EnumSound v (enumNames okRef v sub dirFull names).1 := by
  induction names with
  | nil => intro e he; cases he
  | cons n ns ih =>
    have h1 := enumName_sound okRef v sub dirFull n hsub
    simp only [enumNames]
    split
    · rename_i es heq
      rw [heq] at h1; exact h1
    · rename_i es heq
      rw [heq] at h1
      intro e he
      rcases List.mem_append.mp he with he | he
      · exact h1 e he
      · exact ih e he

theorem readBlobs_sound (okRef : Bytes → Bool) (v : VFS) (fuel : Nat) (dir : Bytes) :
    EnumSound v (readBlobs okRef v fuel dir).1 := by
  induction fuel generalizing dir with
  | zero => intro e he; cases he
  | succ f ih =>
    simp only [readBlobs]
    exact enumNames_sound okRef v _ dir _ (fun d => ih d)

/-- the paths a receive may take through an effect list: the success path, or the error path of a call
that fails -/
def IsPath (l : List EffAt) (path : List Eff) : Prop :=
  path = successPath l ∨ ∃ k, k ≤ (spine l).length ∧ path = errorPath l k

theorem scan_of_pred (l : List EffAt) (h : CrashSafePred l = true) (path : List Eff) (hp : IsPath l path) :
    ∃ a, scan 0 path = some a := by
  simp only [CrashSafePred, Bool.and_eq_true, beq_iff_eq, List.all_eq_true, List.mem_range] at h
  rcases hp with hp | ⟨k, hk, hp⟩
  · exact ⟨4, by rw [hp]; exact h.1⟩
  · have := h.2 k (by omega)
    rw [hp]
    cases hs : scan 0 (errorPath l k) with
    | none => rw [hs] at this; cases this
    | some a => exact ⟨a, rfl⟩

end Pk.FilesStore
