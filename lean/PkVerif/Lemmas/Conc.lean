import PkVerif.Model.Conc
/-!
# Lemmas: forward simulation from the interleaving model to the reference map (C14)

`CRefines` packages the proof obligations on a store's atomic sections: every section of a call
either is the call's linearisation step – it changes the abstract state exactly as `RefMap.next`
does and fixes the answer `RefMap.out` – or leaves the abstract state alone.  `sim_exec` is the one
generic theorem: for ANY schedule the recorded trace passes the linearizability check.  The three stores
are instances (`lockMapRefines`, `dpRefines`, `fsRefines`).  The last part says what an accepted trace
means for the final state (`replay_runState`, `has_runState`, `exec_ops`).
-/
namespace Pk.Conc
open Pk Pk.SMap Pk.RefMap

/-- the shape of `CRefines.pre_sec`'s conclusion -/
def PreGoal (S : CStore) (anom : Op → Out → Bool) (abs : S.σ → SMap Bytes) (Inv : S.σ → Prop)
    (Pre : Op → S.L → Prop) (Post : Op → S.L → Out → Prop) (s : S.σ) (op : Op) (l : S.L) : Prop :=
  Inv (S.sec s op l).1 ∧
    (if S.lin s op l = true then
      abs (S.sec s op l).1 = next (abs s) op ∧
      (match (S.sec s op l).2 with
       | .inl l' => Post op l' (out (abs s) op)
       | .inr o => o = out (abs s) op ∨ anom op o = true)
    else
      abs (S.sec s op l).1 = abs s ∧
      (match (S.sec s op l).2 with | .inl l' => Pre op l' | .inr _ => False))

/-- the shape of `CRefines.post_sec`'s conclusion -/
def PostGoal (S : CStore) (anom : Op → Out → Bool) (abs : S.σ → SMap Bytes) (Inv : S.σ → Prop)
    (Post : Op → S.L → Out → Prop) (s : S.σ) (op : Op) (l : S.L) (o : Out) : Prop :=
  S.lin s op l = false ∧ Inv (S.sec s op l).1 ∧ abs (S.sec s op l).1 = abs s ∧
    (match (S.sec s op l).2 with
     | .inl l' => Post op l' o
     | .inr o' => o' = o ∨ anom op o' = true)

structure CRefines (content : Bytes → Bytes) (S : CStore) (anom : Op → Out → Bool) where
  abs : S.σ → SMap Bytes
  Inv : S.σ → Prop
  /-- invariant of the local state before / after the call's linearisation point; `Post op l o`: the
  reference map answered `o` at the linearisation point -/
  Pre : Op → S.L → Prop
  Post : Op → S.L → Out → Prop
  init_inv : Inv S.init
  init_abs : abs S.init = []
  good : ∀ s, Inv s → Good content (abs s)
  start_pre : ∀ op, op.WK content → Pre op (S.start op)
  /-- a section of a call that has not linearised yet: either it is the linearisation step, or it does
  not change the abstract state and does not return -/
  pre_sec : ∀ s op l, Inv s → op.WK content → Pre op l → PreGoal S anom abs Inv Pre Post s op l
  /-- a section after the linearisation step: never a second linearisation, no abstract change, and the
  answer is the one fixed at the linearisation point -/
  post_sec : ∀ s op l o, Inv s → op.WK content → Post op l o → PostGoal S anom abs Inv Post s op l o

theorem replay_append (anom : Op → Out → Bool) (tr evs : List Ev) :
    replay anom (tr ++ evs) = evs.foldl (chk anom) (replay anom tr) := by
  simp [replay, List.foldl_append]

theorem upd_same {α : Type} (f : Nat → α) (c : Nat) (v : α) : upd f c v c = v := by simp [upd]

theorem upd_other {α : Type} (f : Nat → α) {c c' : Nat} (v : α) (h : c' ≠ c) : upd f c v c' = f c' := by
  simp [upd, h]

theorem upd_upd {α : Type} (f : Nat → α) (c : Nat) (v w : α) : upd (upd f c v) c w = upd f c w := by
  funext c'
  unfold upd
  split <;> rfl

theorem upd_forall {α : Type} {p : α → Prop} {f : Nat → α} (h : ∀ c, p (f c)) (c : Nat) {v : α} (hv : p v) :
    ∀ c', p (upd f c v c') := by
  intro c'
  unfold upd
  split
  · exact hv
  · exact h c'

theorem upd_self {α : Type} (f : Nat → α) (c : Nat) : upd f c (f c) = f := by
  funext c'
  unfold upd
  split
  · rename_i e; rw [e]
  · rfl

theorem chk_inv_idle (anom : Op → Out → Bool) (k : Chk) (c : Nat) (op : Op) (h : k.cl c = .idle) :
    chk anom k (.inv c op) = { k with cl := upd k.cl c (.running op) } := by
  simp [chk, h]

theorem chk_lin_running (anom : Op → Out → Bool) (k : Chk) (c : Nat) (op : Op) (h : k.cl c = .running op) :
    chk anom k (.lin c op) = { m := next k.m op, cl := upd k.cl c (.done op (out k.m op)), ok := k.ok } := by
  simp [chk, h]

theorem chk_ret_done (anom : Op → Out → Bool) (k : Chk) (c : Nat) (op : Op) (o o' : Out)
    (h : k.cl c = .done op o') (ho : o = o' ∨ anom op o = true) :
    chk anom k (.ret c op o) = { k with cl := upd k.cl c .idle } := by
  simp [chk, h, ho]

section sim
variable {content : Bytes → Bytes} {S : CStore} {anom : Op → Out → Bool}

/-- the relation between a client's thread and the checker's view of that client -/
def ThrRel (R : CRefines content S anom) : Option (Thread S) → CSt → Prop
  | none, .idle => True
  | some t, .running op => t.op = op ∧ op.WK content ∧ R.Pre op t.l
  | some t, .done op o => t.op = op ∧ op.WK content ∧ R.Post op t.l o
  | _, _ => False

/-- the simulation invariant: the checker's reference map is the abstraction of the shared state -/
structure Sim (R : CRefines content S anom) (y : Sys S) : Prop where
  ok : (replay anom y.trace).ok = true
  inv : R.Inv y.sh
  m_eq : (replay anom y.trace).m = R.abs y.sh
  thr : ∀ c, ThrRel R (y.thr c) ((replay anom y.trace).cl c)

theorem sim_init (R : CRefines content S anom) : Sim R (Sys.init S) where
  ok := rfl
  inv := R.init_inv
  m_eq := R.init_abs.symm
  thr := fun _ => trivial

/-- one move of client `c`: the events it appends take the checker to the abstraction of the new shared
state and to a view of `c` that matches its new thread; the other clients are not looked at -/
theorem sim_upd (R : CRefines content S anom) {y : Sys S} (hs : Sim R y) (c : Nat) {sh' : S.σ}
    {t' : Option (Thread S)} {evs : List Ev} {tr' : List Ev} {st' : CSt} (htr : tr' = y.trace ++ evs)
    (hk : evs.foldl (chk anom) (replay anom y.trace) =
      { m := R.abs sh', cl := upd (replay anom y.trace).cl c st', ok := (replay anom y.trace).ok })
    (hinv : R.Inv sh') (hrel : ThrRel R t' st') : Sim R ⟨sh', upd y.thr c t', tr'⟩ := by
  have hr : replay anom tr' = _ := (htr ▸ replay_append anom y.trace evs).trans hk
  refine ⟨by rw [hr]; exact hs.ok, hinv, by rw [hr], fun c' => ?_⟩
  rw [hr]
  show ThrRel R (upd y.thr c t' c') (upd (replay anom y.trace).cl c st' c')
  unfold upd
  split
  · exact hrel
  · exact hs.thr c'

theorem sim_call (R : CRefines content S anom) (y : Sys S) (hs : Sim R y) (c : Nat) (op : Op)
    (hwk : op.WK content) : Sim R (Sys.step S y (.call c op)) := by
  simp only [Sys.step]
  cases ht : y.thr c with
  | some t => exact hs
  | none =>
    have rel := hs.thr c
    rw [ht] at rel
    cases hcl : (replay anom y.trace).cl c <;> rw [hcl] at rel <;> try exact rel.elim
    exact sim_upd R hs c (st' := .running op) rfl
      (by rw [List.foldl_cons, chk_inv_idle anom _ c op hcl, hs.m_eq]; rfl) hs.inv
      ⟨rfl, hwk, R.start_pre op hwk⟩

/-- a section at or after the linearisation point: once its linearisation event (if any) has taken the
checker to the new abstract state with `c` marked `done t.op o`, going on keeps `Post` and returning is
accepted -/
theorem sim_done (R : CRefines content S anom) {y : Sys S} (hs : Sim R y) {c : Nat} {t : Thread S} {o : Out}
    (ht : y.thr c = some t) (hwk : t.op.WK content)
    (hk : (if S.lin y.sh t.op t.l = true then [Ev.lin c t.op] else []).foldl (chk anom) (replay anom y.trace) =
      { m := R.abs (S.sec y.sh t.op t.l).1, cl := upd (replay anom y.trace).cl c (.done t.op o),
        ok := (replay anom y.trace).ok })
    (hinv : R.Inv (S.sec y.sh t.op t.l).1)
    (hr : match (S.sec y.sh t.op t.l).2 with
      | .inl l' => R.Post t.op l' o
      | .inr o' => o' = o ∨ anom t.op o' = true) :
    Sim R (Sys.step S y (.step c)) := by
  simp only [Sys.step, ht]
  cases hsec : (S.sec y.sh t.op t.l).2 with
  | inl l' =>
    rw [hsec] at hr
    exact sim_upd R hs c rfl hk hinv ⟨rfl, hwk, hr⟩
  | inr o' =>
    rw [hsec] at hr
    refine sim_upd R hs c (st' := .idle) (List.append_assoc ..) ?_ hinv trivial
    rw [List.foldl_append, hk, List.foldl_cons, chk_ret_done anom _ c t.op o' o (upd_same ..) hr, upd_upd]
    rfl

theorem sim_step (R : CRefines content S anom) (y : Sys S) (hs : Sim R y) (c : Nat) :
    Sim R (Sys.step S y (.step c)) := by
  cases ht : y.thr c with
  | none => simp only [Sys.step, ht]; exact hs
  | some t =>
    have rel := hs.thr c
    rw [ht] at rel
    cases hk : (replay anom y.trace).cl c with
    | idle => rw [hk] at rel; exact rel.elim
    | running op =>
      rw [hk] at rel
      obtain ⟨rfl, hwk, hpre⟩ := rel
      obtain ⟨hinv', hrest⟩ := R.pre_sec y.sh t.op t.l hs.inv hwk hpre
      by_cases hl : S.lin y.sh t.op t.l = true
      · -- the linearisation step
        rw [if_pos hl, ← hs.m_eq] at hrest
        refine sim_done R hs ht hwk ?_ hinv' hrest.2
        rw [if_pos hl, List.foldl_cons, chk_lin_running anom _ c _ hk, hrest.1]; rfl
      · -- a section before the linearisation point
        rw [if_neg hl] at hrest
        simp only [Sys.step, ht, if_neg hl]
        cases hsec : (S.sec y.sh t.op t.l).2 with
        | inl l' =>
          rw [hsec] at hrest
          exact sim_upd R hs c (st' := .running t.op) (evs := []) rfl
            (by rw [← hk, upd_self, hrest.1, ← hs.m_eq]; rfl) hinv' ⟨rfl, hwk, hrest.2⟩
        | inr o => rw [hsec] at hrest; exact hrest.2.elim
    | done op o =>
      rw [hk] at rel
      obtain ⟨rfl, hwk, hpost⟩ := rel
      obtain ⟨hl, hinv', habs, hout⟩ := R.post_sec y.sh t.op t.l o hs.inv hwk hpost
      refine sim_done R hs ht hwk ?_ hinv' hout
      rw [hl, ← hk, upd_self, habs, ← hs.m_eq]; rfl
/-- every call label of the schedule carries a well-keyed operation -/
def SchedWK (content : Bytes → Bytes) (sched : List Lbl) : Prop :=
  ∀ c op, Lbl.call c op ∈ sched → op.WK content

theorem sim_foldl (R : CRefines content S anom) (sched : List Lbl) (hwk : SchedWK content sched)
    (y : Sys S) (hs : Sim R y) : Sim R (sched.foldl (Sys.step S) y) := by
  induction sched generalizing y with
  | nil => exact hs
  | cons lbl rest ih =>
    simp only [List.foldl_cons]
    apply ih (fun c op h => hwk c op (by simp [h]))
    cases lbl with
    | call c op => exact sim_call R y hs c op (hwk c op (by simp))
    | step c => exact sim_step R y hs c

/-- the generic theorem: any schedule of any number of clients yields a linearizable trace, and the
shared state's abstraction is the reference map after the linearised history -/
theorem sim_exec (R : CRefines content S anom) (sched : List Lbl) (hwk : SchedWK content sched) :
    Sim R (exec S sched) :=
  sim_foldl R sched hwk _ (sim_init R)

end sim

/-- a step of the scan goes on scanning or answers with refs -/
theorem scanStep_cases {P : PC ⊕ Out → Prop} (hs : ∀ x y z, P (.inl (.scan x y z))) (hr : ∀ r, P (.inr (.refs r)))
    (m : SMap Bytes) (cur : Bytes) (acc : List (Bytes × Nat)) (rem : Nat) : P (scanStep m cur acc rem) := by
  unfold scanStep
  split
  · exact hr _
  · split
    · exact hr _
    · exact hs _ _ _

theorem scanSec_cases {P : PC ⊕ Out → Prop} (hs : ∀ x y z, P (.inl (.scan x y z))) (hr : ∀ r, P (.inr (.refs r)))
    (m : SMap Bytes) (a : Bytes) (n : Nat) (pc : PC) : P (scanSec m a n pc) := by
  unfold scanSec
  split
  · exact scanStep_cases hs hr ..
  · split
    · exact hr _
    · exact scanStep_cases hs hr ..

/-- what is asked of the result `r` of a section at or after the linearisation point, where the reference
map answered `o`: the next local state satisfies `Post`, or the answer is `o` or a listed anomaly -/
def ResOk {L : Type} (anom : Op → Out → Bool) (Post : Op → L → Out → Prop) (op : Op) (o : Out) : L ⊕ Out → Prop
  | .inl l' => Post op l' o
  | .inr o' => o' = o ∨ anom op o' = true

/-- a section of an enumerate, on a store where a scanning enumerate has linearised and every refs answer is
a listed anomaly -/
theorem scan_ok {anom : Op → Out → Bool} {Post : Op → PC → Out → Prop} {a : Bytes} {n : Nat}
    (hP : ∀ x y z o, Post (.enum a n) (.scan x y z) o) (hA : ∀ r, anom (.enum a n) (.refs r) = true)
    (m : SMap Bytes) (pc : PC) (o : Out) : ResOk anom Post (.enum a n) o (scanSec m a n pc) :=
  scanSec_cases (fun x y z => hP x y z o) (fun r => Or.inr (hA r)) m a n pc

section helpers
variable {S : CStore} {anom : Op → Out → Bool} {abs : S.σ → SMap Bytes} {Inv : S.σ → Prop}
  {Pre : Op → S.L → Prop} {Post : Op → S.L → Out → Prop} {s s' : S.σ} {op : Op} {l l' : S.L} {o : Out}
  {r : S.L ⊕ Out}

/-- the linearisation step, whether it goes on (`r = .inl l'`) or returns (`r = .inr o`) -/
theorem pre_lin (hl : S.lin s op l = true) (hs : S.sec s op l = (s', r)) (hi : Inv s')
    (ha : abs s' = next (abs s) op)
    (hr : ResOk anom Post op (out (abs s) op) r) :
    PreGoal S anom abs Inv Pre Post s op l := by
  unfold PreGoal; rw [hs, if_pos hl]; cases r <;> exact ⟨hi, ha, hr⟩

/-- a section before the linearisation point -/
theorem pre_nolin (hl : S.lin s op l = false) (hs : S.sec s op l = (s', .inl l')) (hi : Inv s')
    (ha : abs s' = abs s) (hp : Pre op l') :
    PreGoal S anom abs Inv Pre Post s op l := by
  unfold PreGoal; rw [hs, if_neg (by simp [hl])]; exact ⟨hi, ha, hp⟩

/-- a section after the linearisation point -/
theorem post_lin (hl : S.lin s op l = false) (hs : S.sec s op l = (s', r)) (hi : Inv s')
    (ha : abs s' = abs s)
    (hr : ResOk anom Post op o r) :
    PostGoal S anom abs Inv Post s op l o := by
  unfold PostGoal; rw [hs]; cases r <;> exact ⟨hl, hi, ha, hr⟩

end helpers

/-- memory.Storage: every call is its own linearisation point and returns in that section, so there is no
section after it (`Post` is empty); no anomaly -/
def lockMapRefines (content : Bytes → Bytes) : CRefines content lockMap noAnom where
  abs := fun s => s
  Inv := Good content
  Pre := fun _ _ => True
  Post := fun _ _ _ => False
  init_inv := good_nil content
  init_abs := rfl
  good := fun _ h => h
  start_pre := fun _ _ => trivial
  pre_sec := by
    intro s op l hi hwk _
    exact pre_lin (S := lockMap) (r := .inr (out s op)) rfl rfl (good_next hi op hwk) rfl (Or.inl rfl)
  post_sec := by intro s op l o _ _ h; exact h.elim

/-- diskpacked: a call that has not linearised is not inside an enumerate's scan; one that has, is -/
def dpPre : Op → PC → Prop
  | .enum _ _, .scan _ _ _ => False
  | _, _ => True

def dpPost : Op → PC → Out → Prop
  | .enum _ _, .scan _ _ _, _ => True
  | _, _, _ => False

theorem zeros_anom (k : Bytes) (n : Nat) : dpAnom (.fetch k) (.bytes (zeros n)) = true := by
  simp [dpAnom, zeros]

/-- diskpacked: receive linearises at the duplicate check (duplicate) or at the locked append; remove
at the index commit; a fetch may see zeroed data, enumerate is a scan (both listed in `dpAnom`) -/
def dpRefines (content : Bytes → Bytes) : CRefines content dpStore dpAnom where
  abs := fun s => s.idx
  Inv := fun s => Good content s.idx
  Pre := dpPre
  Post := dpPost
  init_inv := good_nil content
  init_abs := rfl
  good := fun _ h => h
  start_pre := by intro op _; cases op <;> exact trivial
  pre_sec := by
    intro s op l hi hwk hpre
    cases op with
    | recv k v =>
      have app : ∀ l', dpLin s (.recv k v) l' = true →
          dpSec s (.recv k v) l' = ({ idx := ins k v s.idx, zeroed := s.zeroed.filter (· ≠ k) }, .inr (.sized v.length)) →
          PreGoal dpStore dpAnom (fun s => s.idx) (fun s => Good content s.idx) dpPre dpPost s (.recv k v) l' := by
        intro l' h1 h2
        have e3 := (next_recv_good hi k v hwk.1).symm
        exact pre_lin (S := dpStore) h1 h2 (by show Good content (ins k v s.idx); rw [e3]; exact good_next hi _ hwk)
          e3 (Or.inl rfl)
      cases l with
      | start =>
        by_cases hh : has s.idx k = true
        · exact pre_lin (S := dpStore) (r := .inr (.sized v.length)) hh (if_pos hh) hi (if_pos hh).symm (Or.inl rfl)
        · exact pre_nolin (S := dpStore) (l' := .second) (Bool.eq_false_iff.mpr hh) (if_neg hh) hi rfl trivial
      | _ => exact app _ rfl rfl
    | fetch k =>
      have e2 : dpLin s (.fetch k) l = true := by cases l <;> rfl
      refine pre_lin (S := dpStore) (r := .inr _) e2 rfl hi rfl ?_
      simp only [ResOk, out]
      cases get s.idx k with
      | none => exact Or.inl rfl
      | some v =>
        dsimp only
        by_cases hz : k ∈ s.zeroed
        · rw [if_pos hz]; exact Or.inr (zeros_anom k _)
        · rw [if_neg hz]; exact Or.inl rfl
    | stat k =>
      have e2 : dpLin s (.stat k) l = true := by cases l <;> rfl
      exact pre_lin (S := dpStore) (r := .inr (out s.idx (.stat k))) e2 rfl hi rfl (Or.inl rfl)
    | rm k =>
      have com : ∀ l', dpLin s (.rm k) l' = true →
          dpSec s (.rm k) l' = ({ idx := del k s.idx, zeroed := s.zeroed.filter (· ≠ k) }, .inr .ok) →
          PreGoal dpStore dpAnom (fun s => s.idx) (fun s => Good content s.idx) dpPre dpPost s (.rm k) l' := by
        intro l' h1 h2
        exact pre_lin (S := dpStore) h1 h2 (good_next hi (.rm k) trivial) rfl (Or.inl rfl)
      cases l with
      | start => exact pre_nolin (S := dpStore) (l' := .second) rfl rfl hi rfl trivial
      | _ => exact com _ rfl rfl
    | enum a n =>
      cases l with
      | scan x y z => exact hpre.elim
      | _ => exact pre_lin (S := dpStore) rfl rfl hi rfl (scan_ok (fun _ _ _ _ => trivial) (fun _ => rfl) ..)
  post_sec := by
    intro s op l o hi _ hpost
    cases op with
    | enum a n =>
      cases l with
      | scan x y z => exact post_lin (S := dpStore) rfl rfl hi rfl (scan_ok (fun _ _ _ _ => trivial) (fun _ => rfl) ..)
      | _ => exact hpost.elim
    | _ => exact hpost.elim

/-- files: before its linearisation point a receive has not renamed and an enumerate is not scanning -/
def fsPre : Op → PC → Prop
  | .recv _ _, .fourth => False
  | .recv _ _, .scan _ _ _ => False
  | .enum _ _, .scan _ _ _ => False
  | _, _ => True

/-- files: after it, a receive is at its final Lstat with the size as answer, an enumerate is scanning -/
def fsPost : Op → PC → Out → Prop
  | .recv _ v, .fourth, o => o = .sized v.length
  | .enum _ _, .scan _ _ _, _ => True
  | _, _, _ => False

/-- files/localdisk: receive linearises at the rename; fetch at the failed stat or at the open; a
receive may answer `err` (Lstat after a concurrent remove), enumerate is a walk (both in `fsAnom`) -/
def fsRefines (content : Bytes → Bytes) : CRefines content filesStore fsAnom where
  abs := fun s => s
  Inv := Good content
  Pre := fsPre
  Post := fsPost
  init_inv := good_nil content
  init_abs := rfl
  good := fun _ h => h
  start_pre := by intro op _; cases op <;> exact trivial
  pre_sec := by
    intro s op l hi hwk hpre
    cases op with
    | recv k v =>
      cases l with
      | start => exact pre_nolin (S := filesStore) (l' := .second) rfl rfl hi rfl trivial
      | second => exact pre_nolin (S := filesStore) (l' := .third) rfl rfl hi rfl trivial
      | third =>
        have e3 := (next_recv_good hi k v hwk.1).symm
        exact pre_lin (S := filesStore) (r := .inl .fourth) rfl rfl (by rw [e3]; exact good_next hi _ hwk) e3 rfl
      | _ => exact hpre.elim
    | fetch k =>
      have opn : ∀ l', fsLin s (.fetch k) l' = true → fsSec s (.fetch k) l' = (s, .inr (out s (.fetch k))) →
          PreGoal filesStore fsAnom (fun s => s) (Good content) fsPre fsPost s (.fetch k) l' := by
        intro l' h1 h2
        exact pre_lin (S := filesStore) h1 h2 hi rfl (Or.inl rfl)
      cases l with
      | start =>
        by_cases hh : has s k = true
        · exact pre_nolin (S := filesStore) (l' := .second) (congrArg not hh) (if_pos hh) hi rfl trivial
        · have hf := Bool.eq_false_iff.mpr hh
          exact pre_lin (S := filesStore) (r := .inr .notExist) (congrArg not hf) (if_neg hh) hi rfl
            (Or.inl (by simp only [out, has_false_get hf]))
      | _ => exact opn _ rfl rfl
    | stat k =>
      have e2 : fsLin s (.stat k) l = true := by cases l <;> rfl
      exact pre_lin (S := filesStore) (r := .inr (out s (.stat k))) e2 rfl hi rfl (Or.inl rfl)
    | rm k =>
      have e2 : fsLin s (.rm k) l = true := by cases l <;> rfl
      exact pre_lin (S := filesStore) (r := .inr .ok) e2 rfl (good_next hi (.rm k) trivial) rfl (Or.inl rfl)
    | enum a n =>
      cases l with
      | scan x y z => exact hpre.elim
      | _ => exact pre_lin (S := filesStore) rfl rfl hi rfl (scan_ok (fun _ _ _ _ => trivial) (fun _ => rfl) ..)
  post_sec := by
    intro s op l o hi hwk hpost
    cases op with
    | recv k v =>
      cases l with
      | fourth =>
        obtain rfl : o = .sized v.length := hpost
        refine post_lin (S := filesStore) (r := .inr _) rfl rfl hi rfl ?_
        cases hg : get s k with
        | none => exact Or.inr rfl
        | some b => exact Or.inl (congrArg (fun x => Out.sized x.length) ((hi.2 k b hg).1.trans hwk.1.symm))
      | _ => exact hpost.elim
    | enum a n =>
      cases l with
      | scan x y z => exact post_lin (S := filesStore) rfl rfl hi rfl (scan_ok (fun _ _ _ _ => trivial) (fun _ => rfl) ..)
      | _ => exact hpost.elim
    | _ => exact hpost.elim

/-! ## what an accepted trace says about the final state -/

/-- an event the checker accepts finds its client in the state the event needs -/
theorem chk_ok (anom : Op → Out → Bool) (k : Chk) (e : Ev) (h : (chk anom k e).ok = true) :
    k.ok = true ∧ match e with
      | .inv c _ => k.cl c = .idle
      | .lin c op => k.cl c = .running op
      | .ret c op o => ∃ o', k.cl c = .done op o' ∧ (o = o' ∨ anom op o = true) := by
  cases e with
  | inv c op =>
    cases hcl : k.cl c with
    | idle => rw [chk_inv_idle anom k c op hcl] at h; exact ⟨h, hcl⟩
    | running _ => simp [chk, hcl] at h
    | done _ _ => simp [chk, hcl] at h
  | lin c op =>
    cases hcl : k.cl c with
    | running op' =>
      by_cases e : op = op'
      · subst e; rw [chk_lin_running anom k c op hcl] at h; exact ⟨h, hcl⟩
      · simp [chk, hcl, e] at h
    | idle => simp [chk, hcl] at h
    | done _ _ => simp [chk, hcl] at h
  | ret c op o =>
    cases hcl : k.cl c with
    | done op' o' =>
      by_cases e : op = op' ∧ (o = o' ∨ anom op o = true)
      · obtain ⟨rfl, e2⟩ := e
        rw [chk_ret_done anom k c op o o' hcl e2] at h
        exact ⟨h, o', hcl, e2⟩
      · simp [chk, hcl, e] at h
    | idle => simp [chk, hcl] at h
    | running _ => simp [chk, hcl] at h

theorem foldl_ok_mono (anom : Op → Out → Bool) (tr : List Ev) (k : Chk)
    (h : (tr.foldl (chk anom) k).ok = true) : k.ok = true := by
  induction tr generalizing k with
  | nil => exact h
  | cons e rest ih => exact (chk_ok anom k e (ih _ h)).1

theorem runState_append (m : SMap Bytes) (a b : List Op) :
    runState m (a ++ b) = runState (runState m a) b := by
  induction a generalizing m with
  | nil => rfl
  | cons x xs ih => simp [runState, ih]

theorem linOps_cons (e : Ev) (tr : List Ev) : linOps (e :: tr) = linOps [e] ++ linOps tr := by
  cases e <;> rfl

/-- invariant of the checker: its map is the reference map after the linearised operations so far,
and every client marked as linearised owes that to a linearisation event -/
def ChkInv (k : Chk) (ops : List Op) : Prop :=
  k.m = runState [] ops ∧ ∀ c op o, k.cl c = .done op o → op ∈ ops

theorem done_upd {cl : Nat → CSt} {ops : List Op} (h2 : ∀ c op o, cl c = .done op o → op ∈ ops) (c : Nat) (st : CSt)
    (hst : ∀ op o, st = .done op o → op ∈ ops) : ∀ c' op o, upd cl c st c' = .done op o → op ∈ ops :=
  upd_forall (p := fun (st : CSt) => ∀ op o, st = .done op o → op ∈ ops) h2 c hst

/-- one accepted event keeps the checker's invariant; a response is the response of a linearised call -/
theorem chkInv_chk (anom : Op → Out → Bool) {k : Chk} {ops : List Op} (e : Ev) (hk : ChkInv k ops)
    (hok : (chk anom k e).ok = true) :
    ChkInv (chk anom k e) (ops ++ linOps [e]) ∧ ∀ c op o, e = .ret c op o → op ∈ ops := by
  have he := (chk_ok anom k e hok).2
  have hdone : ∀ l, ∀ c op o, k.cl c = .done op o → op ∈ ops ++ l := fun l c op o h => List.mem_append_left l (hk.2 c op o h)
  cases e with
  | inv c op =>
    rw [chk_inv_idle anom k c op he]
    refine ⟨⟨?_, done_upd (hdone _) c _ ?_⟩, fun _ _ _ h => Ev.noConfusion h⟩
    · show k.m = runState [] (ops ++ [])
      rw [List.append_nil]; exact hk.1
    · intro _ _ h; cases h
  | lin c op =>
    rw [chk_lin_running anom k c op he]
    refine ⟨⟨?_, done_upd (hdone _) c _ ?_⟩, fun _ _ _ h => Ev.noConfusion h⟩
    · show next k.m op = runState [] (ops ++ [op])
      rw [runState_append, ← hk.1]; rfl
    · intro op' o' h; cases h; exact List.mem_append_right _ (List.mem_singleton.mpr rfl)
  | ret c op o =>
    obtain ⟨o', hcl, e2⟩ := he
    rw [chk_ret_done anom k c op o o' hcl e2]
    refine ⟨⟨?_, done_upd (hdone _) c _ ?_⟩, ?_⟩
    · show k.m = runState [] (ops ++ [])
      rw [List.append_nil]; exact hk.1
    · intro _ _ h; cases h
    · intro c' op' o'' h; cases h; exact hk.2 c op o' hcl

theorem chkInv_foldl (anom : Op → Out → Bool) (tr : List Ev) (k : Chk) (ops : List Op)
    (hk : ChkInv k ops) (hok : (tr.foldl (chk anom) k).ok = true) :
    ChkInv (tr.foldl (chk anom) k) (ops ++ linOps tr) ∧
      ∀ c op o, Ev.ret c op o ∈ tr → op ∈ ops ++ linOps tr := by
  induction tr generalizing k ops with
  | nil => exact ⟨by rw [show linOps [] = [] from rfl, List.append_nil]; exact hk, fun _ _ _ h => absurd h List.not_mem_nil⟩
  | cons e rest ih =>
    obtain ⟨h1, h2⟩ := chkInv_chk anom e hk (foldl_ok_mono anom rest _ hok)
    obtain ⟨i1, i2⟩ := ih _ _ h1 hok
    rw [linOps_cons, ← List.append_assoc]
    refine ⟨i1, fun c op o hm => ?_⟩
    rcases List.mem_cons.mp hm with hm | hm
    · exact List.mem_append_left _ (List.mem_append_left _ (h2 c op o hm.symm))
    · exact i2 c op o hm

theorem replay_runState (anom : Op → Out → Bool) (tr : List Ev) (hok : (replay anom tr).ok = true) :
    (replay anom tr).m = runState [] (linOps tr) ∧ ∀ c op o, Ev.ret c op o ∈ tr → op ∈ linOps tr := by
  have := chkInv_foldl anom tr Chk.init [] ⟨rfl, by intro c op o h; simp [Chk.init] at h⟩ hok
  simpa [replay] using And.intro this.1.1 this.2

theorem kasc_next {m : SMap Bytes} (hm : KAsc m) (op : Op) : KAsc (next m op) := by
  cases op with
  | recv k v => simp only [next]; split; exact hm; exact kasc_ins k v hm
  | rm k => exact kasc_del k hm
  | _ => exact hm

theorem has_next {m : SMap Bytes} (hm : KAsc m) {k : Bytes} (op : Op) (hne : op ≠ .rm k)
    (h : has m k = true) : has (next m op) k = true := by
  cases op with
  | recv k' v' =>
    simp only [next]
    split
    · exact h
    · rw [has_ins, h, Bool.or_true]
  | rm k' =>
    have e : k ≠ k' := fun e => hne (e ▸ rfl)
    simp only [next, has_del k' hm, h, e, decide_false, Bool.not_false, Bool.and_self]
  | _ => exact h

theorem has_recv (m : SMap Bytes) (k v : Bytes) : has (next m (.recv k v)) k = true := by
  simp only [next]
  split
  · assumption
  · simp [has_ins]

/-- a blob that is received somewhere in a history and never removed is present at the end -/
theorem has_runState {m : SMap Bytes} (hm : KAsc m) (k : Bytes) (ops : List Op)
    (hr : has m k = true ∨ ∃ v, Op.recv k v ∈ ops) (hn : ∀ op ∈ ops, op ≠ .rm k) :
    has (runState m ops) k = true := by
  induction ops generalizing m with
  | nil =>
    rcases hr with h | ⟨v, h⟩
    · exact h
    · simp at h
  | cons op rest ih =>
    simp only [runState]
    apply ih (kasc_next hm op)
    · rcases hr with h | ⟨v, h⟩
      · exact Or.inl (has_next hm op (hn op (by simp)) h)
      · simp only [List.mem_cons] at h
        rcases h with h | h
        · subst h; exact Or.inl (has_recv m k v)
        · exact Or.inr ⟨v, h⟩
    · intro op' h; exact hn op' (by simp [h])

def evOp : Ev → Op
  | .inv _ op => op
  | .lin _ op => op
  | .ret _ op _ => op

/-- every operation that occurs in the trace (and every operation in flight) was invoked by the schedule -/
theorem step_ops (S : CStore) (A : Op → Prop) (y : Sys S) (lbl : Lbl)
    (hA : ∀ c op, lbl = .call c op → A op)
    (h : (∀ ev ∈ y.trace, A (evOp ev)) ∧ ∀ c t, y.thr c = some t → A t.op) :
    (∀ ev ∈ (Sys.step S y lbl).trace, A (evOp ev)) ∧ ∀ c t, (Sys.step S y lbl).thr c = some t → A t.op := by
  obtain ⟨h1, h2⟩ := h
  have one : ∀ {e : Ev}, A (evOp e) → ∀ ev ∈ [e], A (evOp ev) := fun he ev hev => List.mem_singleton.mp hev ▸ he
  have updA : ∀ c (o : Option (Thread S)), (∀ t, o = some t → A t.op) → ∀ c' t, upd y.thr c o c' = some t → A t.op :=
    fun c _ ho => upd_forall (p := fun (o : Option (Thread S)) => ∀ t, o = some t → A t.op) h2 c ho
  cases lbl with
  | call c op =>
    simp only [Sys.step]
    cases ht : y.thr c with
    | some t => exact ⟨h1, h2⟩
    | none =>
      have hop : A op := hA c op rfl
      exact ⟨List.forall_mem_append.mpr ⟨h1, one hop⟩,
        updA c _ (fun t e => by cases e; exact hop)⟩
  | step c =>
    simp only [Sys.step]
    cases ht : y.thr c with
    | none => exact ⟨h1, h2⟩
    | some t =>
      have hAt : A t.op := h2 c t ht
      have hevl : ∀ ev ∈ y.trace ++ (if S.lin y.sh t.op t.l = true then [Ev.lin c t.op] else []), A (evOp ev) :=
        List.forall_mem_append.mpr ⟨h1, by split; exact one hAt; exact fun _ h => absurd h List.not_mem_nil⟩
      dsimp only
      split
      · exact ⟨hevl, updA c _ (fun t' e => by cases e; exact hAt)⟩
      · exact ⟨List.forall_mem_append.mpr ⟨hevl, one hAt⟩, updA c _ (fun _ h => by cases h)⟩

theorem exec_ops (S : CStore) (A : Op → Prop) (sched : List Lbl) (hA : ∀ c op, Lbl.call c op ∈ sched → A op) :
    ∀ ev ∈ (exec S sched).trace, A (evOp ev) := by
  have gen : ∀ (sched : List Lbl) (y : Sys S), (∀ c op, Lbl.call c op ∈ sched → A op) →
      ((∀ ev ∈ y.trace, A (evOp ev)) ∧ ∀ c t, y.thr c = some t → A t.op) →
      ((∀ ev ∈ (sched.foldl (Sys.step S) y).trace, A (evOp ev)) ∧
        ∀ c t, (sched.foldl (Sys.step S) y).thr c = some t → A t.op) := by
    intro sched
    induction sched with
    | nil => intro y _ h; exact h
    | cons lbl rest ih =>
      intro y hA h
      simp only [List.foldl_cons]
      exact ih _ (fun c op hm => hA c op (by simp [hm]))
        (step_ops S A y lbl (fun c op e => hA c op (by simp [e])) h)
  exact (gen sched (Sys.init S) hA ⟨by simp [Sys.init], by simp [Sys.init]⟩).1

theorem mem_linOps {tr : List Ev} {op : Op} (h : op ∈ linOps tr) : ∃ c, Ev.lin c op ∈ tr := by
  simp only [linOps, List.mem_filterMap] at h
  obtain ⟨ev, hev, he⟩ := h
  cases ev with
  | lin c op' => simp at he; subst he; exact ⟨c, hev⟩
  | inv c op' => simp at he
  | ret c op' o => simp at he

end Pk.Conc
