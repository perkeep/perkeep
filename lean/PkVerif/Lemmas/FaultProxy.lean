import PkVerif.Spec.Faults
import PkVerif.Lemmas.RefProxy
/-!
C13 for proxycache: caches behind a failure schedule satisfy `FCaches`, and proxycache over ANY
fault-tolerant origin and ANY such cache is fault-tolerant (`proxyFRefines`, from `proxy_fstep`).
Finding F-C13-4 (fixed): the former RemoveBlobs ran the cache's and the origin's removal in
parallel; `proxyParallelRmImpl` keeps that behaviour and
`proxy_failed_cache_remove_counterexample` / `proxy_failed_cache_remove_not_FRefines` show what
went wrong when the cache's removal failed without effect while the origin's took effect.
-/
namespace Pk.RefMap
open Pk Pk.SMap

theorem Caches.toF_rmSure {content : Bytes → Bytes} {I : Impl} (C : Caches content I) :
    C.toF.RmSure := fun s k h => (C.rm_ok s k h).2

/-- a cache behind a failure schedule whose faults all satisfy `allowed` -/
def faultLeafFCaches {content : Bytes → Bytes} {I : Impl} (C : Caches content I) (sched : List Fault)
    (allowed : Fault → Prop) (hs : ∀ f ∈ sched, allowed f) : FCaches content (faultLeaf I sched) where
  abs := fun s => C.abs s.1
  Inv := fun s => C.Inv s.1 ∧ ∀ f ∈ s.2, allowed f
  Quiet := fun s => ∀ f ∈ s.2, f = Fault.none
  init_inv := ⟨C.init_inv, hs⟩
  init_abs := C.init_abs
  good := fun s h => C.good s.1 h.1
  step_inv := by
    rintro ⟨s, sc⟩ op ⟨h, ha⟩ hop
    have hi := C.step_inv s op h hop
    cases sc with
    | nil => exact ⟨hi, ha⟩
    | cons f rest =>
      have ha' : ∀ g ∈ rest, allowed g := fun g hg => ha g (List.mem_cons_of_mem _ hg)
      cases f with
      | none => exact ⟨hi, ha'⟩
      | before => exact ⟨h, ha'⟩
      | after => exact ⟨hi, ha'⟩
  step_sub := by
    rintro ⟨s, sc⟩ op ⟨h, _⟩ hop
    have hs := C.step_sub s op h hop
    cases sc with
    | nil => exact hs
    | cons f rest =>
      cases f with
      | none => exact hs
      | before => exact sub_grow (C.good s h) op hop
      | after => exact hs
  fetch_ok := by
    rintro ⟨s, sc⟩ k v ⟨h, _⟩ ho
    have hx := C.step_out s (.fetch k) h trivial
    cases sc with
    | nil => exact out_fetch_bytes (hx.symm.trans ho)
    | cons f rest =>
      cases f with
      | none => exact out_fetch_bytes (hx.symm.trans ho)
      | before => cases ho
      | after => cases ho
  stat_ok := by
    rintro ⟨s, sc⟩ k n ⟨h, _⟩ ho
    have hx := C.step_out s (.stat k) h trivial
    cases sc with
    | nil => exact out_stat_sized (hx.symm.trans ho)
    | cons f rest =>
      cases f with
      | none => exact out_stat_sized (hx.symm.trans ho)
      | before => cases ho
      | after => cases ho
  rm_ok := by
    rintro ⟨s, sc⟩ k ⟨h, _⟩ ho
    have hx := (C.rm_ok s k h).2
    cases sc with
    | nil => exact hx
    | cons f rest =>
      cases f with
      | none => exact hx
      | before => cases ho
      | after => cases ho
  quiet_step := by
    rintro ⟨s, sc⟩ op ⟨h, _⟩ hq hop
    have hx := C.step_out s op h hop
    cases sc with
    | nil => exact ⟨hx, by intro f hf; cases hf⟩
    | cons f rest =>
      have hf : f = Fault.none := hq f (by simp)
      subst hf
      exact ⟨hx, fun g hg => hq g (List.mem_cons_of_mem _ hg)⟩

/-- every kind of failure, at any call -/
def faultLeafFCachesAny {content : Bytes → Bytes} {I : Impl} (C : Caches content I)
    (sched : List Fault) : FCaches content (faultLeaf I sched) :=
  faultLeafFCaches C sched (fun _ => True) (fun _ _ => trivial)

/-- failures that lose the answer only (`Fault.after`): the call itself always takes effect -/
def faultLeafFCachesNB {content : Bytes → Bytes} {I : Impl} (C : Caches content I)
    (sched : List Fault) (hs : ∀ f ∈ sched, f ≠ Fault.before) : FCaches content (faultLeaf I sched) :=
  faultLeafFCaches C sched (· ≠ Fault.before) hs

theorem faultLeafFCachesNB_rmSure {content : Bytes → Bytes} {I : Impl} (C : Caches content I)
    (sched : List Fault) (hs : ∀ f ∈ sched, f ≠ Fault.before) :
    (faultLeafFCachesNB C sched hs).RmSure := by
  rintro ⟨s, sc⟩ k ⟨h, ha⟩
  have hx := (C.rm_ok s k h).2
  cases sc with
  | nil => exact hx
  | cons f rest =>
    cases f with
    | none => exact hx
    | before => exact absurd rfl (ha Fault.before (by simp))
    | after => exact hx

end Pk.RefMap

namespace Pk.Stores
open Pk Pk.SMap Pk.RefMap

/-- C13 for proxycache, at full strength: over ANY origin that may fail (`FRefines`) and ANY cache
that may fail (`FCaches`), proxycache is fault-tolerant.  The abstract map is the origin's; quiet =
origin quiet and cache quiet. -/
def proxyFRefines {content : Bytes → Bytes} {origin cache : Impl} (Fo : FRefines content origin)
    (Cc : FCaches content cache) (max : Nat) : FRefines content (proxyImpl origin cache max) where
  abs := fun s => Fo.abs s.1
  Inv := PInv Fo Cc max
  Quiet := PQuiet Fo Cc max
  init_inv := ⟨Fo.init_inv, Cc.init_inv, by
    show Sub (Cc.abs cache.init) _
    rw [Cc.init_abs]; intro k v h; simp [SMap.get] at h⟩
  init_abs := Fo.init_abs
  good := fun s h => Fo.good s.1 h.1
  step_ok := fun s op h hop =>
    let p := proxy_fstep Fo Cc max s op hop h
    ⟨p.1, p.2.1⟩
  quiet_step := fun s op h hq hop => (proxy_fstep Fo Cc max s op hop h).2.2 hq

/-- instance: a failing memory origin and a failing evicting memory cache, any schedules -/
example (content : Bytes → Bytes) (s1 s2 : List Fault) (cmax max : Nat) :
    FRefines content (proxyImpl (faultLeaf memImpl s1) (faultLeaf (memCacheImpl cmax) s2) max) :=
  proxyFRefines (faultLeafF (memRefines content) s1)
    (faultLeafFCachesAny (memCacheCaches content cmax) s2) max

/-- instance: a proxycache whose cache is itself a failing store that refines the map -/
example (content : Bytes → Bytes) (s1 s2 : List Fault) (max : Nat) :
    FRefines content (proxyImpl (faultLeaf memImpl s1) (faultLeaf memImpl s2) max) :=
  proxyFRefines (faultLeafF (memRefines content) s1)
    (faultLeafFCachesAny (memRefines content).toCaches s2) max

/-! ### finding F-C13-4 (fixed in /repo commit 938eb3a): the former parallel RemoveBlobs

Before the fix RemoveBlobs ran the cache's and the origin's removal in parallel and returned the
first error.  `proxyParallelRmImpl` is proxycache with that remove.  A cache removal that fails
without effect while the origin's takes effect leaves the cache serving a blob the origin no longer
has. -/

/-- proxycache with the former remove: both removals always run -/
def proxyParallelRmImpl (origin cache : Impl) (max : Nat) : Impl where
  σ := origin.σ × cache.σ × ProxyBook
  init := (origin.init, cache.init, ⟨[], 0⟩)
  step := fun (os, cs, b) op =>
    match op with
    | .rm k =>
      match cache.step cs (.rm k), origin.step os (.rm k) with
      | (cs1, .ok), (os1, .ok) => ((os1, cs1, b), .ok)
      | (cs1, _), (os1, _) => ((os1, cs1, b), .err)
    | op => (proxyImpl origin cache max).step (os, cs, b) op

/-- what the parallel remove needed beyond the cache contract: either the cache's removal took
effect (whatever it answered), or the origin's did not -/
theorem proxyParallelRm_rm {content : Bytes → Bytes} {origin cache : Impl}
    (Fo : FRefines content origin) (Cc : FCaches content cache) (max : Nat)
    (os : origin.σ) (cs : cache.σ) (b : ProxyBook) (k : Bytes)
    (hrm : Sub (Cc.abs (cache.step cs (.rm k)).1) (del k (Cc.abs cs)) ∨
      Fo.abs (origin.step os (.rm k)).1 = Fo.abs os)
    (hI : PInv Fo Cc max (os, cs, b)) :
    PStepR Fo Cc max (os, cs, b) (.rm k)
      ((proxyParallelRmImpl origin cache max).step (os, cs, b) (.rm k)) := by
  obtain ⟨hR, hC, hS⟩ := hI
  have hGo := Fo.good os hR
  have hGc := Cc.good cs hC
  obtain ⟨hci, hcs, hcq⟩ := cstep Cc cs (.rm k) hC trivial
  have hcr := Cc.rm_ok cs k hC
  obtain ⟨hoi, hO⟩ := ostep Fo os (.rm k) hR trivial
  have hdd := sub_del_del k hGc.1 hGo.1 hS
  have hd := (sub_del_self k hGc.1).trans hS
  dsimp only [proxyParallelRmImpl]
  generalize origin.step os (.rm k) = po at hoi hO hrm
  obtain ⟨os1, oo⟩ := po
  generalize cache.step cs (.rm k) = pr at hci hcs hcq hcr hrm
  obtain ⟨cs1, orr⟩ := pr
  simp only [grow, next, out] at hoi hO hci hcs hcq hcr hrm
  have hS1 := hcs.trans hS
  have ha' : Fo.abs os1 = Fo.abs os ∨ Fo.abs os1 = next (Fo.abs os) (.rm k) := by
    rcases hO with ⟨_, ha, _⟩ | ⟨_, ha, _⟩
    · exact Or.inr ha
    · exact ha
  by_cases hk : orr = .ok
  · subst hk
    have hs := hcr rfl
    rcases hO with ⟨ho, ha, hq⟩ | ⟨ho, ha, hq⟩
    · subst ho
      simp only
      exact mk_exact ⟨hoi, hci, by rw [ha]; exact hs.trans hdd⟩ rfl ha
        (fun q => ⟨hq q.1, (hcq q.2).2⟩)
    · subst ho
      simp only
      refine mk_err ⟨hoi, hci, ?_⟩ rfl ha (fun q => hq q.1)
      rcases ha with ha | ha
      · rw [ha]; exact hs.trans hd
      · rw [ha]; exact hs.trans hdd
  · -- the cache's removal failed: `.err` whatever the origin answered
    have hsub : SMap.Sub (Cc.abs cs1) (Fo.abs os1) := by
      rcases hrm with h | h
      · rcases ha' with ha | ha
        · rw [ha]; exact hS1
        · rw [ha]; exact h.trans hdd
      · rw [h]; exact hS1
    have hans : (match (cs1, orr), (os1, oo) with
        | (cs1, .ok), (os1, .ok) => ((os1, cs1, b), Out.ok)
        | (cs1, _), (os1, _) => ((os1, cs1, b), Out.err)) = ((os1, cs1, b), Out.err) := by
      cases orr with
      | ok => exact absurd rfl hk
      | _ => rfl
    rw [hans]
    exact mk_err ⟨hoi, hci, hsub⟩ rfl ha' (fun q => hk (hcq q.2).1)

theorem no_map_fetch_enum (m : SMap Bytes) (k v : Bytes) (hk : k ≠ []) (n : Nat)
    (hf : out m (.fetch k) = .bytes v) : out m (.enum [] (n + 1)) ≠ .refs [] := by
  intro he
  have hmem := get_some_mem (out_fetch_bytes hf)
  have hlt : ltB [] k = true := by
    cases k with
    | nil => exact absurd rfl hk
    | cons _ _ => rfl
  have hmem' : (k, v) ∈ m.filter (fun p => ltB [] p.1) := List.mem_filter.mpr ⟨hmem, hlt⟩
  simp only [out, enumOf, sizes] at he
  injection he with he
  cases hfl : m.filter (fun p => ltB [] p.1) with
  | nil => rw [hfl] at hmem'; cases hmem'
  | cons a l => rw [hfl] at he; simp at he

/-- the proxy of the counterexample: memory origin, memory cache whose second call fails without
effect, room for 100 bytes -/
def badProxy : Impl :=
  proxyParallelRmImpl memImpl (faultLeaf memImpl [Fault.none, Fault.before]) 100

/-- The former RemoveBlobs ran the cache's and the origin's removal in parallel and returned the
first error.  History: receive blob `[1]`; remove it, where the cache's removal fails
without effect (the cache's 2nd call) and the origin's succeeds: the caller sees `.err`.  From then
on, with no failure pending anywhere, the proxy serves the blob on Fetch and Stat (cache hits) but
does not enumerate it (Enumerate asks the origin only) – no map, neither the before- nor the
after-state of the failed remove nor any other, answers like that. -/
theorem proxy_failed_cache_remove_counterexample :
    badProxy.run badProxy.init
        [.recv [1] [7], .rm [1], .fetch [1], .stat [1], .enum [] 10, .fetch [1]] =
      [.sized 1, .err, .bytes [7], .sized 1, .refs [], .bytes [7]] ∧
    -- after the failed remove: the origin has dropped the blob, the cache still holds it, and the
    -- cache's failure schedule is used up
    (badProxy.runState badProxy.init [.recv [1] [7], .rm [1]]).1 = [] ∧
    (badProxy.runState badProxy.init [.recv [1] [7], .rm [1]]).2.1 = ([([1], [7])], []) ∧
    -- no reference map gives the later answers
    (∀ m : SMap Bytes, ¬ (out m (.fetch [1]) = .bytes [7] ∧ out m (.enum [] 10) = .refs [])) :=
  ⟨by decide, rfl, rfl, fun m h => no_map_fetch_enum m [1] [7] (by decide) 9 h.1 h.2⟩

/-- consequently `badProxy` is not fault-tolerant under ANY abstraction function and invariant, as
soon as "the cache's failure schedule is used up" counts as quiet (the origin never fails) -/
theorem proxy_failed_cache_remove_not_FRefines (content : Bytes → Bytes) (hc : content [1] = [7])
    (F : FRefines content badProxy) (hQ : ∀ s : badProxy.σ, s.2.1.2 = [] → F.Quiet s) : False := by
  have hops : ∀ op ∈ [Op.recv [1] [7], .rm [1]], op.WK content := by
    intro op h
    simp only [List.mem_cons, List.not_mem_nil, or_false] at h
    rcases h with rfl | rfl
    · exact ⟨hc.symm, by decide⟩
    · trivial
  have hops2 : ∀ op ∈ [Op.fetch [1], .enum [] 10], op.WK content := by
    intro op h
    simp only [List.mem_cons, List.not_mem_nil, or_false] at h
    rcases h with rfl | rfl <;> trivial
  have hinv := F.reach_inv badProxy.init F.init_inv _ hops
  have hq := hQ (badProxy.runState badProxy.init [.recv [1] [7], .rm [1]]) rfl
  have hr := F.recovers _ hinv hq _ hops2
  have hl : badProxy.run (badProxy.runState badProxy.init [.recv [1] [7], .rm [1]])
      [.fetch [1], .enum [] 10] = [.bytes [7], .refs []] := by decide
  rw [hl] at hr
  simp only [run, next] at hr
  injection hr with h1 h2
  injection h2 with h2 _
  exact no_map_fetch_enum _ [1] [7] (by decide) 9 h1.symm h2.symm

/-- the repaired proxycache on the same history and failure schedule: the failed remove leaves the
before-state, consistently on every read path -/
theorem proxy_failed_cache_remove_fixed :
    (proxyImpl memImpl (faultLeaf memImpl [Fault.none, Fault.before]) 100).run
        (proxyImpl memImpl (faultLeaf memImpl [Fault.none, Fault.before]) 100).init
        [.recv [1] [7], .rm [1], .fetch [1], .stat [1], .enum [] 10, .rm [1], .fetch [1], .enum [] 10] =
      [.sized 1, .err, .bytes [7], .sized 1, .refs [([1], 1)], .ok, .notExist, .refs []] := by
  decide

end Pk.Stores
