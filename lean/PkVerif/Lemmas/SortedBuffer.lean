import PkVerif.Lemmas.SortedKV
import PkVerif.Model.SortedBuffer
/-! Helper lemmas about `Pk.SortedBuffer`: the two-way merge and the iterator that computes it (`merge`,
`Pos`, `collect_start`); then the buffer as a simulation of the map it stands for (`Rel`: `rel_set`,
`rel_erase`, `rel_batch` on the two stores as lists, `rel_flush` … `rel_find` on a `Buf`; `flush_spec`). -/
namespace Pk.SortedBuffer
open Pk Pk.SortedKV

/-- the merge the iterator is meant to compute: on equal keys the buffer side (left) wins -/
def merge : KV → KV → KV
  | [], B => B
  | a :: A, [] => a :: A
  | a :: A, b :: B =>
    if ltB a.1 b.1 then a :: merge A (b :: B)
    else if ltB b.1 a.1 then b :: merge (a :: A) B
    else a :: merge A B
termination_by A B => A.length + B.length

theorem merge_nil_left (B : KV) : merge [] B = B := by unfold merge; rfl

theorem merge_nil_right (A : KV) : merge A [] = A := by
  cases A with
  | nil => exact merge_nil_left []
  | cons a A => unfold merge; rfl

theorem merge_cons_cons (a b : Bytes × Bytes) (A B : KV) :
    merge (a :: A) (b :: B) =
      if ltB a.1 b.1 then a :: merge A (b :: B)
      else if ltB b.1 a.1 then b :: merge (a :: A) B
      else a :: merge A B := by
  rw [merge]

theorem keys_merge (A B : KV) (x : Bytes) (h : x ∈ keys (merge A B)) : x ∈ keys A ∨ x ∈ keys B := by
  induction A, B using merge.induct with
  | case1 B => rw [merge_nil_left] at h; exact Or.inr h
  | case2 a A => rw [merge_nil_right] at h; exact Or.inl h
  | case3 a A b B hlt ih =>
    rw [merge_cons_cons, if_pos hlt] at h
    simp only [keys, List.map_cons, List.mem_cons] at h ih ⊢
    rcases h with h | h
    · exact Or.inl (Or.inl h)
    · simpa only [or_assoc] using Or.imp_left Or.inr (ih h)
  | case4 a A b B hnlt hgt ih =>
    rw [merge_cons_cons, if_neg hnlt, if_pos hgt] at h
    simp only [keys, List.map_cons, List.mem_cons] at h ih ⊢
    rcases h with h | h
    · exact Or.inr (Or.inl h)
    · exact (ih h).imp_right Or.inr
  | case5 a A b B hnlt hngt ih =>
    rw [merge_cons_cons, if_neg hnlt, if_neg hngt] at h
    simp only [keys, List.map_cons, List.mem_cons] at h ⊢
    rcases h with h | h
    · exact Or.inl (Or.inl h)
    · exact (ih h).imp Or.inr Or.inr

theorem eq_of_not_lt {a b : Bytes} (h1 : ¬ ltB a b = true) (h2 : ¬ ltB b a = true) : a = b :=
  Decidable.byContradiction fun e => h2 (ltB_flip h1 e)

theorem wf_merge {A B : KV} (hA : WF A) (hB : WF B) : WF (merge A B) := by
  induction A, B using merge.induct with
  | case1 B => rw [merge_nil_left]; exact hB
  | case2 a A => rw [merge_nil_right]; exact hA
  | case3 a A b B hlt ih =>
    obtain ⟨ka, va⟩ := a
    obtain ⟨kb, vb⟩ := b
    rw [merge_cons_cons, if_pos hlt, wf_cons]
    refine ⟨?_, ih (wf_tail hA) hB⟩
    intro x hx
    rcases keys_merge _ _ x hx with h | h
    · exact (wf_cons.mp hA).1 x h
    · simp only [keys, List.map_cons, List.mem_cons] at h
      rcases h with h | h
      · subst h; exact hlt
      · exact ltB_trans _ _ _ hlt ((wf_cons.mp hB).1 x h)
  | case4 a A b B hnlt hgt ih =>
    obtain ⟨ka, va⟩ := a
    obtain ⟨kb, vb⟩ := b
    rw [merge_cons_cons, if_neg hnlt, if_pos hgt, wf_cons]
    refine ⟨?_, ih hA (wf_tail hB)⟩
    intro x hx
    rcases keys_merge _ _ x hx with h | h
    · simp only [keys, List.map_cons, List.mem_cons] at h
      rcases h with h | h
      · subst h; exact hgt
      · exact ltB_trans _ _ _ hgt ((wf_cons.mp hA).1 x h)
    · exact (wf_cons.mp hB).1 x h
  | case5 a A b B hnlt hngt ih =>
    obtain ⟨ka, va⟩ := a
    obtain ⟨kb, vb⟩ := b
    have e : ka = kb := eq_of_not_lt hnlt hngt
    rw [merge_cons_cons, if_neg hnlt, if_neg hngt, wf_cons]
    refine ⟨?_, ih (wf_tail hA) (wf_tail hB)⟩
    intro x hx
    rcases keys_merge _ _ x hx with h | h
    · exact (wf_cons.mp hA).1 x h
    · have := (wf_cons.mp hB).1 x h
      simpa [e] using this

/-- the merge looks a key up in the buffer side first, then in the backing side -/
theorem get_merge {A B : KV} (hA : WF A) (x : Bytes) :
    get (merge A B) x = (get A x).or (get B x) := by
  induction A, B using merge.induct with
  | case1 B => rw [merge_nil_left]; simp [SortedKV.get]
  | case2 a A => rw [merge_nil_right]; simp [SortedKV.get]
  | case3 a A b B hlt ih =>
    obtain ⟨ka, va⟩ := a
    rw [merge_cons_cons, if_pos hlt]
    simp only [SortedKV.get]
    by_cases e : ka = x
    · simp [e]
    · rw [if_neg e, if_neg e]; exact ih (wf_tail hA)
  | case4 a A b B hnlt hgt ih =>
    obtain ⟨ka, va⟩ := a
    obtain ⟨kb, vb⟩ := b
    rw [merge_cons_cons, if_neg hnlt, if_pos hgt]
    simp only [SortedKV.get]
    by_cases e : kb = x
    · subst e
      have hne : ¬ ka = kb := fun e' => ltB_ne hgt e'.symm
      rw [if_neg hne, get_tail_none hA (ltB_asymm _ _ hgt)]
      simp
    · have := ih hA
      simp only [SortedKV.get] at this
      rw [if_neg e, this, if_neg e]
  | case5 a A b B hnlt hngt ih =>
    obtain ⟨ka, va⟩ := a
    obtain ⟨kb, vb⟩ := b
    have e : ka = kb := eq_of_not_lt hnlt hngt
    subst e
    rw [merge_cons_cons, if_neg hnlt, if_neg hngt]
    simp only [SortedKV.get]
    by_cases e : ka = x
    · simp [e]
    · rw [if_neg e, if_neg e, if_neg e]; exact ih (wf_tail hA)

theorem merge_isEmpty (A B : KV) : (merge A B).isEmpty = (A.isEmpty && B.isEmpty) := by
  cases A with
  | nil => rw [merge_nil_left]; rfl
  | cons a A =>
    cases B with
    | nil => rw [merge_nil_right]; rfl
    | cons b B => rw [merge_cons_cons]; split; rfl; split <;> rfl

/-- the sub-iterator stands on the first row of `l` (at its end when `l = []`) and its underlying
iterator has never been called after its end -/
def SubPos (s : SubIter) (l : KV) : Prop :=
  s.overrun = false ∧
  match l with
  | [] => s.eof = true
  | p :: r => s.eof = false ∧ s.cur = some p ∧ s.key = p.1 ∧ s.rest = r

theorem subpos_next {s : SubIter} {p : Bytes × Bytes} {r : KV} (h : SubPos s (p :: r)) :
    SubPos s.next.1 r ∧ s.next.2 = !r.isEmpty := by
  obtain ⟨ho, he, hc, hk, hr⟩ := h
  cases r with
  | nil => simp [SubIter.next, hr, SubPos, ho, he]
  | cons q r' => simp [SubIter.next, hr, SubPos, ho, he]

theorem subpos_start (l : KV) :
    SubPos (SubIter.start l).next.1 l ∧ (SubIter.start l).next.2 = !l.isEmpty := by
  cases l with
  | nil => simp [SubIter.next, SubIter.start, SubPos]
  | cons q r' => simp [SubIter.next, SubIter.start, SubPos]

structure Pos (it : Iter) (A B : KV) : Prop where
  started : it.started = true
  buf : SubPos it.buf A
  back : SubPos it.back B

theorem pos_head {it : Iter} {A B : KV} (h : Pos it A B) {p : Bytes × Bytes} {rest : KV}
    (hm : merge A B = p :: rest) : (it.key, it.value) = p := by
  obtain ⟨_, ⟨_, hA⟩, ⟨_, hB⟩⟩ := h
  cases A with
  | nil =>
    cases B with
    | nil => rw [merge_nil_left] at hm; cases hm
    | cons b B' =>
      rw [merge_nil_left] at hm
      injection hm with hm _; subst hm
      obtain ⟨he, hc, hk, _⟩ := hB
      simp only at hA
      simp [Iter.key, Iter.value, Iter.current, he, hA, hk, SubIter.value, hc]
  | cons a A' =>
    obtain ⟨hea, hca, hka, _⟩ := hA
    cases B with
    | nil =>
      rw [merge_nil_right] at hm
      injection hm with hm _; subst hm
      simp only at hB
      simp [Iter.key, Iter.value, Iter.current, hB, hka, SubIter.value, hca]
    | cons b B' =>
      obtain ⟨heb, hcb, hkb, _⟩ := hB
      rw [merge_cons_cons] at hm
      by_cases hlt : ltB a.1 b.1 = true
      · rw [if_pos hlt] at hm
        injection hm with hm _; subst hm
        have : leB a.1 b.1 = true := by simp [leB, ltB_asymm _ _ hlt]
        simp [Iter.key, Iter.value, Iter.current, hea, heb, hka, hkb, this, SubIter.value, hca]
      · rw [if_neg hlt] at hm
        by_cases hgt : ltB b.1 a.1 = true
        · rw [if_pos hgt] at hm
          injection hm with hm _; subst hm
          have : leB a.1 b.1 = false := by simp [leB, hgt]
          simp [Iter.key, Iter.value, Iter.current, hea, heb, hka, hkb, this, SubIter.value, hcb]
        · rw [if_neg hgt] at hm
          injection hm with hm _; subst hm
          have : leB a.1 b.1 = true := by simp [leB, hgt]
          simp [Iter.key, Iter.value, Iter.current, hea, heb, hka, hkb, this, SubIter.value, hca]

/-- one `Next` of a positioned iterator moves it to the position of the merge's tail and reports
whether that tail is non-empty; no exhausted sub-iterator is touched -/
theorem pos_advance {it : Iter} {A B : KV} (h : Pos it A B) :
    ∃ A' B', Pos it.advance.1 A' B' ∧ merge A' B' = (merge A B).tail ∧
      it.advance.2 = !(merge A' B').isEmpty := by
  suffices ∃ A' B', Pos it.advance.1 A' B' ∧ merge A' B' = (merge A B).tail ∧
      it.advance.2 = (!A'.isEmpty || !B'.isEmpty) from
    let ⟨A', B', h1, h2, h3⟩ := this
    ⟨A', B', h1, h2, by rw [h3, merge_isEmpty, Bool.not_and]⟩
  obtain ⟨hs, hA, hB⟩ := h
  cases A with
  | nil =>
    have hea : it.buf.eof = true := hA.2
    cases B with
    | nil =>
      have heb : it.back.eof = true := hB.2
      simp only [Iter.advance, hea, heb, Bool.and_self, if_true]
      exact ⟨[], [], ⟨hs, hA, hB⟩, by rw [merge_nil_left]; rfl, rfl⟩
    | cons b B' =>
      have heb : it.back.eof = false := hB.2.1
      obtain ⟨hp, hn⟩ := subpos_next hB
      simp only [Iter.advance, hea, heb, Bool.and_false, Bool.false_eq_true, if_false, if_true]
      exact ⟨[], B', ⟨hs, hA, hp⟩, by rw [merge_nil_left, merge_nil_left]; rfl, hn⟩
  | cons a A' =>
    have hea : it.buf.eof = false := hA.2.1
    have hka : it.buf.key = a.1 := hA.2.2.2.1
    obtain ⟨hpa, hna⟩ := subpos_next hA
    cases B with
    | nil =>
      have heb : it.back.eof = true := hB.2
      simp only [Iter.advance, hea, heb, Bool.false_and, Bool.false_eq_true, if_false, if_true]
      exact ⟨A', [], ⟨hs, hpa, hB⟩, by rw [merge_nil_right, merge_nil_right]; rfl,
        hna.trans (Bool.or_false _).symm⟩
    | cons b B' =>
      have heb : it.back.eof = false := hB.2.1
      have hkb : it.back.key = b.1 := hB.2.2.2.1
      obtain ⟨hpb, hnb⟩ := subpos_next hB
      simp only [Iter.advance, hea, heb, hka, hkb, Bool.false_and, Bool.false_eq_true, if_false]
      rw [merge_cons_cons]
      by_cases hlt : ltB a.1 b.1 = true
      · rw [if_pos hlt, if_pos hlt]
        exact ⟨A', b :: B', ⟨hs, hpa, hB⟩, rfl, (Bool.or_true _).symm⟩
      · rw [if_neg hlt, if_neg hlt]
        by_cases hgt : ltB b.1 a.1 = true
        · rw [if_pos hgt, if_pos hgt]
          exact ⟨a :: A', B', ⟨hs, hA, hpb⟩, rfl, rfl⟩
        · rw [if_neg hgt, if_neg hgt]
          exact ⟨A', B', ⟨hs, hpa, hpb⟩, rfl, by rw [hna, hnb]⟩

theorem next_of_pos {it : Iter} {A B : KV} (h : Pos it A B) : it.next = it.advance := by
  simp [Iter.next, h.started]

theorem length_merge_le (A B : KV) : (merge A B).length ≤ A.length + B.length := by
  induction A, B using merge.induct with
  | case1 B => rw [merge_nil_left]; exact Nat.le_add_left _ _
  | case2 a A => rw [merge_nil_right]; exact Nat.le_add_right _ _
  | case3 a A b B hlt ih =>
    rw [merge_cons_cons, if_pos hlt]
    exact Nat.le_trans (Nat.succ_le_succ ih) (Nat.le_of_eq (Nat.succ_add _ _).symm)
  | case4 a A b B hnlt hgt ih => rw [merge_cons_cons, if_neg hnlt, if_pos hgt]; exact Nat.succ_le_succ ih
  | case5 a A b B hnlt hngt ih =>
    rw [merge_cons_cons, if_neg hnlt, if_neg hngt]
    exact Nat.le_trans (Nat.succ_le_succ ih) (Nat.le_trans (Nat.le_of_eq (Nat.succ_add _ _).symm) (Nat.le_succ _))

theorem collect_pos : ∀ (n : Nat) {it : Iter} {A B : KV}, Pos it A B → (merge A B).length ≤ n + 1 →
    it.collect n = (merge A B).tail := by
  intro n
  induction n with
  | zero =>
    intro it A B _ hl
    rw [List.eq_nil_of_length_eq_zero (l := (merge A B).tail) (by rw [List.length_tail]; omega)]
    rfl
  | succ n ih =>
    intro it A B h hl
    obtain ⟨A', B', hp, hm, hok⟩ := pos_advance h
    unfold Iter.collect Iter.collectWith
    rw [next_of_pos h, hok]
    cases hm' : merge A' B' with
    | nil => simp [← hm, hm']
    | cons p rest =>
      have ht := ih hp (by rw [hm, List.length_tail]; omega)
      simp only [List.isEmpty_cons, Bool.not_false, if_true]
      unfold Iter.collect at ht
      rw [pos_head hp hm', ht, hm', ← hm, hm']
      rfl

theorem start_pos (A B : KV) :
    Pos (Iter.start A B).next.1 A B ∧ (Iter.start A B).next.2 = !(merge A B).isEmpty := by
  obtain ⟨h1, n1⟩ := subpos_start A
  obtain ⟨h2, n2⟩ := subpos_start B
  refine ⟨⟨rfl, h1, h2⟩, ?_⟩
  show ((SubIter.start A).next.2 || (SubIter.start B).next.2) = _
  rw [n1, n2, merge_isEmpty, Bool.not_and]

/-- **the iterator is the merge**: with enough fuel (rows of both sides + 1) the loop
`for it.Next() {…}` yields exactly `merge A B` -/
theorem collect_start (A B : KV) (n : Nat) (hn : A.length + B.length + 1 ≤ n) :
    (Iter.start A B).collect n = merge A B := by
  obtain ⟨hp, hok⟩ := start_pos A B
  cases n with
  | zero => omega
  | succ n =>
    unfold Iter.collect Iter.collectWith
    rw [hok]
    cases hm : merge A B with
    | nil => simp
    | cons p rest =>
      have hh := pos_head hp hm
      have ht := collect_pos n hp (by have := length_merge_le A B; omega)
      simp only [List.isEmpty_cons, Bool.not_false, if_true]
      unfold Iter.collect at ht
      rw [hh, ht, hm]; rfl

/-- the fixed iterator never calls `Next` on a sub-iterator that has already returned false -/
theorem final_pos : ∀ (n : Nat) {it : Iter} {A B : KV}, Pos it A B →
    ∃ A' B', Pos (Iter.finalWith Iter.next n it) A' B' := by
  intro n
  induction n with
  | zero => intro it A B h; exact ⟨A, B, h⟩
  | succ n ih =>
    intro it A B h
    obtain ⟨A', B', hp, _, _⟩ := pos_advance h
    unfold Iter.finalWith
    rw [next_of_pos h]
    split
    · exact ih hp
    · exact ⟨A', B', hp⟩

/-- the simulation relation: the map `m` is the backing store overlaid with the buffer -/
structure Rel (L : Limits) (buf back m : KV) : Prop where
  wfBuf : WF buf
  wfBack : WF back
  wfM : WF m
  sizes : SizesOK L buf
  view : ∀ x, get m x = (get buf x).or (get back x)

theorem rel_empty (L : Limits) : Rel L [] [] [] :=
  ⟨wf_nil, wf_nil, wf_nil, (by intro p hp; cases hp), by intro x; simp [SortedKV.get]⟩

/-- `rel_set`, `rel_erase`, `rel_batch`: the relation on the two stores as lists; the lemmas after
`flush_spec` are about a `Buf` -/
theorem rel_set {L : Limits} {buf back m : KV} (h : Rel L buf back m) (k v : Bytes) :
    Rel L (SortedKV.set L buf k v) back (SortedKV.set L m k v) := by
  refine ⟨wf_set L h.wfBuf k v, h.wfBack, wf_set L h.wfM k v, sizes_set L h.sizes k v, ?_⟩
  intro x
  rw [get_set, get_set, h.view x]
  by_cases c : okSizes L k v = true ∧ k = x
  · rw [if_pos c, if_pos c]; simp
  · rw [if_neg c, if_neg c]

theorem rel_erase {L : Limits} {buf back m : KV} (h : Rel L buf back m) (k : Bytes) :
    Rel L (erase k buf) (erase k back) (erase k m) := by
  refine ⟨wf_erase k h.wfBuf, wf_erase k h.wfBack, wf_erase k h.wfM, sizes_filter L h.sizes _, ?_⟩
  intro x
  rw [get_erase, get_erase, get_erase, h.view x]
  by_cases c : k = x
  · simp [c]
  · rw [if_neg c, if_neg c, if_neg c]

theorem rel_batch {L : Limits} (ms : List Mut) : ∀ {buf back m : KV}, Rel L buf back m →
    Rel L (batch L buf (bufMuts L ms)) (batch L back (backMuts ms)) (batch L m ms) := by
  induction ms with
  | nil => intro buf back m h; exact h
  | cons x xs ih =>
    intro buf back m h
    cases x with
    | del k =>
      simp only [bufMuts, backMuts, batch, applyMut]
      exact ih (rel_erase h k)
    | set k v =>
      simp only [bufMuts, backMuts, batch, applyMut]
      cases hok : okSizes L k v with
      | true =>
        simp only [if_true, batch, applyMut]
        exact ih (rel_set h k v)
      | false =>
        have : SortedKV.set L m k v = m := by simp [SortedKV.set, hok]
        rw [this]
        simpa using ih h

theorem commitBatch_eq (L : Limits) (b : Buf) (ms : List Mut) :
    b.commitBatch L ms =
      { b with buf := batch L b.buf (bufMuts L ms), back := batch L b.back (backMuts ms) } := by
  unfold Buf.commitBatch
  cases hb : backMuts ms with
  | nil => simp [batch]
  | cons x xs => simp

/-- setting all rows of a well-formed `items` into `m` overlays `m` with `items` (this and the lemma on
deletions are direct inductions: through `get_batch` one would need `lastWrite` of a mapped list) -/
theorem get_batch_sets (L : Limits) : ∀ (items : KV) (m : KV), WF items → SizesOK L items → ∀ x,
    get (batch L m (items.map fun p => Mut.set p.1 p.2)) x = (get items x).or (get m x) := by
  intro items
  induction items with
  | nil => intro m _ _ x; simp [batch, SortedKV.get]
  | cons p t ih =>
    intro m hw hs x
    obtain ⟨k, v⟩ := p
    have hok : okSizes L k v = true := hs (k, v) (by simp)
    simp only [List.map_cons, batch, applyMut]
    rw [ih _ (wf_tail hw) (fun q hq => hs q (List.mem_cons_of_mem _ hq)) x, get_set]
    simp only [SortedKV.get]
    by_cases e : k = x
    · subst e
      rw [get_tail_none hw (ltB_irrefl _)]
      simp [hok]
    · have : ¬ (okSizes L k v = true ∧ k = x) := fun c => e c.2
      rw [if_neg this, if_neg e]

theorem get_batch_dels (L : Limits) : ∀ (items : KV) (m : KV) (x : Bytes),
    get (batch L m (items.map fun p => Mut.del p.1)) x = if x ∈ keys items then none else get m x := by
  intro items
  induction items with
  | nil => intro m x; rfl
  | cons p t ih =>
    intro m x
    have hk : x ∈ keys (p :: t) ↔ x = p.1 ∨ x ∈ keys t := List.mem_cons
    simp only [List.map_cons, batch, applyMut]
    rw [ih, get_erase]
    by_cases ht : x ∈ keys t
    · rw [if_pos ht, if_pos (hk.mpr (Or.inr ht))]
    · by_cases e : p.1 = x
      · rw [if_neg ht, if_pos e, if_pos (hk.mpr (Or.inl e.symm))]
      · rw [if_neg ht, if_neg e, if_neg fun h => (hk.mp h).elim (fun h => e h.symm) ht]

/-- what `Flush` does, in terms of `get`: the buffer becomes empty, the backing store becomes the
whole map -/
theorem flush_spec {L : Limits} {b : Buf} {m : KV} (h : Rel L b.buf b.back m) :
    (∀ x, get (b.flush L).buf x = none) ∧ (∀ x, get (b.flush L).back x = get m x) ∧
    WF (b.flush L).buf ∧ WF (b.flush L).back ∧ SizesOK L (b.flush L).buf := by
  unfold Buf.flush
  simp only [find_all]
  cases hb : b.buf with
  | nil =>
    simp only [List.isEmpty_nil, if_true, hb]
    refine ⟨fun x => rfl, ?_, wf_nil, h.wfBack, by intro p hp; cases hp⟩
    intro x; rw [h.view x, hb]; simp [SortedKV.get]
  | cons p t =>
    simp only [List.isEmpty_cons, Bool.false_eq_true, if_false]
    rw [← hb]
    refine ⟨?_, ?_, wf_batch L h.wfBuf _, wf_batch L h.wfBack _, sizes_batch L h.sizes _⟩
    · intro x
      rw [get_batch_dels]
      by_cases hx : x ∈ keys b.buf
      · exact if_pos hx
      · rw [if_neg hx]; exact get_none_of_not_mem_keys hx
    · intro x
      rw [get_batch_sets L _ _ h.wfBuf h.sizes x, h.view x]

theorem rel_flush {L : Limits} {b : Buf} {m : KV} (h : Rel L b.buf b.back m) :
    Rel L (b.flush L).buf (b.flush L).back m := by
  obtain ⟨h1, h2, h3, h4, h5⟩ := flush_spec h
  exact ⟨h3, h4, h.wfM, h5, fun x => by rw [h1 x, h2 x]; simp⟩

theorem rel_reopen {L : Limits} {b : Buf} {m : KV} (h : Rel L b.buf b.back m) :
    Rel L (b.reopen L).buf (b.reopen L).back m := by
  obtain ⟨_, h2, _, h4, _⟩ := flush_spec h
  exact ⟨wf_nil, h4, h.wfM, (by intro p hp; cases hp), fun x => by simp [Buf.reopen, h2 x, SortedKV.get]⟩

theorem rel_bufset {L : Limits} {b : Buf} {m : KV} (h : Rel L b.buf b.back m) (k v : Bytes) :
    Rel L (b.set L k v).buf (b.set L k v).back (SortedKV.set L m k v) := by
  unfold Buf.set
  cases hok : okSizes L k v with
  | false =>
    have : SortedKV.set L m k v = m := by simp [SortedKV.set, hok]
    simpa [this] using h
  | true =>
    simp only [if_true]
    have h1 := rel_set h k v
    split
    · exact rel_flush (b := { b with buf := SortedKV.set L b.buf k v, buffered := b.buffered + (k.length + v.length) }) h1
    · exact h1

theorem rel_get {L : Limits} {b : Buf} {m : KV} (h : Rel L b.buf b.back m) (k : Bytes) :
    b.get k = get m k := by
  unfold Buf.get
  rw [h.view k]
  cases get b.buf k <;> simp

theorem rel_find {L : Limits} {b : Buf} {m : KV} (h : Rel L b.buf b.back m) (s e : Bytes) :
    b.find s e = find m s e := by
  unfold Buf.find
  simp only
  rw [collect_start _ _ _ (Nat.le_refl _)]
  apply ext_get (wf_merge (wf_find h.wfBuf s e) (wf_find h.wfBack s e)) (wf_find h.wfM s e)
  intro x
  rw [get_merge (wf_find h.wfBuf s e), get_find, get_find, get_find, h.view x]
  cases inRange s e x <;> simp

theorem rel_step {L : Limits} {b : Buf} {m : KV} (h : Rel L b.buf b.back m) (o : Op) :
    Rel L (bufStep L b o).1.buf (bufStep L b o).1.back (specStep L m o).1 ∧
      (bufStep L b o).2 = (specStep L m o).2 := by
  cases o with
  | get k => exact ⟨h, by simp [bufStep, specStep, rel_get h k]⟩
  | set k v => exact ⟨rel_bufset h k v, rfl⟩
  | del k => exact ⟨rel_erase h k, rfl⟩
  | batch ms =>
    refine ⟨?_, rfl⟩
    simp only [bufStep, specStep, commitBatch_eq]
    exact rel_batch ms h
  | find s e => exact ⟨h, by simp [bufStep, specStep, rel_find h s e]⟩
  | flush => exact ⟨rel_flush h, rfl⟩
  | reopen => exact ⟨rel_reopen h, rfl⟩

theorem rel_run {L : Limits} (ops : List Op) : ∀ {b : Buf} {m : KV}, Rel L b.buf b.back m →
    runBuf L b ops = runSpec L m ops := by
  induction ops with
  | nil => intro b m _; rfl
  | cons o os ih =>
    intro b m h
    obtain ⟨h1, h2⟩ := rel_step h o
    simp only [runBuf, runSpec, h2, ih h1]

theorem rel_after {L : Limits} (ops : List Op) : ∀ {b : Buf} {m : KV}, Rel L b.buf b.back m →
    Rel L (bufAfter L b ops).buf (bufAfter L b ops).back (specAfter L m ops) := by
  induction ops with
  | nil => intro b m h; exact h
  | cons o os ih => intro b m h; exact ih (rel_step h o).1

end Pk.SortedBuffer
