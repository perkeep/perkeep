import PkVerif.Lemmas.Stores
/-! C01: the two-way merged enumeration equals the spec's enumeration of the union; shard, replica and
cond refine the reference map whenever their sub-stores do.  The step functions of shard and replica
are written out once here (`shard2_step_keyed`, `rep_*_eq`); `FaultMerge` uses the same equations. -/
namespace Pk.Stores
open Pk Pk.SMap Pk.RefMap

theorem keys_sizes (m : SMap Bytes) : MergedEnum.keys (sizes m) = SMap.keys m := by
  simp [MergedEnum.keys, sizes, SMap.keys, List.map_map, Function.comp_def]

theorem pw_sizes {m : SMap Bytes} (h : KAsc m) : MergedEnum.PW (sizes m) := by
  unfold MergedEnum.PW sizes
  rw [List.pairwise_map]
  exact h

theorem asc_keys_sizes {m : SMap Bytes} (h : KAsc m) : Asc ltB (MergedEnum.keys (sizes m)) :=
  (MergedEnum.ascK_iff_pw _).mpr (pw_sizes h)

theorem good_sizes_entry {content : Bytes → Bytes} {m : SMap Bytes} (hm : Good content m)
    (p : Bytes → Bool) (e : Bytes × Nat) (he : e ∈ sizes (m.filter (fun q => p q.1))) :
    e.2 = (content e.1).length := by
  obtain ⟨q, hq, rfl⟩ := List.mem_map.mp he
  have hq' := (List.mem_filter.mp hq).1
  obtain ⟨k, v⟩ := q
  have := (hm.2 k v (mem_get hm.1 hq')).1
  simp [this]

theorem good_union {content : Bytes → Bytes} {A B : SMap Bytes} (hA : Good content A)
    (hB : Good content B) : Good content (union A B) := by
  refine ⟨kasc_union A hB.1, ?_⟩
  intro k v h
  rw [get_union] at h
  cases hg : SMap.get A k with
  | none => rw [hg] at h; exact hB.2 k v h
  | some w => rw [hg] at h; injection h with h; subst h; exact hA.2 k w hg

theorem get_union_of_right {content : Bytes → Bytes} {A B : SMap Bytes} (hA : Good content A)
    (hB : Good content B) {k w : Bytes} (h : SMap.get B k = some w) :
    SMap.get (union A B) k = some w := by
  rw [get_union]
  cases hg : SMap.get A k with
  | none => exact h
  | some u => simp [(hA.2 k u hg).1, (hB.2 k w h).1]

theorem eq_map_keys (f : Bytes → Nat) (l : List (Bytes × Nat)) (h : ∀ e ∈ l, e.2 = f e.1) :
    l = (MergedEnum.keys l).map (fun k => (k, f k)) := by
  induction l with
  | nil => rfl
  | cons a t ih =>
    obtain ⟨k, n⟩ := a
    have h1 : n = f k := h (k, n) (by simp)
    simp only [MergedEnum.keys, List.map_cons, List.map_map] at ih ⊢
    rw [h1]
    congr 1
    exact ih (fun e he => h e (by simp [he]))

theorem enum2_spec {content : Bytes → Bytes} {A B : SMap Bytes} (hA : Good content A)
    (hB : Good content B) (after : Bytes) (limit : Nat) :
    MergedEnum.mergedEnumerate limit [enumOf A after limit, enumOf B after limit] =
      enumOf (union A B) after limit := by
  have hU : Good content (union A B) := good_union hA hB
  let p : Bytes → Bool := fun k => ltB after k
  have hsrc : [enumOf A after limit, enumOf B after limit] =
      [sizes (A.filter (fun q => p q.1)), sizes (B.filter (fun q => p q.1))].map (·.take limit) := rfl
  have hasc : MergedEnum.AllAsc
      [sizes (A.filter (fun q => p q.1)), sizes (B.filter (fun q => p q.1))] := by
    intro s hs
    simp only [List.mem_cons, List.not_mem_nil, or_false] at hs
    rcases hs with rfl | rfl
    · exact asc_keys_sizes (kasc_filter _ hA.1)
    · exact asc_keys_sizes (kasc_filter _ hB.1)
  rw [hsrc, MergedEnum.merged_take_limit limit _ hasc]
  -- the keys
  have hkeys := MergedEnum.merged_keys_eq_of limit _ hasc
    (MergedEnum.keys (sizes ((union A B).filter (fun q => p q.1))))
    (asc_keys_sizes (kasc_filter _ hU.1)) (by
      intro k
      simp only [List.mem_cons, List.not_mem_nil, or_false, exists_eq_or_imp, exists_eq_left,
        keys_sizes, mem_keys_iff_has, has_filter_key p hA.1, has_filter_key p hB.1,
        has_filter_key p hU.1, has_union]
      cases p k <;> simp)
  -- the sizes
  have hL : ∀ e ∈ MergedEnum.mergedEnumerate limit
      [sizes (A.filter (fun q => p q.1)), sizes (B.filter (fun q => p q.1))],
      e.2 = (content e.1).length := by
    intro e he
    obtain ⟨pre, s, post, hdec, hes, _⟩ := MergedEnum.merged_first_source limit _ hasc e he
    have hs : s ∈ [sizes (A.filter (fun q => p q.1)), sizes (B.filter (fun q => p q.1))] := by
      rw [hdec]; simp
    simp only [List.mem_cons, List.not_mem_nil, or_false] at hs
    rcases hs with rfl | rfl
    · exact good_sizes_entry hA p e hes
    · exact good_sizes_entry hB p e hes
  have hR : ∀ e ∈ enumOf (union A B) after limit, e.2 = (content e.1).length := by
    intro e he
    exact good_sizes_entry hU p e (List.mem_of_mem_take he)
  have e1 := eq_map_keys (fun k => (content k).length) _ hL
  have e2 := eq_map_keys (fun k => (content k).length) _ hR
  rw [e1, e2, hkeys]
  simp only [enumOf, MergedEnum.keys, List.map_take]
  rfl

theorem next_union_left {A B : SMap Bytes} (hA : KAsc A) (hB : KAsc B) (op : Op)
    (hk : has B (opKey op) = false) : union (next A op) B = next (union A B) op := by
  cases op with
  | recv k v =>
    simp only [opKey] at hk
    simp only [next, has_union, hk, Bool.or_false]
    by_cases h : has A k = true
    · simp [h]
    · simp only [h, Bool.false_eq_true, if_false]; exact union_ins_left k v A hB
  | rm k =>
    simp only [opKey] at hk
    simp only [next]
    rw [← union_del_both k hA hB, del_eq_self k hB hk]
  | fetch _ => rfl
  | stat _ => rfl
  | enum _ _ => rfl

theorem next_union_right {A B : SMap Bytes} (hA : KAsc A) (hB : KAsc B) (op : Op)
    (hk : has A (opKey op) = false) : union A (next B op) = next (union A B) op := by
  cases op with
  | recv k v =>
    simp only [opKey] at hk
    simp only [next, has_union, hk, Bool.false_or]
    by_cases h : has B k = true
    · simp [h]
    · simp only [h, Bool.false_eq_true, if_false]; exact union_ins_right k v hB hk
  | rm k =>
    simp only [opKey] at hk
    simp only [next]
    rw [← union_del_both k hA hB, del_eq_self k hA hk]
  | fetch _ => rfl
  | stat _ => rfl
  | enum _ _ => rfl

theorem out_union_left {A B : SMap Bytes} (op : Op) (hne : opIsEnum op = false)
    (hk : has B (opKey op) = false) : out A op = out (union A B) op := by
  cases op with
  | enum _ _ => cases hne
  | recv _ _ => rfl
  | rm _ => rfl
  | fetch k =>
    simp only [opKey] at hk
    simp only [out, get_union, has_false_get hk]
    cases SMap.get A k <;> rfl
  | stat k =>
    simp only [opKey] at hk
    simp only [out, get_union, has_false_get hk]
    cases SMap.get A k <;> rfl

theorem out_union_right {A B : SMap Bytes} (op : Op) (hne : opIsEnum op = false)
    (hk : has A (opKey op) = false) : out B op = out (union A B) op := by
  cases op with
  | enum _ _ => cases hne
  | recv _ _ => rfl
  | rm _ => rfl
  | fetch k =>
    simp only [opKey] at hk
    simp only [out, get_union, has_false_get hk]
  | stat k =>
    simp only [opKey] at hk
    simp only [out, get_union, has_false_get hk]

theorem has_next {m : SMap Bytes} (hm : KAsc m) (op : Op) (x : Bytes) (h : has (next m op) x = true) :
    has m x = true ∨ (opIsRecv op = true ∧ x = opKey op) := by
  cases op with
  | recv k v =>
    simp only [next] at h
    by_cases hh : has m k = true
    · simp only [hh, if_true] at h; exact Or.inl h
    · simp only [hh, Bool.false_eq_true, if_false, has_ins, Bool.or_eq_true, decide_eq_true_eq] at h
      rcases h with h | h
      · exact Or.inr ⟨rfl, h⟩
      · exact Or.inl h
  | rm k =>
    simp only [next, has_del k hm, Bool.and_eq_true] at h
    exact Or.inl h.2
  | fetch _ => exact Or.inl h
  | stat _ => exact Or.inl h
  | enum _ _ => exact Or.inl h

/-! ### the step functions, written out once -/

theorem shard2_step_keyed (route : Bytes → Bool) (a b : Impl) (sa : a.σ) (sb : b.σ) (op : Op)
    (hne : opIsEnum op = false) :
    (shard2Impl route a b).step (sa, sb) op =
      if route (opKey op) then ((sa, (b.step sb op).1), (b.step sb op).2)
      else (((a.step sa op).1, sb), (a.step sa op).2) := by
  cases op with
  | enum _ _ => cases hne
  | _ => rfl

/-! how `replica2Impl` combines the two answers -/

def recvAns (oa ob : Out) : Out :=
  match oa, ob with
  | .sized n, .sized n' => if n = n' then .sized n else .err
  | _, _ => .err

def statAns (oa ob : Out) : Out :=
  match oa, ob with
  | .sized n, .sized _ => .sized n
  | .sized n, .notExist => .sized n
  | .notExist, .sized n => .sized n
  | .notExist, .notExist => .notExist
  | _, _ => .err

def enumAns (limit : Nat) (oa ob : Out) : Out :=
  match oa, ob with
  | .refs x, .refs y => .refs (MergedEnum.mergedEnumerate limit [x, y])
  | _, _ => .err

/-- the real remove: `.ok` as soon as either side said `.ok` -/
def rmAns (oa ob : Out) : Out :=
  match oa, ob with
  | .ok, _ => .ok
  | _, .ok => .ok
  | _, _ => .err

/-- the strict remove: `.ok` only if both sides said `.ok` -/
def rmStrictAns (oa ob : Out) : Out :=
  match oa, ob with
  | .ok, .ok => .ok
  | _, _ => .err

theorem rep_recv_eq (a b : Impl) (sa : a.σ) (sb : b.σ) (k v : Bytes) :
    (replica2Impl a b).step (sa, sb) (.recv k v) =
      (((a.step sa (.recv k v)).1, (b.step sb (.recv k v)).1),
        recvAns (a.step sa (.recv k v)).2 (b.step sb (.recv k v)).2) := by
  dsimp only [replica2Impl]
  generalize a.step sa (.recv k v) = pa
  generalize b.step sb (.recv k v) = pb
  obtain ⟨sa1, oa⟩ := pa
  obtain ⟨sb1, ob⟩ := pb
  cases oa with
  | sized n => cases ob <;> rfl
  | _ => rfl

theorem rep_stat_eq (a b : Impl) (sa : a.σ) (sb : b.σ) (k : Bytes) :
    (replica2Impl a b).step (sa, sb) (.stat k) =
      (((a.step sa (.stat k)).1, (b.step sb (.stat k)).1),
        statAns (a.step sa (.stat k)).2 (b.step sb (.stat k)).2) := by
  dsimp only [replica2Impl]
  generalize a.step sa (.stat k) = pa
  generalize b.step sb (.stat k) = pb
  obtain ⟨sa1, oa⟩ := pa
  obtain ⟨sb1, ob⟩ := pb
  cases oa with
  | sized n => cases ob <;> rfl
  | notExist => cases ob <;> rfl
  | _ => rfl

theorem enum2_eq (a b : Impl) (sa : a.σ) (sb : b.σ) (after : Bytes) (limit : Nat) :
    enum2 a b sa sb after limit =
      ((a.step sa (.enum after limit)).1, (b.step sb (.enum after limit)).1,
        enumAns limit (a.step sa (.enum after limit)).2 (b.step sb (.enum after limit)).2) := by
  unfold enum2
  generalize a.step sa (.enum after limit) = pa
  generalize b.step sb (.enum after limit) = pb
  obtain ⟨sa1, oa⟩ := pa
  obtain ⟨sb1, ob⟩ := pb
  cases oa with
  | refs x => cases ob <;> rfl
  | _ => rfl

theorem rep_enum_eq (a b : Impl) (sa : a.σ) (sb : b.σ) (after : Bytes) (limit : Nat) :
    (replica2Impl a b).step (sa, sb) (.enum after limit) =
      (((a.step sa (.enum after limit)).1, (b.step sb (.enum after limit)).1),
        enumAns limit (a.step sa (.enum after limit)).2 (b.step sb (.enum after limit)).2) := by
  simp only [replica2Impl, enum2_eq]

theorem rep_rm_eq (a b : Impl) (sa : a.σ) (sb : b.σ) (k : Bytes) :
    (replica2Impl a b).step (sa, sb) (.rm k) =
      (((a.step sa (.rm k)).1, (b.step sb (.rm k)).1),
        rmAns (a.step sa (.rm k)).2 (b.step sb (.rm k)).2) := by
  dsimp only [replica2Impl]
  generalize a.step sa (.rm k) = pa
  generalize b.step sb (.rm k) = pb
  obtain ⟨sa1, oa⟩ := pa
  obtain ⟨sb1, ob⟩ := pb
  cases oa with
  | ok => rfl
  | _ => cases ob <;> rfl

/-- replica fetch: first replica; on "not there" the second replica's answer; after a failure of the
first, `E` of the second replica's answer.  The real code has `E = fetchErrAns` (a failure outranks a
later "not there"); `E = id` is replica.Fetch returning the LAST replica's error (finding F-C13-5). -/
def fetchStep (a b : Impl) (E : Out → Out) (sa : a.σ) (sb : b.σ) (k : Bytes) : (a.σ × b.σ) × Out :=
  match a.step sa (.fetch k) with
  | (sa1, .bytes v) => ((sa1, sb), .bytes v)
  | (sa1, .notExist) => ((sa1, (b.step sb (.fetch k)).1), (b.step sb (.fetch k)).2)
  | (sa1, _) => ((sa1, (b.step sb (.fetch k)).1), E (b.step sb (.fetch k)).2)

/-- after a failure of the first replica only a hit on the second is an answer -/
def fetchErrAns (ob : Out) : Out :=
  match ob with
  | .bytes v => .bytes v
  | _ => .err

theorem rep_fetch_eq (a b : Impl) (sa : a.σ) (sb : b.σ) (k : Bytes) :
    (replica2Impl a b).step (sa, sb) (.fetch k) = fetchStep a b fetchErrAns sa sb k := by
  show (match a.step sa (.fetch k) with
      | (sa1, .bytes v) => ((sa1, sb), Out.bytes v)
      | (sa1, .notExist) =>
        match b.step sb (.fetch k) with
        | (sb1, o) => ((sa1, sb1), o)
      | (sa1, _) =>
        match b.step sb (.fetch k) with
        | (sb1, .bytes v) => ((sa1, sb1), Out.bytes v)
        | (sb1, _) => ((sa1, sb1), Out.err)) = _
  unfold fetchStep
  generalize a.step sa (.fetch k) = pa
  generalize b.step sb (.fetch k) = pb
  obtain ⟨sa1, oa⟩ := pa
  obtain ⟨sb1, ob⟩ := pb
  cases oa with
  | bytes v => rfl
  | notExist => rfl
  | _ => cases ob <;> rfl

theorem kok_of_not_recv {K : Bytes → Prop} (op : Op) (h : opIsRecv op = false) : op.KOK K := by
  cases op with
  | recv _ _ => cases h
  | _ => trivial

theorem keys_union {K : Bytes → Prop} {A B : SMap Bytes}
    (hA : ∀ k v, SMap.get A k = some v → K k) (hB : ∀ k v, SMap.get B k = some v → K k) :
    ∀ k v, SMap.get (union A B) k = some v → K k := by
  intro k v h
  rw [get_union] at h
  cases hg : SMap.get A k with
  | none => rw [hg] at h; exact hB k v h
  | some w => exact hA k w hg

theorem enum2_okK {content : Bytes → Bytes} {K : Bytes → Prop} {a b : Impl} (Ra : RefinesK content K a)
    (Rb : RefinesK content K b) (sa : a.σ) (sb : b.σ) (ha : Ra.Inv sa) (hb : Rb.Inv sb)
    (after : Bytes) (limit : Nat) :
    (enum2 a b sa sb after limit).2.2 = .refs (enumOf (union (Ra.abs sa) (Rb.abs sb)) after limit) ∧
    Ra.abs (enum2 a b sa sb after limit).1 = Ra.abs sa ∧ Ra.Inv (enum2 a b sa sb after limit).1 ∧
    Rb.abs (enum2 a b sa sb after limit).2.1 = Rb.abs sb ∧ Rb.Inv (enum2 a b sa sb after limit).2.1 := by
  obtain ⟨hoa, haa, hia⟩ := Ra.step_ok sa (.enum after limit) ha trivial trivial
  obtain ⟨hob, hab, hib⟩ := Rb.step_ok sb (.enum after limit) hb trivial trivial
  rw [enum2_eq]
  refine ⟨?_, haa, hia, hab, hib⟩
  show enumAns limit _ _ = _
  rw [hoa, hob, ← enum2_spec (Ra.good sa ha) (Rb.good sb hb)]
  rfl

theorem enum2_ok {content : Bytes → Bytes} {a b : Impl} (Ra : Refines content a)
    (Rb : Refines content b) (sa : a.σ) (sb : b.σ) (ha : Ra.Inv sa) (hb : Rb.Inv sb)
    (after : Bytes) (limit : Nat) :
    (enum2 a b sa sb after limit).2.2 = .refs (enumOf (union (Ra.abs sa) (Rb.abs sb)) after limit) ∧
    Ra.abs (enum2 a b sa sb after limit).1 = Ra.abs sa ∧ Ra.Inv (enum2 a b sa sb after limit).1 ∧
    Rb.abs (enum2 a b sa sb after limit).2.1 = Rb.abs sb ∧ Rb.Inv (enum2 a b sa sb after limit).2.1 :=
  enum2_okK (toTrueK Ra) (toTrueK Rb) sa sb ha hb after limit

/-- both sub-invariants hold, `a` holds only keys on side `false`, `b` only keys on side `true` -/
def PartInvK {content : Bytes → Bytes} {K : Bytes → Prop} {a b : Impl} (Ra : RefinesK content K a)
    (Rb : RefinesK content K b) (side : Bytes → Bool) (s : a.σ × b.σ) : Prop :=
  Ra.Inv s.1 ∧ Rb.Inv s.2 ∧
  (∀ k, has (Ra.abs s.1) k = true → side k = false) ∧
  (∀ k, has (Rb.abs s.2) k = true → side k = true)

/-- `PartInvK` at the trivial key predicate (`partInv_eq`) -/
def PartInv {content : Bytes → Bytes} {a b : Impl} (Ra : Refines content a) (Rb : Refines content b)
    (side : Bytes → Bool) (s : a.σ × b.σ) : Prop :=
  Ra.Inv s.1 ∧ Rb.Inv s.2 ∧
  (∀ k, has (Ra.abs s.1) k = true → side k = false) ∧
  (∀ k, has (Rb.abs s.2) k = true → side k = true)

theorem partInv_eq {content : Bytes → Bytes} {a b : Impl} (Ra : Refines content a)
    (Rb : Refines content b) : PartInv Ra Rb = PartInvK (toTrueK Ra) (toTrueK Rb) := rfl

theorem has_false_of_side {m : SMap Bytes} {side : Bytes → Bool} {c : Bool}
    (h : ∀ k, has m k = true → side k = c) (k : Bytes) (hk : side k = !c) : has m k = false := by
  cases hh : has m k with
  | false => rfl
  | true => have := h k hh; rw [this] at hk; cases c <;> cases hk

theorem side_keep {m m' : SMap Bytes} {side : Bytes → Bool} {c : Bool} (hm : KAsc m)
    (h : ∀ k, has m k = true → side k = c) (op : Op) (hmv : m' = m ∨ m' = next m op)
    (hr : opIsRecv op = true → side (opKey op) = c) : ∀ k, has m' k = true → side k = c := by
  rcases hmv with rfl | rfl
  · exact h
  · intro k hh
    rcases has_next hm op k hh with h1 | ⟨h1, h2⟩
    · exact h k h1
    · rw [h2]; exact hr h1

theorem part_leftK {content : Bytes → Bytes} {K : Bytes → Prop} {a b : Impl}
    (Ra : RefinesK content K a) (Rb : RefinesK content K b) (side : Bytes → Bool) (sa : a.σ) (sb : b.σ)
    (op : Op) (hne : opIsEnum op = false) (hI : PartInvK Ra Rb side (sa, sb)) (hop : op.WK content)
    (hK : op.KOK K) (hs : side (opKey op) = false) :
    (a.step sa op).2 = out (union (Ra.abs sa) (Rb.abs sb)) op ∧
    union (Ra.abs (a.step sa op).1) (Rb.abs sb) = next (union (Ra.abs sa) (Rb.abs sb)) op ∧
    PartInvK Ra Rb side ((a.step sa op).1, sb) := by
  obtain ⟨hRa, hRb, hA, hB⟩ := hI
  obtain ⟨ho, ha, hi⟩ := Ra.step_ok sa op hRa hop hK
  have hk : has (Rb.abs sb) (opKey op) = false := has_false_of_side hB _ (by simp [hs])
  refine ⟨?_, ?_, hi, hRb, side_keep (Ra.good sa hRa).1 hA op (Or.inr ha) (fun _ => hs), hB⟩
  · rw [ho]; exact out_union_left op hne hk
  · rw [ha]; exact next_union_left (Ra.good sa hRa).1 (Rb.good sb hRb).1 op hk

theorem part_rightK {content : Bytes → Bytes} {K : Bytes → Prop} {a b : Impl}
    (Ra : RefinesK content K a) (Rb : RefinesK content K b) (side : Bytes → Bool) (sa : a.σ) (sb : b.σ)
    (op : Op) (hne : opIsEnum op = false) (hI : PartInvK Ra Rb side (sa, sb)) (hop : op.WK content)
    (hK : op.KOK K) (hs : side (opKey op) = true) :
    (b.step sb op).2 = out (union (Ra.abs sa) (Rb.abs sb)) op ∧
    union (Ra.abs sa) (Rb.abs (b.step sb op).1) = next (union (Ra.abs sa) (Rb.abs sb)) op ∧
    PartInvK Ra Rb side (sa, (b.step sb op).1) := by
  obtain ⟨hRa, hRb, hA, hB⟩ := hI
  obtain ⟨ho, ha, hi⟩ := Rb.step_ok sb op hRb hop hK
  have hk : has (Ra.abs sa) (opKey op) = false := has_false_of_side hA _ (by simp [hs])
  refine ⟨?_, ?_, hRa, hi, hA, side_keep (Rb.good sb hRb).1 hB op (Or.inr ha) (fun _ => hs)⟩
  · rw [ho]; exact out_union_right op hne hk
  · rw [ha]; exact next_union_right (Ra.good sa hRa).1 (Rb.good sb hRb).1 op hk

theorem part_enumK {content : Bytes → Bytes} {K : Bytes → Prop} {a b : Impl}
    (Ra : RefinesK content K a) (Rb : RefinesK content K b) (side : Bytes → Bool) (sa : a.σ) (sb : b.σ)
    (after : Bytes) (limit : Nat) (hI : PartInvK Ra Rb side (sa, sb)) :
    (enum2 a b sa sb after limit).2.2 = out (union (Ra.abs sa) (Rb.abs sb)) (.enum after limit) ∧
    union (Ra.abs (enum2 a b sa sb after limit).1) (Rb.abs (enum2 a b sa sb after limit).2.1) =
      union (Ra.abs sa) (Rb.abs sb) ∧
    PartInvK Ra Rb side ((enum2 a b sa sb after limit).1, (enum2 a b sa sb after limit).2.1) := by
  obtain ⟨hRa, hRb, hA, hB⟩ := hI
  obtain ⟨ho, haa, hia, hab, hib⟩ := enum2_okK Ra Rb sa sb hRa hRb after limit
  refine ⟨ho, by rw [haa, hab], hia, hib, ?_, ?_⟩
  · intro k hh; rw [haa] at hh; exact hA k hh
  · intro k hh; rw [hab] at hh; exact hB k hh

theorem part_left {content : Bytes → Bytes} {a b : Impl} (Ra : Refines content a)
    (Rb : Refines content b) (side : Bytes → Bool) (sa : a.σ) (sb : b.σ) (op : Op)
    (hne : opIsEnum op = false) (hI : PartInv Ra Rb side (sa, sb)) (hop : op.WK content)
    (hs : side (opKey op) = false) :
    (a.step sa op).2 = out (union (Ra.abs sa) (Rb.abs sb)) op ∧
    union (Ra.abs (a.step sa op).1) (Rb.abs sb) = next (union (Ra.abs sa) (Rb.abs sb)) op ∧
    PartInv Ra Rb side ((a.step sa op).1, sb) :=
  part_leftK (toTrueK Ra) (toTrueK Rb) side sa sb op hne hI hop (kok_true op) hs

theorem part_right {content : Bytes → Bytes} {a b : Impl} (Ra : Refines content a)
    (Rb : Refines content b) (side : Bytes → Bool) (sa : a.σ) (sb : b.σ) (op : Op)
    (hne : opIsEnum op = false) (hI : PartInv Ra Rb side (sa, sb)) (hop : op.WK content)
    (hs : side (opKey op) = true) :
    (b.step sb op).2 = out (union (Ra.abs sa) (Rb.abs sb)) op ∧
    union (Ra.abs sa) (Rb.abs (b.step sb op).1) = next (union (Ra.abs sa) (Rb.abs sb)) op ∧
    PartInv Ra Rb side (sa, (b.step sb op).1) :=
  part_rightK (toTrueK Ra) (toTrueK Rb) side sa sb op hne hI hop (kok_true op) hs

theorem part_enum {content : Bytes → Bytes} {a b : Impl} (Ra : Refines content a)
    (Rb : Refines content b) (side : Bytes → Bool) (sa : a.σ) (sb : b.σ) (after : Bytes) (limit : Nat)
    (hI : PartInv Ra Rb side (sa, sb)) :
    (enum2 a b sa sb after limit).2.2 = out (union (Ra.abs sa) (Rb.abs sb)) (.enum after limit) ∧
    union (Ra.abs (enum2 a b sa sb after limit).1) (Rb.abs (enum2 a b sa sb after limit).2.1) =
      union (Ra.abs sa) (Rb.abs sb) ∧
    PartInv Ra Rb side ((enum2 a b sa sb after limit).1, (enum2 a b sa sb after limit).2.1) :=
  part_enumK (toTrueK Ra) (toTrueK Rb) side sa sb after limit hI

theorem shard2_stepK {content : Bytes → Bytes} {K : Bytes → Prop} (route : Bytes → Bool) {a b : Impl}
    (Ra : RefinesK content K a) (Rb : RefinesK content K b) (s : a.σ × b.σ) (op : Op)
    (hI : PartInvK Ra Rb route s) (hop : op.WK content) (hK : op.KOK K) :
    ((shard2Impl route a b).step s op).2 = out (union (Ra.abs s.1) (Rb.abs s.2)) op ∧
    union (Ra.abs ((shard2Impl route a b).step s op).1.1) (Rb.abs ((shard2Impl route a b).step s op).1.2) =
      next (union (Ra.abs s.1) (Rb.abs s.2)) op ∧
    PartInvK Ra Rb route ((shard2Impl route a b).step s op).1 := by
  obtain ⟨sa, sb⟩ := s
  cases he : opIsEnum op with
  | true =>
    cases op with
    | enum after limit => exact part_enumK Ra Rb route sa sb after limit hI
    | _ => cases he
  | false =>
    rw [shard2_step_keyed route a b sa sb op he]
    cases hr : route (opKey op) with
    | true => exact part_rightK Ra Rb route sa sb op he hI hop hK hr
    | false => exact part_leftK Ra Rb route sa sb op he hI hop hK hr

def shard2Refines {content : Bytes → Bytes} (route : Bytes → Bool) {a b : Impl}
    (Ra : Refines content a) (Rb : Refines content b) : Refines content (shard2Impl route a b) where
  abs := fun s => union (Ra.abs s.1) (Rb.abs s.2)
  Inv := PartInv Ra Rb route
  init_inv := ⟨Ra.init_inv, Rb.init_inv,
    by intro k h; simp [shard2Impl, Ra.init_abs, has, SMap.get] at h,
    by intro k h; simp [shard2Impl, Rb.init_abs, has, SMap.get] at h⟩
  init_abs := by simp [shard2Impl, Ra.init_abs, Rb.init_abs, union]
  good := fun s h => good_union (Ra.good _ h.1) (Rb.good _ h.2.1)
  step_ok := fun s op hI hop => shard2_stepK route (toTrueK Ra) (toTrueK Rb) s op hI hop (kok_true op)

/-! ### replica-style reads and removes over two refining stores (no relation between them needed) -/

theorem next_union_both {A B : SMap Bytes} (hA : KAsc A) (hB : KAsc B) (op : Op)
    (hnr : opIsRecv op = false) : union (next A op) (next B op) = next (union A B) op := by
  cases op with
  | recv _ _ => cases hnr
  | rm k => exact union_del_both k hA hB
  | fetch _ => rfl
  | stat _ => rfl
  | enum _ _ => rfl

theorem replica_nonrecv_okK {content : Bytes → Bytes} {K : Bytes → Prop} {a b : Impl}
    (Ra : RefinesK content K a) (Rb : RefinesK content K b) (sa : a.σ) (sb : b.σ) (op : Op)
    (hnr : opIsRecv op = false) (ha : Ra.Inv sa) (hb : Rb.Inv sb) :
    ((replica2Impl a b).step (sa, sb) op).2 = out (union (Ra.abs sa) (Rb.abs sb)) op ∧
    Ra.abs ((replica2Impl a b).step (sa, sb) op).1.1 = next (Ra.abs sa) op ∧
    Rb.abs ((replica2Impl a b).step (sa, sb) op).1.2 = next (Rb.abs sb) op ∧
    Ra.Inv ((replica2Impl a b).step (sa, sb) op).1.1 ∧
    Rb.Inv ((replica2Impl a b).step (sa, sb) op).1.2 := by
  have hK : op.KOK K := kok_of_not_recv op hnr
  have hW : op.WK content := by
    cases op with
    | recv _ _ => cases hnr
    | _ => trivial
  obtain ⟨hoa, haa, hia⟩ := Ra.step_ok sa op ha hW hK
  obtain ⟨hob, hab, hib⟩ := Rb.step_ok sb op hb hW hK
  cases op with
  | recv _ _ => cases hnr
  | enum after limit =>
    obtain ⟨ho, haa, hia, hab, hib⟩ := enum2_okK Ra Rb sa sb ha hb after limit
    exact ⟨ho, haa, hab, hia, hib⟩
  | rm k =>
    rw [rep_rm_eq]
    exact ⟨by rw [hoa, hob]; rfl, haa, hab, hia, hib⟩
  | stat k =>
    rw [rep_stat_eq]
    refine ⟨?_, haa, hab, hia, hib⟩
    show statAns _ _ = _
    rw [hoa, hob]
    simp only [out, get_union]
    cases SMap.get (Ra.abs sa) k <;> cases SMap.get (Rb.abs sb) k <;> rfl
  | fetch k =>
    -- the first replica answers; the second is asked only when the first does not hold the blob
    rw [rep_fetch_eq]
    unfold fetchStep
    generalize a.step sa (.fetch k) = pa at hoa haa hia
    obtain ⟨sa1, oa⟩ := pa
    simp only [out, get_union] at hoa ⊢
    cases hg : SMap.get (Ra.abs sa) k with
    | some v =>
      rw [hg] at hoa; subst hoa
      exact ⟨rfl, haa, rfl, hia, hb⟩
    | none =>
      rw [hg] at hoa; subst hoa
      exact ⟨hob, haa, hab, hia, hib⟩

theorem replica_nonrecv_ok {content : Bytes → Bytes} {a b : Impl} (Ra : Refines content a)
    (Rb : Refines content b) (sa : a.σ) (sb : b.σ) (op : Op) (hnr : opIsRecv op = false)
    (ha : Ra.Inv sa) (hb : Rb.Inv sb) :
    ((replica2Impl a b).step (sa, sb) op).2 = out (union (Ra.abs sa) (Rb.abs sb)) op ∧
    Ra.abs ((replica2Impl a b).step (sa, sb) op).1.1 = next (Ra.abs sa) op ∧
    Rb.abs ((replica2Impl a b).step (sa, sb) op).1.2 = next (Rb.abs sb) op ∧
    Ra.Inv ((replica2Impl a b).step (sa, sb) op).1.1 ∧
    Rb.Inv ((replica2Impl a b).step (sa, sb) op).1.2 :=
  replica_nonrecv_okK (toTrueK Ra) (toTrueK Rb) sa sb op hnr ha hb

theorem replica2_stepK {content : Bytes → Bytes} {K : Bytes → Prop} {a b : Impl}
    (Ra : RefinesK content K a) (Rb : RefinesK content K b) (s : a.σ × b.σ) (op : Op)
    (hI : Ra.Inv s.1 ∧ Rb.Inv s.2 ∧ Ra.abs s.1 = Rb.abs s.2) (hop : op.WK content) (hK : op.KOK K) :
    ((replica2Impl a b).step s op).2 = out (Ra.abs s.1) op ∧
    Ra.abs ((replica2Impl a b).step s op).1.1 = next (Ra.abs s.1) op ∧
    Ra.Inv ((replica2Impl a b).step s op).1.1 ∧
    Rb.Inv ((replica2Impl a b).step s op).1.2 ∧
    Ra.abs ((replica2Impl a b).step s op).1.1 = Rb.abs ((replica2Impl a b).step s op).1.2 := by
  obtain ⟨sa, sb⟩ := s
  obtain ⟨hRa, hRb, hE⟩ := hI
  simp only at hE
  cases hr : opIsRecv op with
  | false =>
    obtain ⟨ho, haa, hab, hia, hib⟩ := replica_nonrecv_okK Ra Rb sa sb op hr hRa hRb
    exact ⟨by rw [ho, ← hE, union_self (Ra.good sa hRa).1], haa, hia, hib, by rw [haa, hab, hE]⟩
  | true =>
    cases op with
    | recv k v =>
      obtain ⟨hoa, haa, hia⟩ := Ra.step_ok sa (.recv k v) hRa hop hK
      obtain ⟨hob, hab, hib⟩ := Rb.step_ok sb (.recv k v) hRb hop hK
      rw [rep_recv_eq]
      refine ⟨?_, haa, hia, hib, by rw [haa, hab, hE]⟩
      show recvAns _ _ = _
      rw [hoa, hob]
      simp [recvAns, out]
    | _ => cases hr

def replica2Refines {content : Bytes → Bytes} {a b : Impl} (Ra : Refines content a)
    (Rb : Refines content b) : Refines content (replica2Impl a b) where
  abs := fun s => Ra.abs s.1
  Inv := fun s => Ra.Inv s.1 ∧ Rb.Inv s.2 ∧ Ra.abs s.1 = Rb.abs s.2
  init_inv := ⟨Ra.init_inv, Rb.init_inv, by simp [replica2Impl, Ra.init_abs, Rb.init_abs]⟩
  init_abs := Ra.init_abs
  good := fun s h => Ra.good _ h.1
  step_ok := fun s op hI hop => replica2_stepK (toTrueK Ra) (toTrueK Rb) s op hI hop (kok_true op)

theorem part_bothK {content : Bytes → Bytes} {K : Bytes → Prop} {a b : Impl}
    (Ra : RefinesK content K a) (Rb : RefinesK content K b) (side : Bytes → Bool) (sa : a.σ) (sb : b.σ)
    (op : Op) (hnr : opIsRecv op = false) (hI : PartInvK Ra Rb side (sa, sb)) :
    ((replica2Impl a b).step (sa, sb) op).2 = out (union (Ra.abs sa) (Rb.abs sb)) op ∧
    union (Ra.abs ((replica2Impl a b).step (sa, sb) op).1.1)
        (Rb.abs ((replica2Impl a b).step (sa, sb) op).1.2) = next (union (Ra.abs sa) (Rb.abs sb)) op ∧
    PartInvK Ra Rb side ((replica2Impl a b).step (sa, sb) op).1 := by
  obtain ⟨hRa, hRb, hA, hB⟩ := hI
  obtain ⟨ho, haa, hab, hia, hib⟩ := replica_nonrecv_okK Ra Rb sa sb op hnr hRa hRb
  have hnot : ∀ c, opIsRecv op = true → side (opKey op) = c := fun _ h => by rw [hnr] at h; cases h
  refine ⟨ho, ?_, hia, hib, side_keep (Ra.good sa hRa).1 hA op (Or.inr haa) (hnot _),
    side_keep (Rb.good sb hRb).1 hB op (Or.inr hab) (hnot _)⟩
  rw [haa, hab]; exact next_union_both (Ra.good sa hRa).1 (Rb.good sb hRb).1 op hnr

theorem part_both {content : Bytes → Bytes} {a b : Impl} (Ra : Refines content a)
    (Rb : Refines content b) (side : Bytes → Bool) (sa : a.σ) (sb : b.σ) (op : Op)
    (hnr : opIsRecv op = false) (hI : PartInv Ra Rb side (sa, sb)) :
    ((replica2Impl a b).step (sa, sb) op).2 = out (union (Ra.abs sa) (Rb.abs sb)) op ∧
    union (Ra.abs ((replica2Impl a b).step (sa, sb) op).1.1)
        (Rb.abs ((replica2Impl a b).step (sa, sb) op).1.2) = next (union (Ra.abs sa) (Rb.abs sb)) op ∧
    PartInv Ra Rb side ((replica2Impl a b).step (sa, sb) op).1 :=
  part_bothK (toTrueK Ra) (toTrueK Rb) side sa sb op hnr hI

/-- the invariant of cond: `t` holds only blobs whose content is schema, `e` only the others -/
def CondInvK {content : Bytes → Bytes} {K : Bytes → Prop} (isSchema : Bytes → Bool) {t e : Impl}
    (Rt : RefinesK content K t) (Re : RefinesK content K e) (s : t.σ × e.σ) : Prop :=
  PartInvK Rt Re (fun k => !isSchema (content k)) s

/-- `CondInvK` at the trivial key predicate -/
def CondInv {content : Bytes → Bytes} (isSchema : Bytes → Bool) {t e : Impl} (Rt : Refines content t)
    (Re : Refines content e) (s : t.σ × e.σ) : Prop :=
  PartInv Rt Re (fun k => !isSchema (content k)) s

theorem condInvK_iff {content : Bytes → Bytes} {K : Bytes → Prop} (isSchema : Bytes → Bool) {t e : Impl}
    (Rt : RefinesK content K t) (Re : RefinesK content K e) (s : t.σ × e.σ) :
    CondInvK isSchema Rt Re s ↔
      (Rt.Inv s.1 ∧ Re.Inv s.2 ∧
       (∀ k, has (Rt.abs s.1) k = true → isSchema (content k) = true) ∧
       (∀ k, has (Re.abs s.2) k = true → isSchema (content k) = false)) := by
  simp [CondInvK, PartInvK]

theorem condInv_iff {content : Bytes → Bytes} (isSchema : Bytes → Bool) {t e : Impl}
    (Rt : Refines content t) (Re : Refines content e) (s : t.σ × e.σ) :
    CondInv isSchema Rt Re s ↔
      (Rt.Inv s.1 ∧ Re.Inv s.2 ∧
       (∀ k, has (Rt.abs s.1) k = true → isSchema (content k) = true) ∧
       (∀ k, has (Re.abs s.2) k = true → isSchema (content k) = false)) := by
  simp [CondInv, PartInv]

theorem cond2_recv_eq_shard {content : Bytes → Bytes} (isSchema : Bytes → Bool) (t e : Impl)
    (s : t.σ × e.σ) {k v : Bytes} (hv : v = content k) :
    (cond2Impl isSchema t e).step s (.recv k v) =
      (shard2Impl (fun k => !isSchema (content k)) t e).step s (.recv k v) := by
  subst hv
  simp only [cond2Impl, shard2Impl]
  by_cases h : isSchema (content k) = true <;> simp [h]

theorem cond2_stepK {content : Bytes → Bytes} {K : Bytes → Prop} (isSchema : Bytes → Bool) {t e : Impl}
    (Rt : RefinesK content K t) (Re : RefinesK content K e) (s : t.σ × e.σ) (op : Op)
    (hI : CondInvK isSchema Rt Re s) (hop : op.WK content) (hK : op.KOK K) :
    ((cond2Impl isSchema t e).step s op).2 = out (union (Rt.abs s.1) (Re.abs s.2)) op ∧
    union (Rt.abs ((cond2Impl isSchema t e).step s op).1.1) (Re.abs ((cond2Impl isSchema t e).step s op).1.2) =
      next (union (Rt.abs s.1) (Re.abs s.2)) op ∧
    CondInvK isSchema Rt Re ((cond2Impl isSchema t e).step s op).1 := by
  obtain ⟨st, se⟩ := s
  cases op with
  | recv k v =>
    rw [cond2_recv_eq_shard isSchema t e (st, se) hop.1]
    exact shard2_stepK _ Rt Re (st, se) (.recv k v) hI hop hK
  | fetch k => exact part_bothK Rt Re _ st se (.fetch k) rfl hI
  | stat k => exact part_bothK Rt Re _ st se (.stat k) rfl hI
  | rm k => exact part_bothK Rt Re _ st se (.rm k) rfl hI
  | enum after limit => exact part_bothK Rt Re _ st se (.enum after limit) rfl hI

def cond2Refines {content : Bytes → Bytes} (isSchema : Bytes → Bool) {t e : Impl}
    (Rt : Refines content t) (Re : Refines content e) : Refines content (cond2Impl isSchema t e) where
  abs := fun s => union (Rt.abs s.1) (Re.abs s.2)
  Inv := CondInv isSchema Rt Re
  init_inv := ⟨Rt.init_inv, Re.init_inv,
    by intro k h; simp [cond2Impl, Rt.init_abs, has, SMap.get] at h,
    by intro k h; simp [cond2Impl, Re.init_abs, has, SMap.get] at h⟩
  init_abs := by simp [cond2Impl, Rt.init_abs, Re.init_abs, union]
  good := fun s h => good_union (Rt.good _ h.1) (Re.good _ h.2.1)
  step_ok := fun s op hI hop => cond2_stepK isSchema (toTrueK Rt) (toTrueK Re) s op hI hop (kok_true op)

end Pk.Stores
