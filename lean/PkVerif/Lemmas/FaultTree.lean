import PkVerif.Lemmas.RefNs
import PkVerif.Lemmas.FaultMerge
import PkVerif.Lemmas.FaultProxy
import PkVerif.Lemmas.FaultOverlay
/-!
# C13: configuration trees whose every leaf sits behind a schedule of transient failures

`FCfg` is the set of trees for which the fault contract (`FRefines`) is proved by recursion over the
tree: leaves are memory stores behind ANY failure schedule, the cache of a proxycache is an evicting
memory cache or a memory store behind ANY failure schedule, inner nodes are namespace, proxycache,
overlay, shard (two-way, with the tree's routing function or with the node's own routing predicate –
the levels of an n-way shard), and the STRICT variants of replica and cond (`replica2StrictImpl`, `cond2StrictImpl`:
remove answers `.ok` only if every replica did; the real "best effort" remove is finding F-C13-3).
`FCfg.toCfg` maps a tree to the `Cfg` the driver runs; for trees without replica/cond the two
denotations are the same model (`interp_toCfg`).
-/
namespace Pk.Stores
open Pk Pk.SMap Pk.RefMap

/-- the cache of a proxycache, behind a failure schedule -/
inductive FCache where
  | memCache (sched : List Fault) (max : Nat)
  | mem (sched : List Fault)
deriving Repr, DecidableEq

inductive FCfg where
  | leaf (sched : List Fault)
  | ns (master : FCfg)
  | proxy (origin : FCfg) (cache : FCache) (max : Nat)
  | overlay (lower upper : FCfg)
  | shard2 (a b : FCfg)
  | shardBy (r : Bytes → Bool) (a b : FCfg)  -- two-way shard with its own routing predicate (levels of an n-way shard)
  | replicaStrict (a b : FCfg)
  | condStrict (t e : FCfg)

def FCache.interp : FCache → Impl
  | .memCache sched max => faultLeaf (memCacheImpl max) sched
  | .mem sched => faultLeaf memImpl sched

def FCfg.interp (route isSchema : Bytes → Bool) : FCfg → Impl
  | .leaf sched => faultLeaf memImpl sched
  | .ns m => nsImpl (m.interp route isSchema)
  | .proxy o c max => proxyImpl (o.interp route isSchema) c.interp max
  | .overlay l u => overlayImpl (l.interp route isSchema) (u.interp route isSchema)
  | .shard2 a b => shard2Impl route (a.interp route isSchema) (b.interp route isSchema)
  | .shardBy r a b => shard2Impl r (a.interp route isSchema) (b.interp route isSchema)
  | .replicaStrict a b => replica2StrictImpl (a.interp route isSchema) (b.interp route isSchema)
  | .condStrict t e => cond2StrictImpl isSchema (t.interp route isSchema) (e.interp route isSchema)

def FCache.toCfg : FCache → Cfg
  | .memCache sched max => .faulty sched (.memCache max)
  | .mem sched => .faulty sched .mem

/-- the tree as the driver (and the harness) runs it: replica and cond are the REAL ones there -/
def FCfg.toCfg : FCfg → Cfg
  | .leaf sched => .faulty sched .mem
  | .ns m => .ns m.toCfg
  | .proxy o c max => .proxy o.toCfg c.toCfg max
  | .overlay l u => .overlay l.toCfg u.toCfg
  | .shard2 a b => .shard2 a.toCfg b.toCfg
  | .shardBy r a b => .shardBy r a.toCfg b.toCfg
  | .replicaStrict a b => .replica2 a.toCfg b.toCfg
  | .condStrict t e => .cond2 t.toCfg e.toCfg

/-- no replica, no cond -/
def FCfg.strictFree : FCfg → Bool
  | .leaf _ => true
  | .ns m => m.strictFree
  | .proxy o _ _ => o.strictFree
  | .overlay l u => l.strictFree && u.strictFree
  | .shard2 a b => a.strictFree && b.strictFree
  | .shardBy _ a b => a.strictFree && b.strictFree
  | .replicaStrict _ _ => false
  | .condStrict _ _ => false

theorem FCache.interp_toCfg (route isSchema : Bytes → Bool) (c : FCache) :
    Stores.interp route isSchema c.toCfg = c.interp := by
  cases c <;> rfl

/-- for trees without replica/cond the proved model IS the model the driver runs -/
theorem FCfg.interp_toCfg (route isSchema : Bytes → Bool) :
    ∀ c : FCfg, c.strictFree = true → Stores.interp route isSchema c.toCfg = c.interp route isSchema
  | .leaf _, _ => rfl
  | .ns m, h => by
    simp only [FCfg.toCfg, Stores.interp, FCfg.interp]
    rw [FCfg.interp_toCfg route isSchema m (by simpa [FCfg.strictFree] using h)]
  | .proxy o c max, h => by
    simp only [FCfg.toCfg, Stores.interp, FCfg.interp]
    rw [FCfg.interp_toCfg route isSchema o (by simpa [FCfg.strictFree] using h), FCache.interp_toCfg]
  | .overlay l u, h => by
    simp only [FCfg.strictFree, Bool.and_eq_true] at h
    simp only [FCfg.toCfg, Stores.interp, FCfg.interp]
    rw [FCfg.interp_toCfg route isSchema l h.1, FCfg.interp_toCfg route isSchema u h.2]
  | .shard2 a b, h => by
    simp only [FCfg.strictFree, Bool.and_eq_true] at h
    simp only [FCfg.toCfg, Stores.interp, FCfg.interp]
    rw [FCfg.interp_toCfg route isSchema a h.1, FCfg.interp_toCfg route isSchema b h.2]
  | .shardBy r a b, h => by
    simp only [FCfg.strictFree, Bool.and_eq_true] at h
    simp only [FCfg.toCfg, Stores.interp, FCfg.interp]
    rw [FCfg.interp_toCfg route isSchema a h.1, FCfg.interp_toCfg route isSchema b h.2]
  | .replicaStrict _ _, h => by simp [FCfg.strictFree] at h
  | .condStrict _ _, h => by simp [FCfg.strictFree] at h

theorem sub_next_grow {content : Bytes → Bytes} {m : SMap Bytes} (hm : Good content m) (op : Op)
    (hop : op.WK content) : Sub (next m op) (grow m op) := by
  cases op with
  | recv k v =>
    simp only [next, grow]
    split
    · exact sub_ins_self hm k v hop
    · exact Sub.refl _
  | rm k => exact sub_del_self k hm.1
  | _ => exact Sub.refl _

/-- a faithful or fault-tolerant store used as a cache: `FRefines` gives `FCaches` -/
def _root_.Pk.RefMap.FRefines.toFCaches {content : Bytes → Bytes} {I : Impl} (F : FRefines content I) :
    FCaches content I where
  abs := F.abs
  Inv := F.Inv
  Quiet := F.Quiet
  init_inv := F.init_inv
  init_abs := F.init_abs
  good := F.good
  step_inv := fun s op h hop => (F.step_ok s op h hop).1
  step_sub := by
    intro s op h hop
    have hg := F.good s h
    rcases (F.step_ok s op h hop).2.move with ha | ha
    · rw [ha]; exact sub_grow hg op hop
    · rw [ha]; exact sub_next_grow hg op hop
  fetch_ok := by
    intro s k v h ho
    rcases (F.step_ok s (.fetch k) h trivial).2 with ⟨he, _⟩ | ⟨he, _⟩
    · rw [he] at ho; exact out_fetch_bytes ho
    · rw [he] at ho; cases ho
  stat_ok := by
    intro s k n h ho
    rcases (F.step_ok s (.stat k) h trivial).2 with ⟨he, _⟩ | ⟨he, _⟩
    · rw [he] at ho; exact out_stat_sized ho
    · rw [he] at ho; cases ho
  rm_ok := by
    intro s k h ho
    rcases (F.step_ok s (.rm k) h trivial).2 with ⟨_, ha⟩ | ⟨he, _⟩
    · rw [ha]; exact Sub.refl _
    · rw [he] at ho; cases ho
  quiet_step := fun s op h hq hop =>
    let ⟨ho, _, hq'⟩ := F.quiet_step s op h hq hop
    ⟨ho, hq'⟩

end Pk.Stores
