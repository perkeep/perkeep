import PkVerif.Model.Replica
import PkVerif.Lemmas.MergedEnum
import PkVerif.Base.SMap
/-! C12: what the sub-store operations, the tally of `ReceiveBlob`, the fetch loop and the stat fold of
the replica model (Model/Replica.lean) do, in the form `Props/C12` uses.  This model has the tally with
an arbitrary `min`; C01 and C13 use `replica2Impl` / `replicaNImpl` of Model/Stores.lean, where every
write must succeed.  The two are not connected by a theorem. -/
namespace Pk.Replica
open Pk.MergedEnum

/-- the model's own sorted insert is `SMap.ins`, its lookup `SMap.get`: the facts below are those of `SMap` -/
theorem insert_eq_ins (e : SR) (s : Store) : Store.insert e s = SMap.ins e.1 e.2 s := by
  induction s with
  | nil => rfl
  | cons a t ih => simp only [Store.insert, SMap.ins, beq_iff_eq, ih]

theorem get?_eq_get (s : Store) (k : Bytes) : s.get? k = SMap.get s k := by
  induction s with
  | nil => rfl
  | cons a t ih =>
    unfold Store.get? at ih ⊢
    rw [List.find?_cons, SMap.get]
    by_cases h : k = a.1
    · rw [if_pos h, h, beq_self_eq_true]
    · rw [if_neg h, (beq_eq_false_iff_ne.mpr (Ne.symm h) : (a.1 == k) = false)]; exact ih

theorem get?_isSome_iff (s : Store) (k : Bytes) : s.has k = true ↔ k ∈ keys s := by
  rw [Store.has, get?_eq_get]; exact (SMap.mem_keys_iff_has s k).symm

theorem keys_insert (e : SR) (s : Store) (k : Bytes) :
    k ∈ keys (Store.insert e s) ↔ k = e.1 ∨ k ∈ keys s := by
  rw [← get?_isSome_iff, ← get?_isSome_iff, Store.has, Store.has, get?_eq_get, get?_eq_get, insert_eq_ins,
    SMap.get_ins]
  by_cases h : k = e.1
  · rw [if_pos h]; exact ⟨fun _ => Or.inl h, fun _ => rfl⟩
  · rw [if_neg h]; exact ⟨Or.inr, fun g => g.resolve_left h⟩

theorem has_insert_self (e : SR) (s : Store) : (Store.insert e s).has e.1 = true :=
  (get?_isSome_iff _ _).mpr ((keys_insert e s e.1).mpr (Or.inl rfl))

theorem get?_insert_self (e : SR) (s : Store) : (Store.insert e s).get? e.1 = some e.2 := by
  rw [get?_eq_get, insert_eq_ins, SMap.get_ins_self]

theorem has_insert_of_has (e : SR) (s : Store) (k : Bytes) (h : s.has k = true) :
    (Store.insert e s).has k = true :=
  (get?_isSome_iff _ _).mpr ((keys_insert e s k).mpr (Or.inr ((get?_isSome_iff _ _).mp h)))

theorem mem_insert (e x : SR) (s : Store) (h : x ∈ Store.insert e s) : x = e ∨ x ∈ s :=
  SMap.mem_ins (insert_eq_ins e s ▸ h)

theorem insert_pw (e : SR) (s : Store) (h : PW s) : PW (Store.insert e s) :=
  insert_eq_ins e s ▸ SMap.kasc_ins e.1 e.2 h

theorem remove_pw (ks : List Bytes) (s : Store) (h : PW s) : PW (Store.remove ks s) :=
  List.Pairwise.filter _ h

theorem tally_cons_good {min size : Nat} {r : Res} (hg : Res.good size r = true) (rest : List Res)
    (n : Nat) (e : Option Fail) (c : Nat) :
    tally min size (r :: rest) n e c =
      if n + 1 = min then .ack r.idx (c + 1) else tally min size rest (n + 1) e (c + 1) := by
  unfold Res.good at hg
  rw [tally]
  cases hr : r.reply with
  | err => rw [hr] at hg; cases hg
  | ok sz => rw [hr] at hg; simp only [beq_iff_eq.mp hg, if_true]

theorem tally_cons_bad {min size : Nat} {r : Res} (hg : Res.good size r = false) (rest : List Res)
    (n : Nat) (e : Option Fail) (c : Nat) :
    ∃ f, tally min size (r :: rest) n e c = tally min size rest n (some f) (c + 1) := by
  unfold Res.good at hg
  rw [tally]
  cases hr : r.reply with
  | err => exact ⟨_, rfl⟩
  | ok sz =>
    rw [hr] at hg
    have : ¬ sz = size := fun h => by simp [h] at hg
    exact ⟨.wrongSize sz size, by simp only [this, if_false]⟩

theorem tally_ack_iff (min size : Nat) (arr : List Res) : ∀ (n : Nat) (e : Option Fail) (c : Nat),
    n < min → ((tally min size arr n e c).isAck = true ↔ min ≤ n + (arr.filter (Res.good size)).length) := by
  induction arr with
  | nil =>
    intro n e c hn
    cases e <;> simp [tally, RecvOut.isAck] <;> omega
  | cons r rest ih =>
    intro n e c hn
    cases hg : Res.good size r with
    | false =>
      obtain ⟨f, hf⟩ := tally_cons_bad hg rest n e c
      rw [hf, List.filter_cons, hg]
      exact ih n _ _ hn
    | true =>
      rw [tally_cons_good hg, List.filter_cons, hg]
      simp only [if_true, List.length_cons]
      by_cases hm : n + 1 = min
      · simp only [hm, if_true, RecvOut.isAck, true_iff]
        exact hm ▸ Nat.add_le_add_left (Nat.le_add_left 1 _) n
      · simp only [hm, if_false]
        rw [ih (n + 1) _ _ (Nat.lt_of_le_of_ne hn hm), Nat.add_right_comm]
        exact Iff.rfl

/-- falling out of the loop with a nil error means: no failure at all -/
theorem tally_zero (min size : Nat) (arr : List Res) : ∀ (n : Nat) (e : Option Fail) (c : Nat),
    tally min size arr n e c = .zero → e = none ∧ (arr.filter (Res.good size)).length = arr.length := by
  induction arr with
  | nil =>
    intro n e c h
    cases e with
    | none => exact ⟨rfl, rfl⟩
    | some f => simp [tally] at h
  | cons r rest ih =>
    intro n e c h
    cases hg : Res.good size r with
    | false =>
      obtain ⟨f, hf⟩ := tally_cons_bad hg rest n e c
      rw [hf] at h
      cases (ih _ _ _ h).1
    | true =>
      rw [tally_cons_good hg] at h
      by_cases hm : n + 1 = min
      · simp [hm] at h
      · simp only [hm, if_false] at h
        obtain ⟨h1, h2⟩ := ih _ _ _ h
        exact ⟨h1, by simp [hg, h2]⟩

theorem tally_ack_consumed (min size : Nat) (arr : List Res) : ∀ (n : Nat) (e : Option Fail) (c idx c' : Nat),
    n < min → tally min size arr n e c = .ack idx c' →
    ∃ j, c' = c + j ∧ j ≤ arr.length ∧ min ≤ n + ((arr.take j).filter (Res.good size)).length := by
  induction arr with
  | nil =>
    intro n e c idx c' _ h
    cases e <;> simp [tally] at h
  | cons r rest ih =>
    intro n e c idx c' hn h
    cases hg : Res.good size r with
    | false =>
      obtain ⟨f, hf⟩ := tally_cons_bad hg rest n e c
      rw [hf] at h
      obtain ⟨j, rfl, h2, h3⟩ := ih _ _ _ _ _ hn h
      exact ⟨j + 1, Nat.add_right_comm c 1 j, Nat.succ_le_succ h2,
        by rw [List.take_succ_cons, List.filter_cons, hg]; exact h3⟩
    | true =>
      rw [tally_cons_good hg] at h
      by_cases hm : n + 1 = min
      · simp only [hm, if_true, RecvOut.ack.injEq] at h
        exact ⟨1, h.2.symm, by simp, by simp [hg]; exact Nat.le_of_eq hm.symm⟩
      · simp only [hm, if_false] at h
        obtain ⟨j, rfl, h2, h3⟩ := ih _ _ _ _ _ (Nat.lt_of_le_of_ne hn hm) h
        refine ⟨j + 1, Nat.add_right_comm c 1 j, Nat.succ_le_succ h2, ?_⟩
        rw [List.take_succ_cons, List.filter_cons, hg]
        simp only [if_true, List.length_cons]
        rw [Nat.succ_add] at h3; exact h3

theorem filter_length_mono {α : Type} (p q : α → Bool) (l : List α) (h : ∀ x ∈ l, p x = true → q x = true) :
    (l.filter p).length ≤ (l.filter q).length := by
  rw [← List.countP_eq_length_filter, ← List.countP_eq_length_filter]; exact List.countP_mono_left h

theorem storeAt_length (subs : List Sub) (ids : List Nat) (e : SR) :
    (storeAt subs ids e).length = subs.length := by simp [storeAt]

theorem storeAt_has (subs : List Sub) (ids : List Nat) (e : SR) (i : Nat) (hi : i ∈ ids)
    (hlt : i < subs.length) :
    ((storeAt subs ids e).getD i ⟨[], false⟩).store.has e.1 = true := by
  simp only [storeAt, List.getD_eq_getElem?_getD, List.getElem?_mapIdx]
  have : subs[i]? = some subs[i] := List.getElem?_eq_getElem hlt
  simp [this, hi, has_insert_self]

theorem storeAt_get (subs : List Sub) (ids : List Nat) (e : SR) (i : Nat) (hi : i ∈ ids)
    (hlt : i < subs.length) :
    ((storeAt subs ids e).getD i ⟨[], false⟩).store.get? e.1 = some e.2 := by
  simp only [storeAt, List.getD_eq_getElem?_getD, List.getElem?_mapIdx]
  have : subs[i]? = some subs[i] := List.getElem?_eq_getElem hlt
  simp [this, hi, get?_insert_self]

theorem storeAt_keeps (subs : List Sub) (ids : List Nat) (e : SR) (i : Nat) (k : Bytes)
    (h : (subs.getD i ⟨[], false⟩).store.has k = true) :
    ((storeAt subs ids e).getD i ⟨[], false⟩).store.has k = true := by
  simp only [storeAt, List.getD_eq_getElem?_getD, List.getElem?_mapIdx] at h ⊢
  cases hs : subs[i]? with
  | none => simp [hs, Store.has, Store.get?] at h
  | some s =>
    simp only [hs, Option.getD_some, Option.map_some] at h ⊢
    split
    · exact has_insert_of_has e _ k h
    · exact h

theorem idsOf_length (writes ps : List Nat) (h : ∀ p ∈ ps, p < writes.length) :
    (idsOf writes ps).length = ps.length := by
  induction ps with
  | nil => rfl
  | cons p t ih =>
    have hlt : p < writes.length := h p (by simp)
    have hp : writes[p]? = some (writes[p]'hlt) := List.getElem?_eq_getElem hlt
    have := ih (fun q hq => h q (List.mem_cons_of_mem _ hq))
    simp only [idsOf] at this ⊢
    simp [hp, this]

theorem sub_fetch_ok (s : Sub) (k : Bytes) (sz : Nat) :
    s.fetch k = .ok sz ↔ s.down = false ∧ s.store.get? k = some sz := by
  unfold Sub.fetch
  cases hd : s.down <;> cases hg : s.store.get? k <;> simp

theorem sub_fetch_ok_iff_has (s : Sub) (k : Bytes) :
    (∃ sz, s.fetch k = .ok sz) ↔ s.down = false ∧ s.store.has k = true := by
  unfold Sub.fetch Store.has
  cases hd : s.down <;> cases hg : s.store.get? k <;> simp

theorem fetchLoop_ok_iff (k : Bytes) (reads : List Sub) : ∀ (e f : Option FetchErr) (t : Nat),
    (∃ sz t', fetchLoop k reads e f t = .ok sz t') ↔ ∃ s ∈ reads, s.down = false ∧ s.store.has k = true := by
  induction reads with
  | nil => intro e f t; cases e <;> cases f <;> simp [fetchLoop]
  | cons s rest ih =>
    intro e f t
    cases hf : s.fetch k with
    | ok sz =>
      have := (sub_fetch_ok_iff_has s k).mp ⟨sz, hf⟩
      simp only [fetchLoop, hf]
      exact ⟨fun _ => ⟨s, by simp, this⟩, fun _ => ⟨sz, t + 1, rfl⟩⟩
    | error er =>
      have hno : ¬ (s.down = false ∧ s.store.has k = true) := by
        intro h
        obtain ⟨sz, h'⟩ := (sub_fetch_ok_iff_has s k).mpr h
        rw [hf] at h'; cases h'
      simp only [fetchLoop, hf]
      rw [ih]
      constructor
      · rintro ⟨s', hs', h'⟩; exact ⟨s', List.mem_cons_of_mem _ hs', h'⟩
      · rintro ⟨s', hs', h'⟩
        cases hs' with
        | head => exact absurd h' hno
        | tail _ g => exact ⟨s', g, h'⟩

theorem fetchLoop_ne_nilNil (k : Bytes) (reads : List Sub) : ∀ (e f : Option FetchErr) (t : Nat),
    (reads ≠ [] ∨ e ≠ none) → fetchLoop k reads e f t ≠ .nilNil := by
  induction reads with
  | nil =>
    intro e f t h
    cases f with
    | some g => simp [fetchLoop]
    | none =>
      cases e with
      | none => rcases h with h | h <;> exact absurd rfl h
      | some g => simp [fetchLoop]
  | cons s rest ih =>
    intro e f t _
    cases hf : s.fetch k with
    | ok sz => simp [fetchLoop, hf]
    | error er =>
      simp only [fetchLoop, hf]
      exact ih _ _ _ (Or.inr (by simp))

/-- the size handed out is the size some reachable read replica holds -/
theorem fetchLoop_ok_size (k : Bytes) (reads : List Sub) : ∀ (e f : Option FetchErr) (t sz t' : Nat),
    fetchLoop k reads e f t = .ok sz t' → ∃ s ∈ reads, s.down = false ∧ s.store.get? k = some sz := by
  induction reads with
  | nil => intro e f t sz t' h; cases e <;> cases f <;> simp [fetchLoop] at h
  | cons s rest ih =>
    intro e f t sz t' h
    cases hf : s.fetch k with
    | ok sz0 =>
      simp only [fetchLoop, hf, FetchOut.ok.injEq] at h
      obtain ⟨h1, _⟩ := h
      subst h1
      exact ⟨s, by simp, (sub_fetch_ok s k sz0).mp hf⟩
    | error er =>
      simp only [fetchLoop, hf] at h
      obtain ⟨s', hs', g⟩ := ih _ _ _ _ _ h
      exact ⟨s', List.mem_cons_of_mem _ hs', g⟩

/-- a miss is reported as "not exist" only if no failure was remembered and every replica still to be
asked answers "not exist" -/
theorem fetchLoop_notExist (k : Bytes) (reads : List Sub) : ∀ (e f : Option FetchErr) (t t' : Nat),
    f ≠ some .notExist → fetchLoop k reads e f t = .err .notExist t' →
    f = none ∧ ∀ s ∈ reads, s.fetch k = .error .notExist := by
  induction reads with
  | nil =>
    intro e f t t' hf h
    cases f with
    | some g =>
      simp only [fetchLoop, FetchOut.err.injEq] at h
      exact absurd (by rw [h.1]) hf
    | none => exact ⟨rfl, by simp⟩
  | cons s rest ih =>
    intro e f t t' hf h
    cases hs : s.fetch k with
    | ok sz => simp [fetchLoop, hs] at h
    | error er =>
      simp only [fetchLoop, hs] at h
      have hinv : (if f.isNone && er != .notExist then some er else f) ≠ some .notExist := by
        split
        · rename_i hc
          simp only [Bool.and_eq_true, bne_iff_ne, ne_eq] at hc
          intro g; exact hc.2 (Option.some.inj g)
        · exact hf
      obtain ⟨h1, h2⟩ := ih _ _ _ _ hinv h
      have hfn : f = none ∧ er = .notExist := by
        cases f with
        | some g => simp at h1
        | none =>
          refine ⟨rfl, ?_⟩
          cases er with
          | notExist => rfl
          | down => simp at h1
      refine ⟨hfn.1, ?_⟩
      intro s' hs'
      cases hs' with
      | head => rw [hs, hfn.2]
      | tail _ g => exact h2 s' g

/-- if no replica still to be asked serves the blob and a failure is remembered or one of them is
down, the answer is that failure -/
theorem fetchLoop_down (k : Bytes) (reads : List Sub) : ∀ (e f : Option FetchErr) (t : Nat),
    (∀ s ∈ reads, ¬ (s.down = false ∧ s.store.has k = true)) →
    (f = some .down ∨ (f = none ∧ ∃ s ∈ reads, s.down = true)) →
    ∃ t', fetchLoop k reads e f t = .err .down t' := by
  induction reads with
  | nil =>
    intro e f t _ h
    rcases h with h | ⟨_, s, hs, _⟩
    · subst h; exact ⟨t, rfl⟩
    · cases hs
  | cons s rest ih =>
    intro e f t hno h
    cases hs : s.fetch k with
    | ok sz => exact absurd ((sub_fetch_ok_iff_has s k).mp ⟨sz, hs⟩) (hno s (by simp))
    | error er =>
      simp only [fetchLoop, hs]
      apply ih _ _ _ (fun s' hs' => hno s' (List.mem_cons_of_mem _ hs'))
      rcases h with h | ⟨hf, s', hs', hd⟩
      · subst h; left; simp
      · subst hf
        cases er with
        | down => left; simp
        | notExist =>
          right
          refine ⟨by simp, ?_⟩
          cases hs' with
          | head => simp [Sub.fetch, hd] at hs
          | tail _ g => exact ⟨s', g, hd⟩

theorem statFold_spec (reports : List SR) : ∀ (need : List Bytes),
    (keys (statFold need reports)).Nodup ∧
    ∀ k, k ∈ keys (statFold need reports) ↔ k ∈ need ∧ k ∈ keys reports := by
  induction reports with
  | nil => intro need; simp [statFold, keys]
  | cons sb rest ih =>
    intro need
    by_cases hn : need.contains sb.1 = true
    · have hmem : sb.1 ∈ need := by simpa using hn
      obtain ⟨ih1, ih2⟩ := ih (need.filter (· != sb.1))
      simp only [statFold, hn, if_true, keys, List.map_cons] at ih1 ih2 ⊢
      constructor
      · refine List.nodup_cons.mpr ⟨?_, ih1⟩
        intro hk
        have := ((ih2 sb.1).mp hk).1
        simp at this
      · intro k
        simp only [List.mem_cons, ih2, List.mem_filter]
        constructor
        · rintro (h | ⟨⟨h1, _⟩, h3⟩)
          · subst h; exact ⟨hmem, Or.inl rfl⟩
          · exact ⟨h1, Or.inr h3⟩
        · rintro ⟨h1, h2 | h2⟩
          · exact Or.inl h2
          · by_cases hk : k = sb.1
            · exact Or.inl hk
            · exact Or.inr ⟨⟨h1, by simpa using hk⟩, h2⟩
    · have hn' : need.contains sb.1 = false := by simpa using hn
      have hmem : sb.1 ∉ need := by simpa using hn
      obtain ⟨ih1, ih2⟩ := ih need
      have e : statFold need (sb :: rest) = statFold need rest := by
        simp only [statFold, hn', Bool.false_eq_true, if_false]
      rw [e]
      refine ⟨ih1, ?_⟩
      intro k
      rw [ih2]
      simp only [keys, List.map_cons, List.mem_cons]
      constructor
      · rintro ⟨h1, h2⟩; exact ⟨h1, Or.inr h2⟩
      · rintro ⟨h1, h2 | h2⟩
        · subst h2; exact absurd h1 hmem
        · exact ⟨h1, h2⟩

/-- whatever is passed to the caller's `fn` is one of the reports -/
theorem statFold_subset (reports : List SR) : ∀ (need : List Bytes), ∀ e ∈ statFold need reports, e ∈ reports := by
  induction reports with
  | nil => intro need e he; simp [statFold] at he
  | cons sb rest ih =>
    intro need e he
    simp only [statFold] at he
    split at he
    · cases he with
      | head => simp
      | tail _ g => exact List.mem_cons_of_mem _ (ih _ e g)
    · exact List.mem_cons_of_mem _ (ih _ e he)

theorem mem_statReports (s : Sub) (blobs : List Bytes) (e : SR) (h : e ∈ s.statReports blobs) :
    s.store.get? e.1 = some e.2 := by
  simp only [Sub.statReports, List.mem_filterMap] at h
  obtain ⟨b, _, hb⟩ := h
  cases hg : s.store.get? b with
  | none => simp [hg] at hb
  | some sz =>
    simp only [hg, Option.map_some, Option.some.injEq] at hb
    subst hb; exact hg

theorem mem_keys_statReports (s : Sub) (blobs : List Bytes) (k : Bytes) :
    k ∈ keys (s.statReports blobs) ↔ k ∈ blobs ∧ s.store.has k = true := by
  simp only [keys, Sub.statReports, List.mem_map, List.mem_filterMap, Store.has]
  constructor
  · rintro ⟨x, ⟨b, hb, hx⟩, rfl⟩
    cases hg : s.store.get? b with
    | none => simp [hg] at hx
    | some sz =>
      simp only [hg, Option.map_some, Option.some.injEq] at hx
      subst hx
      exact ⟨hb, by simp [hg]⟩
  · rintro ⟨hb, hh⟩
    cases hg : s.store.get? k with
    | none => simp [hg] at hh
    | some sz => exact ⟨(k, sz), ⟨k, hb, by simp [hg]⟩, rfl⟩

theorem mem_keys_seqReports (reads : List Sub) (blobs : List Bytes) (k : Bytes) :
    k ∈ keys (seqReports reads blobs) ↔
      k ∈ blobs ∧ ∃ s ∈ reads, s.down = false ∧ s.store.has k = true := by
  have : k ∈ keys (seqReports reads blobs) ↔
      ∃ s ∈ reads.filter (!·.down), k ∈ keys (s.statReports blobs) := by
    simp only [keys, seqReports, List.mem_map, List.mem_flatMap]
    constructor
    · rintro ⟨x, ⟨s, hs, hx⟩, rfl⟩; exact ⟨s, hs, x, hx, rfl⟩
    · rintro ⟨s, hs, x, hx, rfl⟩; exact ⟨x, ⟨s, hs, hx⟩, rfl⟩
  rw [this]
  constructor
  · rintro ⟨s, hs, hk⟩
    obtain ⟨h1, h2⟩ := List.mem_filter.mp hs
    obtain ⟨h3, h4⟩ := (mem_keys_statReports s blobs k).mp hk
    exact ⟨h3, s, h1, by simpa using h2, h4⟩
  · rintro ⟨h3, s, h1, h2, h4⟩
    exact ⟨s, List.mem_filter.mpr ⟨h1, by simp [h2]⟩, (mem_keys_statReports s blobs k).mpr ⟨h3, h4⟩⟩

end Pk.Replica
