import PkVerif.Spec.SortedKV
import PkVerif.Base.SMap
/-! Helper lemmas about `Pk.SortedKV` (the byte-ordered map).  It is Base's `SMap Bytes` under the names of
`sorted.KeyValue`: `insert` is `SMap.ins`, `get` is `SMap.get`, `WF` is `SMap.KAsc`; what Base proves about
these is carried over, the rest (`erase`, `find`, the size limits, batches) is proved here. -/
namespace Pk.SortedKV

theorem insert_eq_ins (k v : Bytes) (m : KV) : insert k v m = SMap.ins k v m := by
  induction m with
  | nil => rfl
  | cons p t ih => obtain ⟨k', v'⟩ := p; simp only [insert, SMap.ins, ih]

theorem get_eq_get (m : KV) (k : Bytes) : get m k = SMap.get m k := by
  induction m with
  | nil => rfl
  | cons p t ih => obtain ⟨k', v'⟩ := p; simp only [get, SMap.get, ih, eq_comm]

theorem wf_iff_kasc (m : KV) : WF m ↔ SMap.KAsc m := List.pairwise_map

theorem ltB_nil_right (k : Bytes) : ltB k [] = false := by cases k <;> rfl

theorem wf_iff_asc (m : KV) : WF m ↔ Asc ltB (keys m) := (asc_iff_pairwise ltB stB _).symm

theorem wf_nil : WF [] := by simp [WF, keys]

theorem wf_cons {k v : Bytes} {t : KV} :
    WF ((k, v) :: t) ↔ (∀ x ∈ keys t, ltB k x = true) ∧ WF t := by
  simp [WF, keys, List.pairwise_cons]

theorem wf_tail {p : Bytes × Bytes} {t : KV} (h : WF (p :: t)) : WF t := by
  obtain ⟨k, v⟩ := p; exact (wf_cons.mp h).2

theorem mem_keys {m : KV} {k v : Bytes} (h : (k, v) ∈ m) : k ∈ keys m :=
  List.mem_map.mpr ⟨(k, v), h, rfl⟩

theorem get_none_of_not_mem_keys {m : KV} {k : Bytes} (h : k ∉ keys m) : get m k = none := by
  induction m with
  | nil => rfl
  | cons p t ih =>
    obtain ⟨k', v'⟩ := p
    simp only [keys, List.map_cons, List.mem_cons, not_or] at h
    simp only [get]
    rw [if_neg (fun e => h.1 e.symm)]
    exact ih h.2

theorem get_some_mem {m : KV} {k v : Bytes} (h : get m k = some v) : (k, v) ∈ m :=
  SMap.get_some_mem (get_eq_get m k ▸ h)

theorem get_tail_none {k v : Bytes} {t : KV} (h : WF ((k, v) :: t)) {x : Bytes}
    (hx : ltB k x = false) : get t x = none := by
  apply get_none_of_not_mem_keys
  intro hm
  have := (wf_cons.mp h).1 x hm
  rw [hx] at this; cases this

theorem mem_get {m : KV} (hw : WF m) {k v : Bytes} (h : (k, v) ∈ m) : get m k = some v :=
  (get_eq_get m k).trans (SMap.mem_get ((wf_iff_kasc m).mp hw) h)

theorem mem_iff_get {m : KV} (hw : WF m) (k v : Bytes) : (k, v) ∈ m ↔ get m k = some v :=
  ⟨mem_get hw, get_some_mem⟩

/-- a well-formed map is determined by its `get` -/
theorem ext_get {a b : KV} (ha : WF a) (hb : WF b) (h : ∀ k, get a k = get b k) : a = b :=
  SMap.ext ((wf_iff_kasc a).mp ha) ((wf_iff_kasc b).mp hb) fun k => by rw [← get_eq_get, ← get_eq_get, h k]

theorem get_insert (k v : Bytes) (m : KV) (x : Bytes) :
    get (insert k v m) x = if k = x then some v else get m x := by
  rw [get_eq_get, insert_eq_ins, SMap.get_ins, get_eq_get]
  by_cases e : k = x
  · rw [if_pos e, if_pos e.symm]
  · rw [if_neg e, if_neg (Ne.symm e)]

theorem wf_insert (k v : Bytes) {m : KV} (hw : WF m) : WF (insert k v m) := by
  rw [insert_eq_ins]
  exact (wf_iff_kasc _).mpr (SMap.kasc_ins k v ((wf_iff_kasc m).mp hw))

theorem keys_filter_sublist (f : Bytes × Bytes → Bool) (m : KV) :
    (keys (m.filter f)).Sublist (keys m) := (List.filter_sublist (l := m)).map _

theorem wf_filter (f : Bytes × Bytes → Bool) {m : KV} (hw : WF m) : WF (m.filter f) :=
  List.Pairwise.sublist (keys_filter_sublist f m) hw

theorem wf_erase (k : Bytes) {m : KV} (hw : WF m) : WF (erase k m) := wf_filter _ hw

theorem wf_find {m : KV} (hw : WF m) (s e : Bytes) : WF (find m s e) := wf_filter _ hw

theorem get_filter_key (f : Bytes → Bool) (m : KV) (x : Bytes) :
    get (m.filter (fun p => f p.1)) x = if f x then get m x else none := by
  rw [get_eq_get, get_eq_get, SMap.get_filter_key]

theorem get_erase (k : Bytes) (m : KV) (x : Bytes) :
    get (erase k m) x = if k = x then none else get m x := by
  unfold erase
  rw [get_filter_key (fun a => !(a == k)) m x]
  by_cases e : k = x
  · subst e; simp
  · have : ¬ x = k := fun e' => e e'.symm
    simp [e, this]

theorem get_find (m : KV) (s e x : Bytes) :
    get (find m s e) x = if inRange s e x then get m x else none :=
  get_filter_key (inRange s e) m x

theorem inRange_nil (k : Bytes) : inRange [] [] k = true := by
  simp [inRange, ltB_nil_right]

theorem find_all (m : KV) : find m [] [] = m := by
  unfold find
  apply List.filter_eq_self.mpr
  intro p _; exact inRange_nil p.1

theorem wf_set (L : Limits) {m : KV} (hw : WF m) (k v : Bytes) : WF (set L m k v) := by
  unfold set; split
  · exact wf_insert k v hw
  · exact hw

theorem get_set (L : Limits) (m : KV) (k v x : Bytes) :
    get (set L m k v) x = if okSizes L k v = true ∧ k = x then some v else get m x := by
  unfold set
  cases h : okSizes L k v with
  | true => simp [get_insert]
  | false => simp

theorem wf_applyMut (L : Limits) {m : KV} (hw : WF m) (x : Mut) : WF (applyMut L m x) := by
  cases x with
  | set k v => exact wf_set L hw k v
  | del k => exact wf_erase k hw

theorem wf_batch (L : Limits) {m : KV} (hw : WF m) (ms : List Mut) : WF (batch L m ms) := by
  induction ms generalizing m with
  | nil => exact hw
  | cons x xs ih => exact ih (wf_applyMut L hw x)

theorem batch_eq_foldl (L : Limits) (m : KV) (ms : List Mut) :
    batch L m ms = ms.foldl (applyMut L) m := by
  induction ms generalizing m with
  | nil => rfl
  | cons x xs ih => simp [batch, ih]

theorem batch_append (L : Limits) (m : KV) (a b : List Mut) :
    batch L m (a ++ b) = batch L (batch L m a) b := by
  simp [batch_eq_foldl]

theorem mem_insert {k v : Bytes} {m : KV} {p : Bytes × Bytes} (h : p ∈ insert k v m) :
    p = (k, v) ∨ p ∈ m :=
  SMap.mem_ins (insert_eq_ins k v m ▸ h)

theorem sizes_set (L : Limits) {m : KV} (hs : SizesOK L m) (k v : Bytes) : SizesOK L (set L m k v) := by
  unfold set
  cases h : okSizes L k v with
  | false => simpa using hs
  | true =>
    simp only [if_true]
    intro p hp
    rcases mem_insert hp with e | hm
    · subst e; exact h
    · exact hs p hm

theorem sizes_filter (L : Limits) {m : KV} (hs : SizesOK L m) (f : Bytes × Bytes → Bool) :
    SizesOK L (m.filter f) := fun p hp => hs p (List.mem_filter.mp hp).1

theorem sizes_applyMut (L : Limits) {m : KV} (hs : SizesOK L m) (x : Mut) : SizesOK L (applyMut L m x) := by
  cases x with
  | set k v => exact sizes_set L hs k v
  | del k => exact sizes_filter L hs _

theorem sizes_batch (L : Limits) {m : KV} (hs : SizesOK L m) (ms : List Mut) : SizesOK L (batch L m ms) := by
  induction ms generalizing m with
  | nil => exact hs
  | cons x xs ih => exact ih (sizes_applyMut L hs x)

theorem get_applyMut (L : Limits) (m : KV) (mu : Mut) (x : Bytes) :
    get (applyMut L m mu) x =
      match mu with
      | .set k v => if okSizes L k v = true ∧ k = x then some v else get m x
      | .del k => if k = x then none else get m x := by
  cases mu with
  | set k v => exact get_set L m k v x
  | del k => exact get_erase k m x

theorem get_batch (L : Limits) (ms : List Mut) : ∀ (m : KV) (x : Bytes),
    get (batch L m ms) x = match lastWrite L ms x with
      | some r => r
      | none => get m x := by
  induction ms with
  | nil => intro m x; rfl
  | cons mu ms ih =>
    intro m x
    simp only [batch, lastWrite]
    rw [ih]
    cases lastWrite L ms x with
    | some r => rfl
    | none =>
      simp only [get_applyMut]
      cases mu with
      | set k v =>
        by_cases c : okSizes L k v = true ∧ k = x
        · simp only [if_pos c]
        · simp only [if_neg c]
      | del k =>
        by_cases c : k = x
        · simp only [if_pos c]
        · simp only [if_neg c]

theorem wf_specStep (L : Limits) {m : KV} (hw : WF m) (o : Op) : WF (specStep L m o).1 := by
  cases o with
  | get k => exact hw
  | set k v => exact wf_set L hw k v
  | del k => exact wf_erase k hw
  | batch ms => exact wf_batch L hw ms
  | find s e => exact hw
  | flush => exact hw
  | reopen => exact hw

end Pk.SortedKV
