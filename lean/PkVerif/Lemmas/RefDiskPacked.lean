import PkVerif.Model.DiskPacked
import PkVerif.Lemmas.Pack
import PkVerif.Lemmas.Stores
import PkVerif.Lemmas.RefFiles
/-!
# C01 leaf: diskpacked refines the reference map

`abs` reads the map back from the bytes: every index row `(pack, offset, size)` is replaced by the
extent it names.  The invariant `Inv` says each row's extent lies in its pack and holds `content k`,
is preceded by the header `[k size]`, and that the header+body regions of different rows of one pack
do not overlap.  `append` adds a region beyond every existing one (packs only grow), `remove`
rewrites bytes only inside the removed row's own region.
-/
namespace Pk.DiskPacked
open Pk Pk.SMap Pk.RefMap Pk.Pack Pk.Stores

theorem iget_eq (idx : Index) (k : Bytes) : idx.get k = SMap.get idx k := by
  induction idx with
  | nil => rfl
  | cons p t ih => obtain ⟨k', v⟩ := p; simp only [Index.get, SMap.get, ih]

theorem iset_eq (idx : Index) (k : Bytes) (v : Meta) : idx.set k v = SMap.ins k v idx := by
  induction idx with
  | nil => rfl
  | cons p t ih =>
    obtain ⟨k', v'⟩ := p
    simp only [Index.set, SMap.ins]
    by_cases h : k = k'
    · subst h; simp [ltB_irrefl]
    · by_cases hl : ltB k k' = true
      · simp [h, hl]
      · simp [h, hl, ih]

theorem get_iset (idx : Index) (k k2 : Bytes) (v : Meta) :
    (idx.set k v).get k2 = if k2 = k then some v else idx.get k2 := by
  split
  · next h => rw [h, Index.get_set_same]
  · next h => exact Index.get_set_other idx k k2 v h

theorem get_iset_some {idx : Index} {k k2 : Bytes} {v m : Meta} (h : (idx.set k v).get k2 = some m) :
    k2 = k ∧ v = m ∨ k2 ≠ k ∧ idx.get k2 = some m := by
  by_cases hk : k2 = k
  · rw [hk, Index.get_set_same] at h; exact Or.inl ⟨hk, Option.some.inj h⟩
  · rw [Index.get_set_other idx k k2 v hk] at h; exact Or.inr ⟨hk, h⟩

theorem get_idel (idx : Index) (k k2 : Bytes) :
    (idx.del k).get k2 = if k2 = k then none else idx.get k2 := by
  split
  · next h => rw [h, Index.get_del_same]
  · next h => exact Index.get_del_other idx k k2 h

theorem idel_eq {idx : Index} (hasc : KAsc idx) (k : Bytes) : idx.del k = SMap.del k idx :=
  SMap.ext (kasc_filter _ hasc) (kasc_del k hasc) fun x => by
    rw [← iget_eq, get_idel, get_del k hasc, iget_eq]

/-- `q` is `p` rewritten inside `[lo, hi)` only: same length, every extent outside unchanged -/
def SameOutside (p q : Bytes) (lo hi : Nat) : Prop :=
  q.length = p.length ∧ ∀ o s, (o + s ≤ lo ∨ hi ≤ o) → extent q o s = extent p o s

theorem SameOutside.mono {p q : Bytes} {lo hi lo' hi' : Nat} (h : SameOutside p q lo hi)
    (hl : lo' ≤ lo) (hh : hi ≤ hi') : SameOutside p q lo' hi' :=
  ⟨h.1, fun o s hd => h.2 o s (hd.imp (fun h => Nat.le_trans h hl) (fun h => Nat.le_trans hh h))⟩

theorem SameOutside.trans {p q r : Bytes} {lo hi : Nat} (h1 : SameOutside p q lo hi)
    (h2 : SameOutside q r lo hi) : SameOutside p r lo hi :=
  ⟨h2.1.trans h1.1, fun o s hd => (h2.2 o s hd).trans (h1.2 o s hd)⟩

theorem extent_suffix (a b : Bytes) : extent (a ++ b) a.length b.length = b := by
  have := extent_exact a b []
  rwa [List.append_nil] at this

theorem replaceAt_sameOutside (l new : Bytes) (off : Nat) (h : off + new.length ≤ l.length) :
    SameOutside l (replaceAt l off new) off (off + new.length) := by
  have hl : l = l.take off ++ (l.drop off).take new.length ++ l.drop (off + new.length) := by
    rw [List.append_assoc, ← List.drop_drop, List.take_append_drop, List.take_append_drop]
  have hpre : (l.take off).length = off :=
    List.length_take_of_le (Nat.le_trans (Nat.le_add_right ..) h)
  have hmid : ((l.drop off).take new.length).length = new.length :=
    List.length_take_of_le (by rw [List.length_drop]; exact Nat.le_sub_of_add_le' h)
  refine ⟨?_, fun o s hd => ?_⟩
  · rw [replaceAt, List.length_append, List.length_append, hpre, List.length_drop, Nat.add_sub_cancel' h]
  · conv => rhs; rw [hl]
    exact extent_frame (l.take off) new ((l.drop off).take new.length) (l.drop (off + new.length)) o s
      hmid.symm (by rw [hpre]; exact hd)

theorem zeroExtent_sameOutside (p : Bytes) (off size : Nat) :
    SameOutside p (zeroExtent p off size) off (off + size) := by
  unfold zeroExtent
  simp only
  by_cases hn : (extent p off size).length = 0
  · rw [if_pos hn]; exact ⟨rfl, fun _ _ _ => rfl⟩
  · rw [if_neg hn]
    have h1 : (extent p off size).length ≤ size := extent_length_le p off size
    have h2 : (extent p off size).length ≤ p.length - off := by
      unfold extent; rw [← List.length_drop]; exact List.length_take_le' ..
    refine (replaceAt_sameOutside p _ off (by
      rw [List.length_replicate]
      exact Nat.add_le_of_le_sub'
        (Nat.le_of_lt (Nat.lt_of_sub_pos (Nat.lt_of_lt_of_le (Nat.pos_of_ne_zero hn) h2))) h2)).mono
      (Nat.le_refl _) (by rw [List.length_replicate]; exact Nat.add_le_add_left h1 _)

theorem deletedHeader_length (b b' : Bytes) (h : deletedHeader b = some b') : b'.length = b.length := by
  unfold deletedHeader at h
  split at h
  · cases h
  · simp only at h
    generalize hin : (b.drop 1).dropLast = inner at h
    split at h
    · cases h
    · next dash hdash =>
      split at h
      · cases h
      · next space hspace =>
        cases h
        have h2 := indexOf_some_lt _ _ _ hspace
        rw [List.length_drop] at h2
        -- `inner` is `b` without its first and last byte and is cut at `dash + 1 + space`, inside it;
        -- with the differences named the sum is linear (`omega` on the nested subtractions is dear)
        have hcut := Nat.add_lt_of_lt_sub' h2
        obtain ⟨r, hr⟩ := Nat.exists_eq_add_of_le (Nat.le_of_lt hcut)
        have hL : b.length - 2 = inner.length := by
          rw [← hin, List.length_dropLast, List.length_drop, Nat.sub_sub]
        have hb : b.length = inner.length + 2 :=
          hL ▸ (Nat.sub_add_cancel (Nat.le_of_lt (Nat.lt_of_sub_pos (hL ▸ Nat.zero_lt_of_lt hcut)))).symm
        simp only [List.length_cons, List.length_append, List.length_replicate, List.length_drop,
          List.length_nil, hb, hr, Nat.add_sub_cancel_left]
        omega

/-- length of the header `[k size]` -/
def hdrLen (k : Bytes) (size : Nat) : Nat := (encodeHeader k size).length

/-- folds the literal sum as it appears in `deleteHeaderAt` into `hdrLen` -/
theorem hdrLen_eq (k : Bytes) (size : Nat) :
    1 + k.length + 1 + (decEnc size).length + 1 = hdrLen k size := by
  simp only [hdrLen, encodeHeader, List.length_cons, List.length_append, List.length_nil]; omega

/-- the header rewrite of `delete` touches only `[offset - hdrLen, offset)` -/
theorem deleteHeaderAt_sameOutside (p p1 ref : Bytes) (m : Meta) (h : deleteHeaderAt p ref m = some p1) :
    SameOutside p p1 (m.offset - hdrLen ref m.size) m.offset := by
  unfold deleteHeaderAt at h
  simp only [hdrLen_eq] at h
  split at h
  · cases h
  · next hoff =>
    split at h
    · cases h
    · next hb =>
      split at h
      · cases h
      · next b' hb' =>
        cases h
        -- the `hdrLen` bytes before the extent were all there, and the rewritten header is as long
        have hlen : b'.length = hdrLen ref m.size :=
          (deletedHeader_length _ _ hb').trans
            (Nat.le_antisymm (List.length_take_le ..) (Nat.le_of_not_lt hb))
        have hin : hdrLen ref m.size ≤ p.length - (m.offset - hdrLen ref m.size) := by
          have := Nat.le_of_not_lt hb
          rw [List.length_take, List.length_drop] at this
          exact Nat.le_trans this (Nat.min_le_right ..)
        have hpos : 0 < hdrLen ref m.size := by rw [← hdrLen_eq]; exact Nat.succ_pos _
        have hwin : m.offset - hdrLen ref m.size + b'.length = m.offset := by
          rw [hlen, Nat.sub_add_cancel (Nat.le_of_not_lt hoff)]
        have hfit : m.offset - hdrLen ref m.size + b'.length ≤ p.length := by
          rw [hlen]
          exact Nat.add_le_of_le_sub' (Nat.le_of_lt (Nat.lt_of_sub_pos (Nat.lt_of_lt_of_le hpos hin))) hin
        exact (replaceAt_sameOutside p b' _ hfit).mono (Nat.le_refl _) (Nat.le_of_eq hwin)

/-- both writes of `delete` together touch only `[offset - hdrLen, offset + size)` -/
theorem delete_sameOutside (p p1 ref : Bytes) (m : Meta) (h : deleteHeaderAt p ref m = some p1) :
    SameOutside p (zeroExtent p1 m.offset m.size) (m.offset - hdrLen ref m.size) (m.offset + m.size) :=
  ((deleteHeaderAt_sameOutside p p1 ref m h).mono (Nat.le_refl _) (Nat.le_add_right ..)).trans
    ((zeroExtent_sameOutside p1 m.offset m.size).mono (Nat.sub_le ..) (Nat.le_refl _))

/-- `delete` on the pack files: every pack keeps its length; bytes change only in the pack the row
names, inside the row's header+body region -/
theorem deletePack_frame (st : Store) (ref : Bytes) (i : Nat) (p : Bytes) (hp : st.packs[i]? = some p) :
    ∃ q, (st.deletePack ref true true)[i]? = some q ∧ q.length = p.length ∧
      ∀ o s, (∀ m, st.index.get ref = some m → i = m.file →
          o + s ≤ m.offset - hdrLen ref m.size ∨ m.offset + m.size ≤ o) →
        extent q o s = extent p o s := by
  -- where `delete` returns before writing, and in every other pack, nothing changes
  have same : ∀ C : Nat → Nat → Prop, ∃ q, st.packs[i]? = some q ∧ q.length = p.length ∧
      ∀ o s, C o s → extent q o s = extent p o s :=
    fun _ => ⟨p, hp, rfl, fun _ _ _ => rfl⟩
  unfold Store.deletePack
  cases hm : st.index.get ref with
  | none => exact same _
  | some m =>
    dsimp only
    cases hp0 : st.packs[m.file]? with
    | none => exact same _
    | some p0 =>
      dsimp only
      cases hd : deleteHeaderAt p0 ref m with
      | none => exact same _
      | some p1 =>
        simp only [if_true]
        rw [getElem?_modifyNth]
        by_cases hi : i = m.file
        · subst hi
          cases hp.symm.trans hp0
          obtain ⟨h1, h2⟩ := delete_sameOutside p p1 ref m hd
          rw [if_pos rfl, hp]
          exact ⟨_, rfl, h1, fun o s hd' => h2 o s (hd' m rfl rfl)⟩
        · rw [if_neg hi]
          exact same _

def rowBytes (packs : List Bytes) (m : Meta) : Bytes :=
  extent (packs[m.file]?.getD []) m.offset m.size

/-- the map read back from the pack files through the index -/
def absOf (st : Store) : SMap Bytes := st.index.map (fun p => (p.1, rowBytes st.packs p.2))

/-- the row `k ↦ m` is right: `m.size` is the blob's size, the extent lies in pack `m.file`, holds
exactly `content k`, and is preceded by the header `[k size]` -/
def RowOK (content : Bytes → Bytes) (packs : List Bytes) (k : Bytes) (m : Meta) : Prop :=
  k ≠ [] ∧ m.size = (content k).length ∧ hdrLen k m.size ≤ m.offset ∧
  ∃ p, packs[m.file]? = some p ∧ m.offset + m.size ≤ p.length ∧
    extent p m.offset m.size = content k ∧
    extent p (m.offset - hdrLen k m.size) (hdrLen k m.size) = encodeHeader k m.size

theorem RowOK.of_region {content : Bytes → Bytes} {packs packs' : List Bytes} {k : Bytes} {m : Meta}
    (h : RowOK content packs k m)
    (hq : ∀ p, packs[m.file]? = some p → m.offset + m.size ≤ p.length →
      ∃ q, packs'[m.file]? = some q ∧ p.length ≤ q.length ∧
        ∀ o s, m.offset - hdrLen k m.size ≤ o → o + s ≤ m.offset + m.size → extent q o s = extent p o s) :
    RowOK content packs' k m := by
  obtain ⟨h1, h2, h3, p, hp, hb, he, hh⟩ := h
  obtain ⟨q, hq, hl, hx⟩ := hq p hp hb
  refine ⟨h1, h2, h3, q, hq, Nat.le_trans hb hl, ?_, ?_⟩
  · rw [hx _ _ (Nat.sub_le ..) (Nat.le_refl _)]; exact he
  · rw [hx _ _ (Nat.le_refl _) (by rw [Nat.sub_add_cancel h3]; exact Nat.le_add_right ..)]; exact hh

/-- the header+body regions of two rows do not overlap -/
def Apart (k1 : Bytes) (m1 : Meta) (k2 : Bytes) (m2 : Meta) : Prop :=
  m1.file = m2.file →
    m1.offset + m1.size ≤ m2.offset - hdrLen k2 m2.size ∨
    m2.offset + m2.size ≤ m1.offset - hdrLen k1 m1.size

theorem Apart.symm {k1 k2 : Bytes} {m1 m2 : Meta} (h : Apart k1 m1 k2 m2) : Apart k2 m2 k1 m1 :=
  fun e => (h e.symm).symm

structure Inv (content : Bytes → Bytes) (st : Store) : Prop where
  asc : KAsc st.index
  ne : st.packs ≠ []
  row : ∀ k m, st.index.get k = some m → RowOK content st.packs k m
  apart : ∀ k1 m1 k2 m2, st.index.get k1 = some m1 → st.index.get k2 = some m2 → k1 ≠ k2 →
    Apart k1 m1 k2 m2

theorem inv_init (content : Bytes → Bytes) (max : Nat) : Inv content (Store.init max) :=
  ⟨kasc_nil, List.cons_ne_nil _ _, fun _ _ h => (nomatch h), fun _ _ _ _ h => (nomatch h)⟩

theorem abs_eq_mapK {content : Bytes → Bytes} {st : Store} (h : Inv content st) :
    absOf st = mapK content st.index := by
  unfold absOf mapK
  apply List.map_congr_left
  intro ⟨k, m⟩ hp
  obtain ⟨_, _, _, q, hq, _, he, _⟩ := h.row k m (by rw [iget_eq]; exact mem_get h.asc hp)
  simp only [rowBytes, hq, Option.getD_some, he]

theorem get_abs {content : Bytes → Bytes} {st : Store} (h : Inv content st) (k : Bytes) :
    SMap.get (absOf st) k = (st.index.get k).map (fun _ => content k) := by
  rw [abs_eq_mapK h, get_mapK, has, ← iget_eq]
  cases st.index.get k <;> rfl

theorem has_abs {content : Bytes → Bytes} {st : Store} (h : Inv content st) (k : Bytes) :
    has (absOf st) k = (st.index.get k).isSome := by
  unfold has; rw [get_abs h]
  cases st.index.get k <;> rfl

/-- `append` spelled out on a store whose last pack is `last`: header and body go to the end of
`last`, an empty pack is started iff the pack now exceeds `maxSize`, and the row points just after
the header -/
theorem append_shape (st : Store) (init : List Bytes) (last : Bytes) (hp : st.packs = init ++ [last])
    (k v : Bytes) :
    (st.append k v).packs = init ++ [last ++ encodeHeader k v.length ++ v] ++
        (if (last ++ encodeHeader k v.length ++ v).length > st.maxSize then [[]] else []) ∧
    (st.append k v).index =
      st.index.set k ⟨init.length, last.length + hdrLen k v.length, v.length⟩ := by
  unfold Store.append
  simp only [hp, getLast_concat, setLast_concat, hdrLen]
  constructor
  · split <;> simp
  · simp

theorem inv_append {content : Bytes → Bytes} {st : Store} (h : Inv content st) (k v : Bytes)
    (hv : v = content k) (hk : k ≠ []) : Inv content (st.append k v) := by
  obtain ⟨init, last, hp⟩ := exists_concat st.packs h.ne
  obtain ⟨e1, e2⟩ := append_shape st init last hp k v
  have hg : Grows st.packs (st.append k v).packs := by
    rw [hp, e1, List.append_assoc last]; exact grows_concat _ _ _ _
  have hnew : (st.append k v).packs[init.length]? = some (last ++ encodeHeader k v.length ++ v) := by
    rw [e1, List.append_assoc, List.getElem?_append_right (Nat.le_refl _), Nat.sub_self]; rfl
  -- every old row of the last pack ends at or before the old end of that pack, so the new record is
  -- apart from it
  have hap : ∀ k2 m2, st.index.get k2 = some m2 →
      Apart k2 m2 k ⟨init.length, last.length + hdrLen k v.length, v.length⟩ := by
    intro k2 m2 hg2 hf
    obtain ⟨_, _, _, p, hpp, hb, _, _⟩ := h.row k2 m2 hg2
    rw [hf, hp, List.getElem?_append_right (Nat.le_refl _)] at hpp
    rw [Nat.sub_self] at hpp
    cases hpp
    exact Or.inl (by rw [Nat.add_sub_cancel]; exact hb)
  refine ⟨by rw [e2, iset_eq]; exact kasc_ins _ _ h.asc, ?_, ?_, ?_⟩
  · rw [e1, List.append_assoc]
    exact List.append_ne_nil_of_right_ne_nil _ (List.cons_ne_nil _ _)
  · intro k2 m2 hg2
    rw [e2] at hg2
    rcases get_iset_some hg2 with ⟨hk2, hm2⟩ | ⟨_, g2⟩
    · subst hk2; subst hm2
      refine ⟨hk, by rw [hv], Nat.le_add_left _ _, _, hnew, ?_, ?_, ?_⟩
      · simp only [List.length_append, hdrLen]; exact Nat.le_refl _
      · have := extent_suffix (last ++ encodeHeader k2 v.length) v
        rw [List.length_append] at this
        rw [← hv]; exact this
      · simp only [Nat.add_sub_cancel]
        exact extent_exact last (encodeHeader k2 v.length) v
    · refine (h.row k2 m2 g2).of_region fun p hpp hb => ?_
      obtain ⟨x, hx⟩ := hg _ _ hpp
      exact ⟨_, hx, by rw [List.length_append]; exact Nat.le_add_right ..,
        fun o s _ hs => extent_append_left _ _ _ _ (Nat.le_trans hs hb)⟩
  · intro k1 m1 k2 m2 h1 h2 hne
    rw [e2] at h1 h2
    rcases get_iset_some h1 with ⟨hk1, hm1⟩ | ⟨_, g1⟩
    · subst hk1; subst hm1
      rcases get_iset_some h2 with ⟨hk2, _⟩ | ⟨_, g2⟩
      · exact absurd hk2.symm hne
      · exact (hap k2 m2 g2).symm
    · rcases get_iset_some h2 with ⟨hk2, hm2⟩ | ⟨_, g2⟩
      · subst hk2; subst hm2; exact hap k1 m1 g1
      · exact h.apart k1 m1 k2 m2 g1 g2 hne

/-- a ref already indexed is not written again (its extent lies within its pack) -/
theorem receive_dup {content : Bytes → Bytes} {st : Store} (h : Inv content st) {k : Bytes} {m : Meta}
    (hm : st.index.get k = some m) (v : Bytes) : st.receive k v = st := by
  obtain ⟨_, _, _, p, hp, hb, _, _⟩ := h.row k m hm
  unfold Store.receive
  simp only [hm, hp]
  rw [if_pos hb]

theorem receive_new {st : Store} {k : Bytes} (hm : st.index.get k = none) (v : Bytes) :
    st.receive k v = st.append k v := by
  unfold Store.receive
  simp only [hm]

theorem receive_eq_or (st : Store) (k v : Bytes) : st.receive k v = st ∨ st.receive k v = st.append k v := by
  unfold Store.receive
  split
  · split
    · split
      · exact Or.inl rfl
      · exact Or.inr rfl
    · exact Or.inr rfl
  · exact Or.inr rfl

theorem remove_one (st : Store) (k : Bytes) :
    st.remove [k] = ⟨st.deletePack k true true, st.index.del k, st.maxSize⟩ := rfl

theorem inv_remove {content : Bytes → Bytes} {st : Store} (h : Inv content st) (k : Bytes) :
    Inv content (st.remove [k]) := by
  rw [remove_one]
  have hsub : ∀ k2 m2, (st.index.del k).get k2 = some m2 → k2 ≠ k ∧ st.index.get k2 = some m2 := by
    intro k2 m2 hg
    rw [get_idel] at hg
    split at hg
    · cases hg
    · next hk => exact ⟨hk, hg⟩
  refine ⟨kasc_filter _ h.asc, ?_, ?_, ?_⟩
  · show st.deletePack k true true ≠ []
    cases hps : st.packs with
    | nil => exact absurd hps h.ne
    | cons p0 rest =>
      obtain ⟨q, hq, _⟩ := deletePack_frame st k 0 p0 (by rw [hps]; rfl)
      intro e; rw [e] at hq; cases hq
  · intro k2 m2 hg2
    obtain ⟨hne, hg⟩ := hsub k2 m2 hg2
    refine (h.row k2 m2 hg).of_region fun p hp hb => ?_
    obtain ⟨q, hq, hlen, hfr⟩ := deletePack_frame st k m2.file p hp
    refine ⟨q, hq, Nat.le_of_eq hlen.symm, fun o s ho hs => hfr o s fun m0 hm hf => ?_⟩
    exact (h.apart k2 m2 k m0 hg hm hne hf).imp (Nat.le_trans hs) (fun h => Nat.le_trans h ho)
  · intro k1 m1 k2 m2 h1 h2 hne
    exact h.apart k1 m1 k2 m2 (hsub k1 m1 h1).2 (hsub k2 m2 h2).2 hne

theorem enumLoop_eq (after : Bytes) (rows : Index) (n : Nat) :
    enumLoop after n rows =
      ((rows.filter (fun p => ltB after p.1)).map (fun p => (p.1, p.2.size))).take n := by
  induction rows generalizing n with
  | nil => cases n <;> simp [enumLoop]
  | cons r rest ih =>
    obtain ⟨k, m⟩ := r
    cases n with
    | zero => simp [enumLoop]
    | succ n =>
      simp only [enumLoop, leB, List.filter_cons]
      by_cases hlt : ltB after k = true
      · simp [hlt, ih]
      · simp [hlt, ih]

/-- `Find(after, "")` followed by the skip of keys ≤ after: the rows strictly after the cursor -/
theorem find_skip (idx : Index) (after : Bytes) :
    (find idx after).filter (fun p => ltB after p.1) = idx.filter (fun p => ltB after p.1) := by
  unfold find
  rw [List.filter_filter]
  apply List.filter_congr
  intro p _
  by_cases hlt : ltB after p.1 = true
  · simp [hlt, ltB_asymm _ _ hlt]
  · simp [hlt]

theorem sizes_mapK_rows (content : Bytes → Bytes) (l : Index)
    (h : ∀ p ∈ l, p.2.size = (content p.1).length) :
    sizes (mapK content l) = l.map (fun p => (p.1, p.2.size)) := by
  unfold sizes mapK
  rw [List.map_map]
  apply List.map_congr_left
  intro p hp
  simp [h p hp]

theorem enumerate_eq {content : Bytes → Bytes} {st : Store} (h : Inv content st) (after : Bytes)
    (limit : Nat) : enumerate st after limit = enumOf (absOf st) after limit := by
  unfold enumerate enumOf
  rw [enumLoop_eq, find_skip, abs_eq_mapK h, mapK_filter content (fun k => ltB after k),
    sizes_mapK_rows]
  intro p hp
  obtain ⟨k, m⟩ := p
  have hp' := (List.mem_filter.mp hp).1
  have hg : st.index.get k = some m := by rw [iget_eq]; exact mem_get h.asc hp'
  exact (h.row k m hg).2.1

theorem hdrLen_ge (k : Bytes) (size : Nat) : 4 ≤ hdrLen k size := by
  have : 0 < (decEnc size).length := List.length_pos_iff.mpr (decEnc_ne_nil size)
  simp only [hdrLen, encodeHeader, List.length_cons, List.length_append, List.length_nil]
  omega

/-- a pack that exceeds `maxSize` after the append is closed and an empty pack is started -/
theorem append_rollover (st : Store) (init : List Bytes) (last : Bytes) (hp : st.packs = init ++ [last])
    (k v : Bytes) (hbig : st.maxSize < (last ++ encodeHeader k v.length ++ v).length) :
    (st.append k v).packs = init ++ [last ++ encodeHeader k v.length ++ v] ++ [[]] := by
  rw [(append_shape st init last hp k v).1, if_pos hbig]

/-- with `maxFileSize` below the shortest header every append rolls over (one record per pack) -/
theorem append_tiny_max (st : Store) (hne : st.packs ≠ []) (hmax : st.maxSize < 4) (k v : Bytes) :
    ∃ l, (st.append k v).packs = l ++ [[]] := by
  obtain ⟨init, last, hp⟩ := exists_concat st.packs hne
  refine ⟨_, append_rollover st init last hp k v ?_⟩
  rw [List.length_append, List.length_append]
  exact Nat.lt_of_lt_of_le hmax (Nat.le_trans (hdrLen_ge k v.length)
    (Nat.le_trans (Nat.le_add_left ..) (Nat.le_add_right ..)))

/-- after a roll-over the next record starts at offset 0 of the new pack: its body is at `hdrLen` -/
theorem append_after_rollover (st : Store) (init : List Bytes) (hp : st.packs = init ++ [[]]) (k v : Bytes) :
    (st.append k v).index.get k = some ⟨init.length, hdrLen k v.length, v.length⟩ := by
  rw [(append_shape st init [] hp k v).2, Index.get_set_same]
  simp

/-! ## remove really scrubs: header rewritten to the deleted form, body zeroed

This needs the shape of the key text that `delete` relies on (dele.go:60-67): `name-digest` with no
`-` in the name and no space in the digest, as every `blob.Ref.String()` is. -/

/-- the ref-text shape `delete` needs -/
def DashForm (k : Bytes) : Prop := ∃ name dg, k = name ++ 45 :: dg ∧ 45 ∉ name ∧ 32 ∉ dg

theorem split_row (p H B : Bytes) (off hl size : Nat) (h1 : hl ≤ off)
    (hH : extent p (off - hl) hl = H) (hB : extent p off size = B) :
    p = p.take (off - hl) ++ H ++ (B ++ p.drop (off + size)) := by
  unfold extent at hH hB
  subst hH; subst hB
  have e1 : p.drop off = (p.drop (off - hl)).drop hl := by
    rw [List.drop_drop]; congr 1; omega
  have e2 : p.drop (off + size) = (p.drop off).drop size := by
    rw [List.drop_drop]
  rw [e2, List.take_append_drop, e1, List.append_assoc, List.take_append_drop, List.take_append_drop]

/-- on a right row whose key has the form `name-digest`, the header rewrite of `delete` succeeds and
yields the deleted header in place -/
theorem deleteHeaderAt_row {content : Bytes → Bytes} {st : Store} (h : Inv content st) {name dg : Bytes}
    {f off sz : Nat} (h1 : 45 ∉ name) (h2 : 32 ∉ dg)
    (hm : st.index.get (name ++ 45 :: dg) = some ⟨f, off, sz⟩) :
    ∃ p pre post, st.packs[f]? = some p ∧ sz = (content (name ++ 45 :: dg)).length ∧
      hdrLen (name ++ 45 :: dg) sz ≤ off ∧ pre.length = off - hdrLen (name ++ 45 :: dg) sz ∧
      deleteHeaderAt p (name ++ 45 :: dg) ⟨f, off, sz⟩ =
        some (pre ++ encodeHeader (delRef name dg) sz ++ (content (name ++ 45 :: dg) ++ post)) := by
  obtain ⟨_, hs, hle, p, hp, hb, he, hh⟩ := h.row _ _ hm
  simp only at hs hle hp hb he hh
  subst hs
  generalize hk : name ++ 45 :: dg = k at *
  have hsplit := split_row p _ _ off (hdrLen k (content k).length) _ hle hh he
  generalize hpre : p.take (off - hdrLen k (content k).length) = pre at hsplit
  generalize hpost : p.drop (off + (content k).length) = post at hsplit
  have hprelen : pre.length = off - hdrLen k (content k).length := by
    rw [← hpre]
    exact List.length_take_of_le (Nat.le_trans (Nat.sub_le ..) (Nat.le_trans (Nat.le_add_right ..) hb))
  have hoff : off = pre.length + (encodeHeader k (content k).length).length := by
    rw [hprelen]; exact (Nat.sub_add_cancel hle).symm
  refine ⟨p, pre, post, hp, rfl, hle, hprelen, ?_⟩
  rw [hsplit, hoff, ← hk]
  exact deleteHeaderAt_record pre post name dg (content (name ++ 45 :: dg)) f h1 h2

/-- `RemoveBlobs [k]` on an indexed key of the usual form: in the pack the row named, the header now
reads `[xxx-000 size]` and the body is zeros; (that nothing else changed is `deletePack_frame`) -/
theorem remove_scrubs {content : Bytes → Bytes} {st : Store} (h : Inv content st) {name dg : Bytes}
    {m : Meta} (h1 : 45 ∉ name) (h2 : 32 ∉ dg) (hm : st.index.get (name ++ 45 :: dg) = some m) :
    ∃ q, (st.remove [name ++ 45 :: dg]).packs[m.file]? = some q ∧
      extent q (m.offset - hdrLen (name ++ 45 :: dg) m.size) (hdrLen (name ++ 45 :: dg) m.size) =
        encodeHeader (delRef name dg) m.size ∧
      extent q m.offset m.size = List.replicate m.size 0 := by
  obtain ⟨f, off, sz⟩ := m
  obtain ⟨p, pre, post, hp, hs, hle, hprelen, hdel⟩ := deleteHeaderAt_row h h1 h2 hm
  have hlen' : (encodeHeader (delRef name dg) sz).length = hdrLen (name ++ 45 :: dg) sz := by
    rw [encodeHeader_delRef_length, hdrLen]
  generalize hk : name ++ 45 :: dg = k at *
  have hbl : (content k).length = sz := hs.symm
  have hz : zeroExtent (pre ++ encodeHeader (delRef name dg) sz ++ (content k ++ post)) off sz =
      pre ++ encodeHeader (delRef name dg) sz ++ (List.replicate sz 0 ++ post) := by
    have := zeroExtent_record (pre ++ encodeHeader (delRef name dg) sz) (content k) post
    rw [List.length_append, hlen', hprelen, Nat.sub_add_cancel hle, hbl] at this
    exact this
  rw [remove_one]
  show ∃ q, (st.deletePack k true true)[f]? = some q ∧ _
  unfold Store.deletePack
  simp only [hm, hp, hdel, if_true, getElem?_modifyNth, Option.map_some, hz]
  refine ⟨_, rfl, ?_, ?_⟩
  · have := extent_exact pre (encodeHeader (delRef name dg) sz) (List.replicate sz 0 ++ post)
    rw [hlen', hprelen] at this
    exact this
  · have := extent_exact (pre ++ encodeHeader (delRef name dg) sz) (List.replicate sz 0) post
    rw [List.length_append, hlen', hprelen, Nat.sub_add_cancel hle, List.length_replicate,
      List.append_assoc] at this
    exact this

theorem indexOf_split (d : Nat) (a : Bytes) (i : Nat) (h : indexOf d a = some i) :
    a = a.take i ++ d :: a.drop (i + 1) ∧ d ∉ a.take i := by
  induction a generalizing i with
  | nil => simp [indexOf] at h
  | cons x xs ih =>
    simp only [indexOf] at h
    split at h
    · rename_i hx
      injection h with h
      subst h; subst hx; simp
    · rename_i hx
      cases hj : indexOf d xs with
      | none => simp [hj] at h
      | some j =>
        simp only [hj, Option.map_some, Option.some.injEq] at h
        subst h
        obtain ⟨e1, e2⟩ := ih j hj
        refine ⟨?_, ?_⟩
        · simp only [List.take_succ_cons, List.drop_succ_cons, List.cons_append]
          rw [← e1]
        · simp only [List.take_succ_cons, List.mem_cons, not_or]
          exact ⟨fun e => hx e.symm, e2⟩

theorem keyForm_spec {k : Bytes} (h : keyForm k = true) : DashForm k := by
  unfold keyForm at h
  cases hi : indexOf 45 k with
  | none => simp [hi] at h
  | some i =>
    simp only [hi] at h
    obtain ⟨e1, e2⟩ := indexOf_split 45 k i hi
    exact ⟨k.take i, k.drop (i + 1), e1, e2, by simpa using h⟩

/-- which histories diskpacked is specified on: received refs are of the form `name-digest` -/
def KeyOK : Op → Prop
  | .recv k _ => keyForm k = true
  | _ => True

instance (op : Op) : Decidable (KeyOK op) := by
  unfold KeyOK
  split <;> infer_instance

theorem kok_of_keyOK (op : Op) (h : KeyOK op) : op.KOK (fun k => keyForm k = true) := by
  cases op <;> exact h

def Keyed (K : Bytes → Prop) (st : Store) : Prop := ∀ k m, st.index.get k = some m → K k

theorem keyed_init (K : Bytes → Prop) (max : Nat) : Keyed K (Store.init max) :=
  fun _ _ h => nomatch h

theorem keyed_append {K : Bytes → Prop} {st : Store} (hf : Keyed K st) (k v : Bytes) (hk : K k) :
    Keyed K (st.append k v) := by
  intro k2 m2 hg
  rcases get_iset_some (show (st.index.set k _).get k2 = some m2 from hg) with ⟨hk2, _⟩ | ⟨_, g⟩
  · rw [hk2]; exact hk
  · exact hf k2 m2 g

theorem keyed_remove {K : Bytes → Prop} {st : Store} (hf : Keyed K st) (k : Bytes) :
    Keyed K (st.remove [k]) := by
  intro k2 m2 hg
  rw [remove_one, get_idel] at hg
  split at hg
  · cases hg
  · exact hf k2 m2 hg

theorem keyed_step {K : Bytes → Prop} {st : Store} (hf : Keyed K st) (op : Op) (hk : op.KOK K) :
    Keyed K (step st op).1 := by
  cases op with
  | recv k v =>
    rcases receive_eq_or st k v with e | e <;> simp only [step, e]
    · exact hf
    · exact keyed_append hf k v hk
  | rm k => exact keyed_remove hf k
  | fetch _ | stat _ | enum _ _ => exact hf

/-- `RemoveBlobs [k]` does not fail: the header of an indexed blob is where `delete` looks for it -/
theorem rmOut_ok {content : Bytes → Bytes} {st : Store} (h : Inv content st) (k : Bytes)
    (hk : ∀ m, st.index.get k = some m → keyForm k = true) : rmOut st k = .ok := by
  unfold rmOut
  cases hm : st.index.get k with
  | none => rfl
  | some m =>
    obtain ⟨name, dg, rfl, h1, h2⟩ := keyForm_spec (hk m hm)
    obtain ⟨f, off, sz⟩ := m
    obtain ⟨p, pre, post, hp, _, _, _, hdel⟩ := deleteHeaderAt_row h h1 h2 hm
    simp only [hp, hdel, Option.isSome_some, if_true]

theorem good_abs {content : Bytes → Bytes} {st : Store} (h : Inv content st) :
    Good content (absOf st) := by
  refine ⟨by rw [abs_eq_mapK h]; exact kasc_mapK _ h.asc, ?_⟩
  intro k v hg
  rw [get_abs h] at hg
  cases hm : st.index.get k with
  | none => rw [hm] at hg; cases hg
  | some m =>
    rw [hm] at hg
    cases hg
    exact ⟨rfl, (h.row k m hm).1⟩

/-- for arbitrary non-empty key texts (no `KeyOK`): the abstraction commutes with every step, the
invariant is kept, and every answer other than remove's is the reference map's -/
theorem diskpacked_step_anykey (content : Bytes → Bytes) (st : Store) (h : Inv content st)
    (op : Op) (hop : op.WK content) :
    absOf (step st op).1 = next (absOf st) op ∧ Inv content (step st op).1 ∧
    ((∀ k, op ≠ .rm k) → (step st op).2 = out (absOf st) op) := by
  cases op with
  | recv k v =>
    obtain ⟨hv, hk⟩ := hop
    simp only [step, out, next, has_abs h]
    cases hm : st.index.get k with
    | some m =>
      rw [receive_dup h hm]
      exact ⟨rfl, h, fun _ => trivial⟩
    | none =>
      rw [receive_new hm]
      have hi := inv_append h k v hv hk
      refine ⟨?_, hi, fun _ => trivial⟩
      rw [abs_eq_mapK hi, show (st.append k v).index = st.index.set k _ from rfl, iset_eq, mapK_ins,
        abs_eq_mapK h, hv]
      rfl
  | fetch k =>
    simp only [step, out, next, get_abs h]
    refine ⟨trivial, h, fun _ => ?_⟩
    unfold fetchOut Store.fetch
    cases hm : st.index.get k with
    | none => rfl
    | some m =>
      obtain ⟨_, h2, _, p, hp, _, he, _⟩ := h.row k m hm
      simp only [hp, he, Option.map_some]
      rw [if_pos h2.symm]
  | stat k =>
    simp only [step, out, next, get_abs h]
    refine ⟨trivial, h, fun _ => ?_⟩
    unfold statOut Store.stat
    cases hm : st.index.get k with
    | none => rfl
    | some m => simp only [Option.map_some, (h.row k m hm).2.1]
  | rm k =>
    simp only [step, next]
    have hi := inv_remove h k
    refine ⟨?_, hi, fun hne => absurd rfl (hne k)⟩
    rw [abs_eq_mapK hi, abs_eq_mapK h, remove_one, idel_eq h.asc, mapK_del]
  | enum after limit =>
    simp only [step, out, next, enumerate_eq h]
    exact ⟨trivial, h, fun _ => trivial⟩

/-- **diskpacked refines the reference map under any key predicate `K` that implies `keyForm`**, for
every `maxFileSize` (also one smaller than any header: then every append rolls over); fetch / stat /
remove / enumerate arguments are arbitrary.  The invariant is `Inv` plus "every indexed key satisfies
`K`" -/
def diskpackedRefinesK (max : Nat) (content : Bytes → Bytes) (K : Bytes → Prop)
    (hK : ∀ k, K k → keyForm k = true) : RefinesK content K (diskpackedImpl max) where
  abs := absOf
  Inv := fun st => Inv content st ∧ Keyed K st
  init_inv := ⟨inv_init content max, keyed_init K max⟩
  init_abs := rfl
  good := fun _ h => good_abs h.1
  keys := by
    intro (st : Store) ⟨(h : Inv content st), (hf : Keyed K st)⟩ k v hg
    rw [get_abs h] at hg
    cases hm : st.index.get k with
    | none => rw [hm] at hg; cases hg
    | some m => exact hf k m hm
  step_ok := by
    intro (st : Store) op ⟨(h : Inv content st), (hf : Keyed K st)⟩ hop hkey
    obtain ⟨ha, hi, ho⟩ := diskpacked_step_anykey content st h op hop
    refine ⟨?_, ha, hi, keyed_step hf op hkey⟩
    cases op with
    | rm k => exact rmOut_ok h k fun m hm => hK k (hf k m hm)
    | recv _ _ | fetch _ | stat _ | enum _ _ => exact ho nofun

def diskpackedRefines (max : Nat) (content : Bytes → Bytes) :
    RefinesOn content (diskpackedImpl max) KeyOK :=
  (diskpackedRefinesK max content (fun k => keyForm k = true) (fun _ h => h)).toOn kok_of_keyOK

/-- on every well-keyed history with refs of the form `name-digest`, diskpacked answers exactly as the
reference map -/
theorem diskpacked_run_eq (max : Nat) (content : Bytes → Bytes) (ops : List Op)
    (hwk : ∀ op ∈ ops, op.WK content) (hk : ∀ op ∈ ops, KeyOK op) :
    (diskpackedImpl max).run (diskpackedImpl max).init ops = RefMap.run [] ops :=
  (diskpackedRefines max content).run_init ops hwk hk

/-- outside `KeyOK`: a key text without `-` (no `blob.Ref` prints like that).  The blob is stored and
served, but `delete` cannot rewrite its header ("cannot find dash in ref") and `RemoveBlobs` answers
with that error – after having removed the row all the same. -/
theorem diskpacked_nodash_counterexample :
    (diskpackedImpl 0).run (diskpackedImpl 0).init [.recv [97, 98] [1], .rm [97, 98], .fetch [97, 98]] =
      [.sized 1, .err, .notExist] ∧
    RefMap.run [] [.recv [97, 98] [1], .rm [97, 98], .fetch [97, 98]] = [.sized 1, .ok, .notExist] ∧
    ¬ KeyOK (.recv [97, 98] [1]) := by
  decide +kernel

end Pk.DiskPacked

namespace Pk.Files
open Pk Pk.Ref Pk.Pack

/-- every key the file-per-blob store accepts (`SupK`: the text parses and its hash is supported) has
the form diskpacked's `delete` relies on: a `-`, and no space after the first one -/
theorem supK_keyForm {t : Tbl} (ht : TblOK t) {k : Bytes} (h : SupK t k) :
    Pk.DiskPacked.keyForm k = true := by
  obtain ⟨nm, hx, rfl, hnd, hge⟩ := supK_form ht.1 h
  have hdrop : (nm ++ 45 :: hx).drop (nm.length + 1) = hx := by
    rw [← List.singleton_append, ← List.append_assoc]
    exact List.drop_left' (by simp)
  simp only [Pk.DiskPacked.keyForm, indexOf_append_hit 45 nm hx hnd, hdrop, Bool.not_eq_true',
    List.contains_eq_mem, decide_eq_false_iff_not]
  exact fun hm => absurd (hge 32 hm) (by decide)

theorem supK_ne_nil {t : Tbl} (ht : t.WF) {k : Bytes} (h : SupK t k) : k ≠ [] := by
  obtain ⟨nm, hx, hk, _, _⟩ := supK_form ht h
  subst hk; simp

end Pk.Files
