import PkVerif.Lemmas.EncryptInv
/-!
# A toy instance of the encrypt store's parameters (C11)

Shows that the hypotheses of the C11 theorems (`AEAD`'s law fields, `Ideal`) are jointly satisfiable,
and provides the concrete states of the `example`s and counterexamples.  Digest: `x` followed by the hex
of the bytes (injective, and a text without `/` and newline).
-/
namespace Pk.Encrypt
open Pk Pk.SMap

def toyDigest (b : Bytes) : Bytes := 120 :: hexEnc b

/-- `small`/`full` are parameters: tiny ones make compaction happen after two receives -/
def toyP (small full : Nat) : Params where
  A := toyAEAD
  key := [107]
  digest := toyDigest
  parseKnown := fun _ => true
  parseValid := fun _ => true
  version := 2
  full := full
  small := small

theorem hexEnc_no (c : Nat) (hc : c < 48) (b : Bytes) : c ∉ hexEnc b :=
  fun hm => absurd (hexEnc_ge b c hm) (Nat.not_le.mpr hc)

theorem eq_of_limb {x y : Nat} (hm : x % 256 = y % 256) (hd : x / 256 = y / 256) : x = y := by
  rw [← Nat.div_add_mod x 256, ← Nat.div_add_mod y 256, hm, hd]

/-- the four limbs `toyEnc` writes determine the randomness -/
theorem toy_nonce_visible (k : Bytes) (r r' : Nat) (p p' : Bytes) (h : toyEnc k r p = toyEnc k r' p') : r = r' := by
  simp only [toyEnc, List.cons.injEq, true_and] at h
  have h := List.append_cancel_left h
  simp only [List.cons.injEq] at h
  obtain ⟨h0, h1, h2, h3, _⟩ := h
  have e2 (r : Nat) : r / 65536 = r / 256 / 256 := (Nat.div_div_eq_div_mul r 256 256).symm
  have e3 (r : Nat) : r / 16777216 = r / 256 / 256 / 256 := by rw [Nat.div_div_eq_div_mul, Nat.div_div_eq_div_mul]
  rw [e2 r, e2 r'] at h2
  rw [e3 r, e3 r'] at h3
  exact eq_of_limb h0 (eq_of_limb h1 (eq_of_limb h2 h3))

theorem toy_ideal (small full : Nat) : Ideal (toyP small full) where
  digest_inj := by
    intro a b h
    simp only [toyP, toyDigest, List.cons.injEq, true_and] at h
    exact hexEnc_inj a b h
  nonce_visible := fun k r r' p p' h => toy_nonce_visible k r r' p p' h
  ref_known := fun _ => rfl
  ref_valid := fun _ => rfl
  ref_nosep := by
    intro b
    refine ⟨?_, ?_⟩
    · show 47 ∉ 120 :: hexEnc b
      simp only [List.mem_cons, not_or]; exact ⟨by decide, hexEnc_no 47 (by decide) b⟩
    · show 10 ∉ 120 :: hexEnc b
      simp only [List.mem_cons, not_or]; exact ⟨by decide, hexEnc_no 10 (by decide) b⟩

/-! ## concrete states used by the examples of `Props/C11.lean` -/

/-- two blobs received with thresholds `small = 1`: the second receive starts a packer -/
def demo2 : St := recvAll (toyP 1 10) (recvAll (toyP 1 10) {} [1, 2, 3]) [4, 5]

/-- a micro-step of ReceiveBlob leads from reachable states to reachable states (with no receive in flight
it does nothing) -/
theorem reach_recvStep {P : Params} {s : St} (hs : Reach P goodR goodP s) (hfi : s.failIndex = 0) :
    Reach P goodR goodP (recvStep P goodP s) := by
  cases hx : s.recv with
  | none =>
    have e : recvStep P goodP s = s := by unfold recvStep; rw [hx]
    rw [e]; exact hs
  | some x => exact .step _ _ hs (.recvStep s (by rw [hx]; exact Option.some_ne_none x) hfi)

theorem reach_recvAll (P : Params) (s : St) (plain : Bytes) (hs : Reach P goodR goodP s) (h0 : s.recv = none)
    (hl : plain.length < 4294967296) (hfi : s.failIndex = 0)
    (hb : (recvBegin P goodR s (P.digest plain) plain).2 = none) :
    Reach P goodR goodP (recvAll P s plain) ∧ (recvAll P s plain).failIndex = 0 := by
  have r0 : Reach P goodR goodP (recvBegin P goodR s (P.digest plain) plain).1 :=
    .step s _ hs (.recvBegin s _ plain _ h0 hl (Prod.ext rfl hb))
  have g0 : (recvBegin P goodR s (P.digest plain) plain).1.failIndex = 0 := by
    rw [recvBegin_failIndex]; exact hfi
  have g1 := recvStep_failIndex (P := P) _ g0
  have g2 := recvStep_failIndex (P := P) _ g1
  have g3 := recvStep_failIndex (P := P) _ g2
  have g4 := recvStep_failIndex (P := P) _ g3
  exact ⟨reach_recvStep (reach_recvStep (reach_recvStep (reach_recvStep (reach_recvStep r0 g0) g1) g2) g3) g4,
    recvStep_failIndex _ g4⟩

theorem demo2_reach : Reach (toyP 1 10) goodR goodP demo2 :=
  have r1 := reach_recvAll (toyP 1 10) {} [1, 2, 3] .init rfl (by decide) rfl (by decide)
  (reach_recvAll _ _ [4, 5] r1.1 (by decide +kernel) (by decide) r1.2 (by decide +kernel)).1

/-- the plaintext of a data blob that reads like a meta blob: `victim ↦ size/enc` -/
def lookalike (victim : Bytes) (size : Nat) (enc : Bytes) : Bytes := fmtMeta [(victim, packIndexEntry size enc)]

/-- V, W and a look-alike `V ↦ |V|/enc(W)` are received; the content of V's meta blob is then replaced by
the stored CIPHERTEXT of the look-alike (a blob-for-blob substitution inside the wrapped stores) -/
def attackState : St :=
  let P := toyP 100 10000
  let s1 := recvAll P {} [86, 86, 86]
  let s2 := recvAll P s1 [87, 87, 87, 87]
  let encW := (s2.blobs.map (·.1)).filter (fun n => n ≠ (s1.blobs.map (·.1)).headD [])
  let s3 := recvAll P s2 (lookalike (toyDigest [86, 86, 86]) 3 (encW.headD []))
  let encL := ((s3.blobs.filter (fun kv => !(s2.blobs.map (·.1)).contains kv.1)).map (·.2)).headD []
  let mV := (s1.metas.map (·.1)).headD []
  { s3 with metas := ins mV encL s3.metas }

/-- mid-compaction: the packer of `demo2` has uploaded the packed meta blob and not yet removed the small
ones (three meta blobs lie in the store) -/
def demo2mid : St := stepJob (toyP 1 10) goodP demo2 0

end Pk.Encrypt
