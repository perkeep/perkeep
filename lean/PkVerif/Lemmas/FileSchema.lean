import PkVerif.Model.FileSchema
/-! Lemmas for C15.  Reader: by induction on the nesting depth, each `readOnce` returns the next bytes of the
denotation.  Writer: the chunker loop keeps `Inv` (through `advance` and `cut`), the tree builder `PartsOK`.
Static sets: spreading and merging are inverse for every limit ≥ 3. -/
namespace Pk.FS
open Pk

theorem slice_nil_of_le (b : Bytes) (off n : Nat) (h : b.length ≤ off) : slice b off n = [] := by
  unfold slice; rw [List.drop_eq_nil_of_le h]; simp

theorem slice_length (b : Bytes) (off n : Nat) : (slice b off n).length = min n (b.length - off) := by
  unfold slice; simp

theorem slice_zero (b : Bytes) (off : Nat) : slice b off 0 = [] := by unfold slice; simp

theorem slice_append_slice (b : Bytes) (off k n : Nat) (hk : k ≤ n) :
    slice b off k ++ slice b (off + k) (n - k) = slice b off n := by
  unfold slice
  have : n = k + (n - k) := (Nat.add_sub_cancel' hk).symm
  conv => rhs; rw [this, List.take_add]
  rw [List.drop_drop]

theorem slice_slice (l : Bytes) (o s r k : Nat) (hk : k ≤ s - r) :
    ((slice l o s).drop r).take k = slice l (r + o) k := by
  unfold slice
  rw [List.drop_take, List.take_take, List.drop_drop, Nat.min_eq_left hk, Nat.add_comm]

theorem slice_full (b : Bytes) (n : Nat) (h : b.length ≤ n) : slice b 0 n = b := by
  unfold slice; simp [List.take_of_length_le h]

theorem slice_clamp (b : Bytes) (off n : Nat) : slice b off (min n (b.length - off)) = slice b off n := by
  rw [slice, slice, ← List.length_drop, ← List.take_eq_take_min]

mutual
theorem Part.denote_length : (p : Part) → p.wf = true → p.denote.length = p.size
  | .hole s, _ => List.length_replicate
  | .blob d o s, h => by
    simp only [Part.wf, decide_eq_true_eq] at h
    rw [Part.denote, Part.size, slice_length, Nat.min_eq_left (Nat.le_sub_of_add_le' h)]
  | .bytes sub o s, h => by
    simp only [Part.wf, Bool.and_eq_true, decide_eq_true_eq] at h
    rw [Part.denote, Part.size, slice_length, denoteL_length sub h.1, Nat.min_eq_left (Nat.le_sub_of_add_le' h.2)]
  | .both _, h => by simp [Part.wf] at h
theorem denoteL_length : (ps : List Part) → wfL ps = true → (denoteL ps).length = sumPartsSize ps
  | [], _ => rfl
  | p :: ps, h => by
    simp only [wfL, Bool.and_eq_true] at h
    rw [denoteL, List.length_append, sumPartsSize, Part.denote_length p h.1, denoteL_length ps h.2]
end

theorem wfL_mem {ps : List Part} (h : wfL ps = true) {p : Part} (hp : p ∈ ps) : p.wf = true := by
  induction ps with
  | nil => cases hp
  | cons q qs ih =>
    simp only [wfL, Bool.and_eq_true] at h
    rcases List.mem_cons.1 hp with rfl | hq
    · exact h.1
    · exact ih h.2 hq

theorem depth_le_of_mem {ps : List Part} {p : Part} (hp : p ∈ ps) : p.depth ≤ depthL ps := by
  induction ps with
  | nil => cases hp
  | cons q qs ih =>
    simp only [depthL]
    rcases List.mem_cons.1 hp with rfl | hq
    · exact Nat.le_max_left _ _
    · exact Nat.le_trans (ih hq) (Nat.le_max_right _ _)

theorem skipParts_spec (ps : List Part) (off : Nat) (hwf : wfL ps = true) (h : off < sumPartsSize ps) :
    ∃ p0 r rest, skipParts ps off = some (p0, r) ∧ r < p0.size ∧ p0 ∈ ps ∧
      (denoteL ps).drop off = p0.denote.drop r ++ rest := by
  induction ps generalizing off with
  | nil => simp [sumPartsSize] at h
  | cons p ps ih =>
    simp only [wfL, Bool.and_eq_true] at hwf
    have hlen := Part.denote_length p hwf.1
    simp only [sumPartsSize] at h
    simp only [skipParts, denoteL]
    split
    · rename_i hle
      obtain ⟨p0, r, rest, h1, h2, h3, h4⟩ := ih (off - p.size) hwf.2 (Nat.sub_lt_left_of_lt_add hle h)
      exact ⟨p0, r, rest, h1, h2, List.mem_cons_of_mem _ h3, by
        rw [List.drop_append, List.drop_eq_nil_of_le (hlen ▸ hle), hlen, List.nil_append, h4]⟩
    · rename_i hlt
      exact ⟨p, off, denoteL ps, rfl, Nat.lt_of_not_le hlt, List.mem_cons_self,
        List.drop_append_of_le_length (hlen ▸ Nat.le_of_lt (Nat.lt_of_not_le hlt))⟩

/-- status of a read of `want` bytes at `off` in a file of `size` bytes -/
def readStatus (size off want : Nat) : RErr :=
  if size ≤ off then .eof else if size < off + want then .unexpectedEOF else .nil

/-- the sub-readers agree with the denotation (what the induction on the depth provides) -/
def SubOK (rd : List Part → Nat → Nat → Bytes × RErr) (ps : List Part) : Prop :=
  ∀ sub o s, Part.bytes sub o s ∈ ps → ∀ pos k, (rd sub pos k).1 = slice (denoteL sub) pos k

theorem min_lt_self_iff {a b : Nat} : min a b < a ↔ b < a := by
  rw [Nat.min_def]
  split
  · rename_i h
    exact ⟨fun h' => absurd h' (Nat.lt_irrefl a), fun h' => absurd h (Nat.not_le.mpr h')⟩
  · exact Iff.rfl

/-- what is left of a window `[o, o + s)` after `r` bytes lies within what is left of its referent -/
theorem bytes_left {o s r n : Nat} (h : o + s ≤ n) : s - r ≤ n - (r + o) := by
  rw [Nat.add_comm r o, Nat.sub_add_eq]; exact Nat.sub_le_sub_right (Nat.le_sub_of_add_le' h) r

section reader
variable {rd : List Part → Nat → Nat → Bytes × RErr} {ps : List Part}

/-- one `readerForOffset` + `ReadFull` inside the file returns the next `k > 0` bytes of the file: as many
as are wanted and the part that holds `off` has left -/
theorem readOnce_spec (hwf : wfL ps = true) (hrd : SubOK rd ps) {off want : Nat}
    (hoff : off < sumPartsSize ps) (hw : 0 < want) :
    ∃ k, 0 < k ∧ k ≤ want ∧ off + k ≤ sumPartsSize ps ∧
      readOnce false rd ps off want = .ok (slice (denoteL ps) off k) := by
  obtain ⟨p0, r, rest, h1, h2, h3, h4⟩ := skipParts_spec ps off hwf hoff
  have hp0 := wfL_mem hwf h3
  have hl0 := Part.denote_length p0 hp0
  -- taking lengths in `h4`: what the part has left lies within the file
  have hsum : off + (p0.size - r) ≤ sumPartsSize ps := by
    have := congrArg List.length h4
    rw [List.length_drop, List.length_append, List.length_drop, denoteL_length ps hwf, hl0] at this
    exact Nat.add_le_of_le_sub' (Nat.le_of_lt hoff) (this ▸ Nat.le_add_right _ _)
  have hk2 : min want (p0.size - r) ≤ p0.size - r := Nat.min_le_right _ _
  refine ⟨min want (p0.size - r), Nat.lt_min.mpr ⟨hw, Nat.sub_pos_of_lt h2⟩, Nat.min_le_left _ _,
    Nat.le_trans (Nat.add_le_add_left hk2 off) hsum, ?_⟩
  rw [slice, h4, List.take_append_of_le_length (by rw [List.length_drop, hl0]; exact hk2),
    readOnce, if_neg (Nat.not_le.mpr hoff), h1]
  -- what is read from the part is `min want (size - r)` bytes of its denotation from `r` on
  cases p0 with
  | both s => cases hp0
  | hole s =>
    simp only [Part.denote, Part.size, List.drop_replicate, List.take_replicate, Nat.min_assoc, Nat.min_self]
  | blob d o s =>
    simp only [Part.size] at hk2
    simp only [Part.denote, Part.size, slice_slice _ _ _ _ _ hk2]; rfl
  | bytes sub o s =>
    simp only [Part.size] at h2 hk2
    simp only [Part.wf, Bool.and_eq_true, decide_eq_true_eq] at hp0
    simp only [Part.denote, Part.size, slice_slice _ _ _ _ _ hk2, Bool.false_eq_true, if_false,
      if_neg (Nat.not_le.mpr (Nat.lt_of_lt_of_le (Nat.add_lt_add_right h2 o) (Nat.add_comm o s ▸ hp0.2))),
      hrd sub o s h3]
    rw [Nat.min_eq_left (Nat.le_trans hk2 (bytes_left hp0.2))]

theorem readLoop_spec (hwf : wfL ps = true) (hrd : SubOK rd ps) (fuel off rem : Nat) (acc : Bytes)
    (h : rem ≤ fuel) :
    readLoop false rd ps fuel off rem acc = (acc ++ slice (denoteL ps) off rem, none) := by
  induction fuel generalizing off rem acc with
  | zero => rw [Nat.le_zero.mp h, slice_zero, List.append_nil]; rfl
  | succ fuel ih =>
    rw [readLoop]
    by_cases h0 : rem = 0
    · rw [if_pos h0, h0, slice_zero, List.append_nil]
    · rw [if_neg h0]
      by_cases hoff : sumPartsSize ps ≤ off
      · rw [readOnce, if_pos hoff, slice_nil_of_le _ _ _ (by rw [denoteL_length ps hwf]; exact hoff),
          List.append_nil]
        rfl
      · obtain ⟨k, hk0, hk1, hk2, hk⟩ := readOnce_spec hwf hrd (Nat.not_le.mp hoff) (Nat.pos_of_ne_zero h0)
        have hlen : (slice (denoteL ps) off k).length = k := by
          rw [slice_length, denoteL_length ps hwf, Nat.min_eq_left (Nat.le_sub_of_add_le' hk2)]
        rw [hk]
        simp only [hlen, if_neg (Nat.ne_of_gt hk0)]
        rw [ih (off + k) (rem - k) _ (Nat.sub_le_iff_le_add.mpr (Nat.le_trans h (Nat.add_le_add_left hk0 fuel))),
          List.append_assoc, slice_append_slice _ _ _ _ hk1]

theorem readAtWith_spec (hwf : wfL ps = true) (hrd : SubOK rd ps) (off want : Nat) :
    readAtWith false rd ps off want
      = (slice (denoteL ps) off want, readStatus (sumPartsSize ps) off want) := by
  rw [readAtWith, readStatus]
  by_cases hoff : sumPartsSize ps ≤ off
  · rw [if_pos hoff, if_pos hoff, slice_nil_of_le _ _ _ (by rw [denoteL_length ps hwf]; exact hoff)]
  · rw [if_neg hoff, if_neg hoff]
    -- `got.length = min want (size - off)`; it is `< want` iff `size < off + want`
    have hst : (min want (sumPartsSize ps - off) < want) = (sumPartsSize ps < off + want) :=
      propext (min_lt_self_iff.trans (Nat.sub_lt_iff_lt_add' (Nat.le_of_lt (Nat.lt_of_not_le hoff))))
    rw [readLoop_spec hwf hrd want off want [] (Nat.le_refl _)]
    simp only [List.nil_append, slice_length, denoteL_length ps hwf, hst]
    split <;> rfl

end reader

theorem sub_of_mem {ps sub : List Part} {o s : Nat} (hwf : wfL ps = true) (hm : Part.bytes sub o s ∈ ps) :
    wfL sub = true ∧ depthL sub < depthL ps := by
  have h1 := depth_le_of_mem hm
  have h2 := wfL_mem hwf hm
  simp only [Part.depth] at h1
  simp only [Part.wf, Bool.and_eq_true] at h2
  exact ⟨h2.1, h1⟩

theorem readAtD_spec (d : Nat) (ps : List Part) (hwf : wfL ps = true) (hd : depthL ps ≤ d) (off want : Nat) :
    readAtD false d ps off want = (slice (denoteL ps) off want, readStatus (sumPartsSize ps) off want) := by
  induction d generalizing ps off want with
  | zero => exact readAtWith_spec hwf (fun sub o s hm => by have := (sub_of_mem hwf hm).2; omega) off want
  | succ d ih =>
    exact readAtWith_spec hwf (fun sub o s hm pos k => by
      have := sub_of_mem hwf hm
      rw [ih sub this.1 (by omega)]) off want

mutual
/-- every bytesRef part covers its whole referent (what the writer produces) -/
def Part.full : Part → Bool
  | .bytes sub o s => decide (o = 0) && decide (s = sumPartsSize sub) && fullL sub
  | _ => true
def fullL : List Part → Bool
  | [] => true
  | p :: ps => p.full && fullL ps
end

/-- a function on lists given by `f [] = e`, `f (x :: xs) = op (h x) (f xs)` over a monoid `(op, e)` takes
`++` to `op`; the list functions of the model are all of this kind -/
theorem append_of_cons {α β : Type} (f : List α → β) (op : β → β → β) (h : α → β) (e : β)
    (hnil : f [] = e) (hcons : ∀ x xs, f (x :: xs) = op (h x) (f xs)) (hid : ∀ y, op e y = y)
    (hassoc : ∀ x y z, op (op x y) z = op x (op y z)) (a b : List α) : f (a ++ b) = op (f a) (f b) := by
  induction a with
  | nil => rw [List.nil_append, hnil, hid]
  | cons x xs ih => rw [List.cons_append, hcons, hcons, ih, hassoc]

theorem denoteL_append (a b : List Part) : denoteL (a ++ b) = denoteL a ++ denoteL b :=
  append_of_cons denoteL (· ++ ·) Part.denote [] rfl (fun _ _ => rfl) List.nil_append List.append_assoc a b

theorem sumPartsSize_append (a b : List Part) : sumPartsSize (a ++ b) = sumPartsSize a + sumPartsSize b :=
  append_of_cons sumPartsSize (· + ·) Part.size 0 rfl (fun _ _ => rfl) Nat.zero_add Nat.add_assoc a b

theorem fullL_append (a b : List Part) : fullL (a ++ b) = (fullL a && fullL b) :=
  append_of_cons fullL (· && ·) Part.full true rfl (fun _ _ => rfl) Bool.true_and Bool.and_assoc a b

theorem wfL_append (a b : List Part) : wfL (a ++ b) = (wfL a && wfL b) :=
  append_of_cons wfL (· && ·) Part.wf true rfl (fun _ _ => rfl) Bool.true_and Bool.and_assoc a b

mutual
theorem foreachPart_spec : (p : Part) → p.wf = true → p.full = true →
    (foreachPart p).2 = none ∧ denoteL (foreachPart p).1 = p.denote
  | .hole s, _, _ => by simp [foreachPart, denoteL]
  | .blob d o s, _, _ => by simp [foreachPart, denoteL]
  | .both _, h, _ => by simp [Part.wf] at h
  | .bytes sub o s, h, hf => by
    simp only [Part.wf, Bool.and_eq_true, decide_eq_true_eq] at h
    simp only [Part.full, Bool.and_eq_true, decide_eq_true_eq] at hf
    obtain ⟨⟨rfl, rfl⟩, hf3⟩ := hf
    have ih := foreachChunk_spec sub h.1 hf3
    simp only [foreachPart, Part.denote]
    refine ⟨ih.1, ?_⟩
    rw [ih.2, slice_full _ _ (by rw [denoteL_length sub h.1]; exact Nat.le_refl _)]
theorem foreachChunk_spec : (ps : List Part) → wfL ps = true → fullL ps = true →
    (foreachChunk ps).2 = none ∧ denoteL (foreachChunk ps).1 = denoteL ps
  | [], _, _ => by simp [foreachChunk]
  | p :: ps, h, hf => by
    simp only [wfL, Bool.and_eq_true] at h
    simp only [fullL, Bool.and_eq_true] at hf
    have h1 := foreachPart_spec p h.1 hf.1
    have h2 := foreachChunk_spec ps h.2 hf.2
    unfold foreachChunk
    rcases hp : foreachPart p with ⟨cs, e⟩
    rw [hp] at h1
    simp only at h1
    obtain ⟨rfl, h1b⟩ := h1
    rcases hq : foreachChunk ps with ⟨cs2, e2⟩
    rw [hq] at h2
    simp only at h2
    obtain ⟨rfl, h2b⟩ := h2
    simp [denoteL_append, h1b, h2b, denoteL]
end

mutual
/-- the chunks below a span in upload (= content) order: children first, then its own -/
def Span.chunks : Span → List Bytes
  | .mk _ _ _ br ch => chunksL ch ++ [br]
def chunksL : List Span → List Bytes
  | [] => []
  | s :: ss => s.chunks ++ chunksL ss
end

mutual
/-- a span is non-empty and its chunk has `to - from` bytes, recursively -/
def Span.good : Span → Bool
  | .mk f t _ br ch => decide (f < t) && decide (br.length = t - f) && goodL ch
def goodL : List Span → Bool
  | [] => true
  | s :: ss => s.good && goodL ss
end

theorem chunksL_append (a b : List Span) : chunksL (a ++ b) = chunksL a ++ chunksL b :=
  append_of_cons chunksL (· ++ ·) Span.chunks [] rfl (fun _ _ => rfl) List.nil_append List.append_assoc a b

theorem sizeL_append (a b : List Span) : sizeL (a ++ b) = sizeL a + sizeL b :=
  append_of_cons sizeL (· + ·) Span.size 0 rfl (fun _ _ => rfl) Nat.zero_add Nat.add_assoc a b

theorem goodL_append (a b : List Span) : goodL (a ++ b) = (goodL a && goodL b) :=
  append_of_cons goodL (· && ·) Span.good true rfl (fun _ _ => rfl) Bool.true_and Bool.and_assoc a b

theorem reverse_split (p : Span → Bool) (l : List Span) :
    l.reverse = (l.dropWhile p).reverse ++ (l.takeWhile p).reverse := by
  rw [← List.reverse_append, List.takeWhile_append_dropWhile]

/-- invariant of the loop of `writeFileChunks` after the bytes `bs` were consumed -/
structure Inv (s : WState) (bs : Bytes) : Prop where
  content : (chunksL s.rspans.reverse).flatten ++ s.rbuf.reverse = bs
  n_eq : s.n = bs.length
  last_eq : s.last + s.blobSize = s.n
  buf_len : s.rbuf.length = s.blobSize
  size_eq : sizeL s.rspans.reverse = s.last
  good : goodL s.rspans.reverse = true
  uploads : s.ruploads.reverse = chunksL s.rspans.reverse

theorem Inv.init : Inv {} [] := by
  constructor <;> simp [chunksL, sizeL, goodL]

def WState.advance (s : WState) (i : In) : WState :=
  { s with n := s.n + 1, blobSize := s.blobSize + 1, rbuf := i.byte :: s.rbuf }

/-- the buffer becomes a chunk: uploaded, and its span pushed with `children` popped off the spans `rest` -/
def WState.cut (s : WState) (bits : Nat) (children rest : List Span) : WState :=
  { n := s.n, last := s.n, blobSize := 0, rbuf := [],
    rspans := Span.mk s.last s.n bits s.rbuf.reverse children :: rest,
    ruploads := s.rbuf.reverse :: s.ruploads }

theorem step_eq (c : Cfg) (s : WState) (i : In) :
    step c s i = match splitBits c (s.n + 1) (s.blobSize + 1) i with
      | none => s.advance i
      | some bits => (s.advance i).cut bits (s.rspans.takeWhile (fun sp => decide (sp.bits < bits))).reverse
          (s.rspans.dropWhile (fun sp => decide (sp.bits < bits))) := by
  unfold step; dsimp only
  cases splitBits c (s.n + 1) (s.blobSize + 1) i <;> rfl

theorem Inv.advance {s : WState} {bs : Bytes} (h : Inv s bs) (i : In) : Inv (s.advance i) (bs ++ [i.byte]) where
  content := by simp only [WState.advance, List.reverse_cons, ← List.append_assoc, h.content]
  n_eq := by simp only [WState.advance, List.length_append, List.length_singleton, h.n_eq]
  last_eq := by rw [WState.advance, ← Nat.add_assoc, h.last_eq]
  buf_len := by simp only [WState.advance, List.length_cons, h.buf_len]
  size_eq := h.size_eq
  good := h.good
  uploads := h.uploads

theorem push_span (rspans rest children : List Span) (hsplit : rspans.reverse = rest.reverse ++ children)
    (f t bits : Nat) (chunk : Bytes) :
    chunksL (Span.mk f t bits chunk children :: rest).reverse = chunksL rspans.reverse ++ [chunk] ∧
    sizeL (Span.mk f t bits chunk children :: rest).reverse = sizeL rspans.reverse + (t - f) ∧
    goodL (Span.mk f t bits chunk children :: rest).reverse =
      (goodL rspans.reverse && (decide (f < t) && decide (chunk.length = t - f))) := by
  refine ⟨?_, ?_, ?_⟩ <;>
    simp only [hsplit, List.reverse_cons, chunksL_append, sizeL_append, goodL_append, chunksL, sizeL, goodL,
      Span.chunks, Span.size, Span.good, List.append_nil, List.append_assoc, Nat.add_zero, Bool.and_true]
  · rw [Nat.add_assoc, Nat.add_comm (t - f)]
  · rw [Bool.and_assoc (goodL rest.reverse), Bool.and_comm _ (goodL children)]

theorem Inv.cut {s : WState} {bs : Bytes} (h : Inv s bs) (hlt : s.last < s.n) (bits : Nat)
    (children rest : List Span) (hsplit : s.rspans.reverse = rest.reverse ++ children) :
    Inv (s.cut bits children rest) bs := by
  obtain ⟨hc, hs, hg⟩ := push_span s.rspans rest children hsplit s.last s.n bits s.rbuf.reverse
  have hl := h.last_eq
  have hb := h.buf_len
  exact {
    content := by
      simp only [WState.cut, hc, List.flatten_append, List.flatten_cons, List.flatten_nil, List.append_nil,
        List.reverse_nil, h.content]
    n_eq := h.n_eq
    last_eq := rfl
    buf_len := rfl
    size_eq := by rw [WState.cut, hs, h.size_eq]; exact Nat.add_sub_cancel' (Nat.le_of_lt hlt)
    good := by
      simp only [WState.cut, hg, h.good, Bool.true_and, Bool.and_eq_true, decide_eq_true_eq, List.length_reverse]
      exact ⟨hlt, hb.trans (Nat.eq_sub_of_add_eq' hl)⟩
    uploads := by
      show (s.rbuf.reverse :: s.ruploads).reverse = _
      rw [WState.cut, hc, List.reverse_cons, h.uploads] }

theorem step_inv (c : Cfg) (s : WState) (bs : Bytes) (i : In) (h : Inv s bs) :
    Inv (step c s i) (bs ++ [i.byte]) := by
  rw [step_eq]
  split
  · exact h.advance i
  · exact (h.advance i).cut (Nat.lt_succ_of_le (h.last_eq ▸ Nat.le_add_right _ _)) _ _ _
      (reverse_split _ s.rspans)

theorem foldl_step_inv (c : Cfg) : ∀ (input : List In) (s : WState) (bs : Bytes), Inv s bs →
    Inv (input.foldl (step c) s) (bs ++ input.map In.byte)
  | [], s, bs, h => by simpa using h
  | i :: rest, s, bs, h => by
    have := foldl_step_inv c rest (step c s i) (bs ++ [i.byte]) (step_inv c s bs i h)
    simpa [List.foldl_cons, List.append_assoc] using this

/-- after the EOF branch everything consumed is in spans -/
structure Fin (s : WState) (bs : Bytes) : Prop where
  content : (chunksL s.rspans.reverse).flatten = bs
  n_eq : s.n = bs.length
  size_eq : sizeL s.rspans.reverse = bs.length
  good : goodL s.rspans.reverse = true
  uploads : s.ruploads.reverse = chunksL s.rspans.reverse

theorem Inv.toFin {s : WState} {bs : Bytes} (h : Inv s bs) (hb : s.rbuf = []) : Fin s bs where
  content := by have := h.content; rwa [hb, List.reverse_nil, List.append_nil] at this
  n_eq := h.n_eq
  size_eq := by
    have hl := h.last_eq
    rw [← h.buf_len, hb, List.length_nil, Nat.add_zero] at hl
    rw [h.size_eq, hl, h.n_eq]
  good := h.good
  uploads := h.uploads

theorem finish_inv (s : WState) (bs : Bytes) (h : Inv s bs) : Fin (finish s) bs := by
  have hl : s.last ≤ s.n := h.last_eq ▸ Nat.le_add_right _ _
  unfold finish
  split
  · -- the EOF branch cuts the buffer into a last chunk; `Fin` does not look at what else `cut` resets
    rename_i hn
    have hf := (h.cut (Nat.lt_of_le_of_ne hl (Ne.symm hn)) 0 [] s.rspans (List.append_nil _).symm).toFin rfl
    exact ⟨hf.content, hf.n_eq, hf.size_eq, hf.good, hf.uploads⟩
  · rename_i hn
    have h0 := h.last_eq
    rw [Decidable.not_not.mp hn] at h0
    exact h.toFin (List.eq_nil_of_length_eq_zero (h.buf_len.trans (Nat.add_left_cancel (h0.trans (Nat.add_zero _).symm))))

theorem runChunker_fin (c : Cfg) (input : List In) : Fin (runChunker c input) (input.map In.byte) := by
  unfold runChunker
  have := foldl_step_inv c input {} [] Inv.init
  simp only [List.nil_append] at this
  exact finish_inv _ _ this

theorem splitBits_none_ne (c : Cfg) (n b : Nat) (i : In) (h : splitBits c n b i = none) :
    b ≠ c.maxBlobSize := by
  intro hb
  unfold splitBits at h
  simp [hb] at h

/-- no chunk, finished or in the making, exceeds the cap -/
structure Cap (c : Cfg) (s : WState) : Prop where
  cur : s.blobSize < c.maxBlobSize
  done : ∀ b ∈ chunksL s.rspans.reverse, b.length ≤ c.maxBlobSize

theorem cut_done (c : Cfg) {s : WState} {bs : Bytes} (h : Inv s bs) (hle : s.blobSize ≤ c.maxBlobSize)
    (hd : ∀ b ∈ chunksL s.rspans.reverse, b.length ≤ c.maxBlobSize) (bits : Nat)
    (children rest : List Span) (hsplit : s.rspans.reverse = rest.reverse ++ children) :
    ∀ b ∈ chunksL (s.cut bits children rest).rspans.reverse, b.length ≤ c.maxBlobSize := by
  intro b hbm
  rw [WState.cut, (push_span s.rspans rest children hsplit _ _ _ _).1] at hbm
  rcases List.mem_append.1 hbm with hm | hm
  · exact hd b hm
  · rw [List.mem_singleton.1 hm, List.length_reverse, h.buf_len]; exact hle

theorem step_cap (c : Cfg) (hpos : 0 < c.maxBlobSize) (s : WState) (bs : Bytes) (i : In)
    (h : Inv s bs) (hc : Cap c s) : Cap c (step c s i) := by
  rw [step_eq]
  split
  · rename_i hb
    exact ⟨Nat.lt_of_le_of_ne (Nat.succ_le_of_lt hc.cur) (splitBits_none_ne c _ _ i hb), hc.done⟩
  · exact ⟨hpos, cut_done c (h.advance i) hc.cur hc.done _ _ _ (reverse_split _ s.rspans)⟩

theorem foldl_step_cap (c : Cfg) (hpos : 0 < c.maxBlobSize) : ∀ (input : List In) (s : WState) (bs : Bytes),
    Inv s bs → Cap c s → Cap c (input.foldl (step c) s)
  | [], s, bs, _, hc => by simpa using hc
  | i :: rest, s, bs, h, hc => by
    simpa using foldl_step_cap c hpos rest (step c s i) (bs ++ [i.byte]) (step_inv c s bs i h)
      (step_cap c hpos s bs i h hc)

theorem finish_cap (c : Cfg) (s : WState) (bs : Bytes) (h : Inv s bs) (hc : Cap c s) :
    ∀ b ∈ chunksL (finish s).rspans.reverse, b.length ≤ c.maxBlobSize := by
  unfold finish
  split
  · exact cut_done c h (Nat.le_of_lt hc.cur) hc.done 0 [] s.rspans (List.append_nil _).symm
  · exact hc.done

theorem runChunker_cap (c : Cfg) (hpos : 0 < c.maxBlobSize) (input : List In) :
    ∀ b ∈ chunksL (runChunker c input).rspans.reverse, b.length ≤ c.maxBlobSize := by
  unfold runChunker
  have hi := foldl_step_inv c input {} [] Inv.init
  have hc := foldl_step_cap c hpos input {} [] Inv.init ⟨hpos, by simp [chunksL]⟩
  exact finish_cap c _ _ hi hc

/-- the object a part references -/
def Part.ref? : Part → Option Obj
  | .blob d _ _ => some (.chunk d)
  | .bytes sub _ _ => some (.bytes sub)
  | _ => none

/-- the objects a stored object references directly -/
def Obj.refs : Obj → List Obj
  | .chunk _ => []
  | .bytes ps => ps.filterMap Part.ref?
  | .file ps => ps.filterMap Part.ref?

/-- `K` = already stored; every object of the list references only what is stored before it -/
def Ordered (K : Obj → Prop) : List Obj → Prop
  | [] => True
  | o :: rest => (∀ r ∈ o.refs, K r) ∧ Ordered (fun x => K x ∨ x = o) rest

theorem Ordered_mono : ∀ (l : List Obj) (K K' : Obj → Prop), (∀ x, K x → K' x) → Ordered K l → Ordered K' l
  | [], _, _, _, _ => trivial
  | o :: rest, K, K', hk, h => by
    refine ⟨fun r hr => hk r (h.1 r hr), ?_⟩
    exact Ordered_mono rest _ _ (fun x hx => hx.elim (fun a => Or.inl (hk x a)) Or.inr) h.2

theorem Ordered_append : ∀ (a b : List Obj) (K : Obj → Prop), Ordered K a →
    Ordered (fun x => K x ∨ x ∈ a) b → Ordered K (a ++ b)
  | [], b, K, _, hb => Ordered_mono b _ _ (by grind) hb
  | o :: a, b, K, ha, hb => ⟨ha.1, Ordered_append a b _ ha.2 (Ordered_mono b _ _ (by grind) hb)⟩

theorem Ordered_prefix : ∀ (pre : List Obj) (K : Obj → Prop) (o : Obj) (post : List Obj),
    Ordered K (pre ++ o :: post) → ∀ r ∈ o.refs, K r ∨ r ∈ pre
  | [], K, o, post, h => fun r hr => Or.inl (h.1 r hr)
  | q :: pre, K, o, post, h => fun r hr => by
    have := Ordered_prefix pre _ o post h.2 r hr
    grind

/-- what `addBytesParts` returns for spans whose chunks are `chunks`: every part references a chunk or an
object of `ups` (`refs`), and `ups` is in an order in which each object references only chunks and objects
before it (`ordered`) -/
structure PartsOK (chunks : List Bytes) (parts : List Part) (ups : List Obj) : Prop where
  wf : wfL parts = true
  full : fullL parts = true
  refs : ∀ p ∈ parts, ∀ r, p.ref? = some r → (∃ d ∈ chunks, r = .chunk d) ∨ r ∈ ups
  ordered : Ordered (fun r => ∃ d ∈ chunks, r = .chunk d) ups

theorem PartsOK.mono {c c' : List Bytes} {parts : List Part} {ups : List Obj}
    (h : PartsOK c parts ups) (hc : ∀ d ∈ c, d ∈ c') : PartsOK c' parts ups :=
  ⟨h.wf, h.full,
   fun p hp r hr => (h.refs p hp r hr).elim (fun ⟨d, hd, e⟩ => Or.inl ⟨d, hc d hd, e⟩) Or.inr,
   Ordered_mono ups _ _ (fun _ ⟨d, hd, e⟩ => ⟨d, hc d hd, e⟩) h.ordered⟩

theorem PartsOK.append {c1 c2 : List Bytes} {p1 p2 : List Part} {u1 u2 : List Obj}
    (h1 : PartsOK c1 p1 u1) (h2 : PartsOK c2 p2 u2) : PartsOK (c1 ++ c2) (p1 ++ p2) (u1 ++ u2) := by
  constructor
  · rw [wfL_append, h1.wf, h2.wf]; rfl
  · rw [fullL_append, h1.full, h2.full]; rfl
  · intro p hp r hr
    rcases List.mem_append.1 hp with hp | hp
    · rcases h1.refs p hp r hr with ⟨d, hd, e⟩ | hm
      · exact Or.inl ⟨d, List.mem_append_left _ hd, e⟩
      · exact Or.inr (List.mem_append_left _ hm)
    · rcases h2.refs p hp r hr with ⟨d, hd, e⟩ | hm
      · exact Or.inl ⟨d, List.mem_append_right _ hd, e⟩
      · exact Or.inr (List.mem_append_right _ hm)
  · apply Ordered_append
    · exact Ordered_mono u1 _ _ (fun _ ⟨d, hd, e⟩ => ⟨d, List.mem_append_left _ hd, e⟩) h1.ordered
    · exact Ordered_mono u2 _ _ (fun _ ⟨d, hd, e⟩ => Or.inl ⟨d, List.mem_append_right _ hd, e⟩) h2.ordered

theorem blob_part_ok (n : Nat) (br : Bytes) (hbr : br.length = n) :
    denoteL [.blob br 0 n] = br ∧ PartsOK [br] [.blob br 0 n] [] := by
  refine ⟨by simp [denoteL, Part.denote, slice_full _ _ (Nat.le_of_eq hbr)], ?_⟩
  constructor
  · simp [wfL, Part.wf, hbr]
  · simp [fullL, Part.full]
  · intro p hp r hr
    simp only [List.mem_singleton] at hp
    subst hp
    simp only [Part.ref?, Option.some.injEq] at hr
    exact Or.inl ⟨br, by simp, hr.symm⟩
  · trivial

theorem bytes_part_ok (ch : List Span) (cparts : List Part) (cups : List Obj)
    (hd : denoteL cparts = (chunksL ch).flatten) (hs : sumPartsSize cparts = sizeL ch)
    (hok : PartsOK (chunksL ch) cparts cups) :
    denoteL [.bytes cparts 0 (sizeL ch)] = (chunksL ch).flatten ∧
      PartsOK (chunksL ch) [.bytes cparts 0 (sizeL ch)] (cups ++ [.bytes cparts]) := by
  have hlen := denoteL_length cparts hok.wf
  refine ⟨by simp only [denoteL, Part.denote, List.append_nil]; rw [slice_full _ _ (by rw [hlen, hs]; exact Nat.le_refl _), hd], ?_⟩
  constructor
  · simp [wfL, Part.wf, hok.wf, hs]
  · simp [fullL, Part.full, hok.full, hs]
  · intro p hp r hr
    simp only [List.mem_singleton] at hp
    subst hp
    simp only [Part.ref?, Option.some.injEq] at hr
    exact Or.inr (by simp [← hr])
  · apply Ordered_append
    · exact hok.ordered
    · refine ⟨?_, trivial⟩
      intro r hr
      simp only [Obj.refs, List.mem_filterMap] at hr
      obtain ⟨p, hp, hpr⟩ := hr
      exact hok.refs p hp r hpr

theorem own_part_ok (f t bits : Nat) (br : Bytes) (ch : List Span) (hbr : br.length = t - f)
    (pre : List Part) (u : List Obj) (h1 : denoteL pre = (chunksL ch).flatten)
    (h2 : sumPartsSize pre = sizeL ch) (h3 : PartsOK (chunksL ch) pre u) :
    denoteL (pre ++ [.blob br 0 (t - f)]) = (Span.mk f t bits br ch).chunks.flatten ∧
    sumPartsSize (pre ++ [.blob br 0 (t - f)]) = (Span.mk f t bits br ch).size ∧
    PartsOK (Span.mk f t bits br ch).chunks (pre ++ [.blob br 0 (t - f)]) u := by
  obtain ⟨hb1, hb2⟩ := blob_part_ok (t - f) br hbr
  refine ⟨?_, ?_, ?_⟩
  · rw [denoteL_append, h1, hb1, Span.chunks, List.flatten_append, List.flatten_singleton]
  · rw [sumPartsSize_append, h2, Span.size, Nat.add_comm]; rfl
  · have := h3.append hb2
    rwa [List.append_nil] at this

mutual
theorem addBytesPart_spec : (sp : Span) → sp.good = true →
    ∃ parts ups, addBytesPart sp = .ok (parts, ups) ∧ denoteL parts = sp.chunks.flatten ∧
      sumPartsSize parts = sp.size ∧ PartsOK sp.chunks parts ups
  | .mk f t bits br ch, hg => by
    simp only [Span.good, Bool.and_eq_true, decide_eq_true_eq] at hg
    obtain ⟨⟨hft, hbr⟩, hgc⟩ := hg
    obtain ⟨cparts, cups, hc1, hc2, hc3, hc4⟩ := addBytesParts_spec ch hgc
    have hne : ¬ f = t := Nat.ne_of_lt hft
    -- the children go into a bytes schema blob of their own, unless there is none or one single blob
    -- (the two branches below that wrap use `hwrap`)
    obtain ⟨hd, hok⟩ := bytes_part_ok ch cparts cups hc2 hc3 hc4
    have hwrap := own_part_ok f t bits br ch hbr [.bytes cparts 0 (sizeL ch)] (cups ++ [.bytes cparts])
      hd (Nat.add_zero _) hok
    cases ch with
    | nil =>
      exact ⟨_, _, by simp [addBytesPart, hne],
        own_part_ok f t bits br [] hbr [] [] rfl rfl ⟨rfl, rfl, fun _ hp => (by cases hp), trivial⟩⟩
    | cons c rest =>
      cases rest with
      | nil =>
        by_cases hs : c.isSingleBlob = true
        · -- the single child is promoted
          cases c with
          | mk cf ct cb cbr cch =>
            simp only [Span.isSingleBlob, Span.children, List.isEmpty_iff] at hs
            subst hs
            simp only [goodL, Span.good, Bool.and_true, Bool.and_eq_true, decide_eq_true_eq] at hgc
            obtain ⟨hcb1, hcb2⟩ := blob_part_ok (ct - cf) cbr hgc.2
            exact ⟨_, _, by simp [addBytesPart, Span.isSingleBlob, Span.children, Span.br, Span.size, sizeL, hne],
              own_part_ok f t bits br _ hbr [.blob cbr 0 (ct - cf)] []
                (by rw [hcb1]; simp [chunksL, Span.chunks]) (by simp [sumPartsSize, Part.size, sizeL, Span.size])
                (by simpa [chunksL, Span.chunks] using hcb2)⟩
        · exact ⟨_, _, by simp [addBytesPart, hs, hc1, hc3, hne], hwrap⟩
      | cons d rest => exact ⟨_, _, by simp [addBytesPart, hc1, hc3, hne], hwrap⟩
theorem addBytesParts_spec : (sps : List Span) → goodL sps = true →
    ∃ parts ups, addBytesParts sps = .ok (parts, ups) ∧ denoteL parts = (chunksL sps).flatten ∧
      sumPartsSize parts = sizeL sps ∧ PartsOK (chunksL sps) parts ups
  | [], _ => ⟨[], [], rfl, rfl, rfl, ⟨rfl, rfl, fun _ hp _ _ => (by cases hp), trivial⟩⟩
  | sp :: rest, hg => by
    simp only [goodL, Bool.and_eq_true] at hg
    obtain ⟨p1, u1, ha, hb, hc, hd⟩ := addBytesPart_spec sp hg.1
    obtain ⟨p2, u2, ha2, hb2, hc2, hd2⟩ := addBytesParts_spec rest hg.2
    refine ⟨p1 ++ p2, u1 ++ u2, by simp [addBytesParts, ha, ha2], ?_, ?_, ?_⟩
    · simp [denoteL_append, hb, hb2, chunksL]
    · simp [sumPartsSize_append, hc, hc2, sizeL]
    · simpa [chunksL] using hd.append hd2
end

theorem Ordered_chunks : ∀ (l : List Bytes) (K : Obj → Prop), Ordered K (l.map Obj.chunk)
  | [], _ => trivial
  | _ :: l, _ => ⟨fun _ h => (by cases h), Ordered_chunks l _⟩

/-- what a successful `writeFile` returned: the parts denote the input, and the objects handed over end with
the file blob, each referencing only what was handed over before it -/
structure WriteOK (input : List In) (parts : List Part) (objs : List Obj) : Prop where
  denote : denoteL parts = input.map In.byte
  wf : wfL parts = true
  full : fullL parts = true
  size : sumPartsSize parts = input.length
  last : ∃ pre, objs = pre ++ [.file parts]
  ordered : Ordered (fun _ => False) objs

theorem writeFile_spec (c : Cfg) (input : List In) :
    ∃ parts objs, writeFile c input = .ok (parts, objs) ∧ WriteOK input parts objs := by
  have hf := runChunker_fin c input
  obtain ⟨parts, ups, h1, h2, h3, h4⟩ := addBytesParts_spec _ hf.good
  have hsz : sumPartsSize parts = input.length := by rw [h3, hf.size_eq, List.length_map]
  refine ⟨parts, (chunksL (runChunker c input).rspans.reverse).map Obj.chunk ++ ups ++ [.file parts], ?_,
    ⟨by rw [h2, hf.content], h4.wf, h4.full, hsz, ⟨_, rfl⟩, ?_⟩⟩
  · rw [writeFile, writeFileChunks]
    simp only [h1, hf.uploads, hf.n_eq, hsz, List.length_map, ne_eq, not_true_eq_false, if_false]
  · apply Ordered_append
    · apply Ordered_append
      · exact Ordered_chunks _ _
      · apply Ordered_mono ups _ _ _ h4.ordered
        intro x ⟨d, hd, e⟩
        exact Or.inr (by rw [e]; exact List.mem_map_of_mem hd)
    · refine ⟨?_, trivial⟩
      intro r hr
      simp only [Obj.refs, List.mem_filterMap] at hr
      obtain ⟨p, hp, hpr⟩ := hr
      rcases h4.refs p hp r hpr with ⟨d, hd, e⟩ | hm
      · exact Or.inr (List.mem_append_left _ (by rw [e]; exact List.mem_map_of_mem hd))
      · exact Or.inr (List.mem_append_right _ hm)

theorem writeFile_ok {c : Cfg} {input : List In} {parts : List Part} {objs : List Obj}
    (h : writeFile c input = .ok (parts, objs)) : WriteOK input parts objs := by
  obtain ⟨p, o, h1, hrest⟩ := writeFile_spec c input
  rw [h1] at h
  cases h
  exact hrest

theorem range_any_false (f : Nat → Bool) (n : Nat) (h : ¬ (List.range n).any f = true) :
    ∀ i, i < n → f i = false := by
  intro i hi
  cases hf : f i with
  | false => rfl
  | true => exact absurd (List.any_eq_true.2 ⟨i, List.mem_range.2 hi, hf⟩) h

theorem ok_of_guard {ε α : Type} {c : Prop} [Decidable c] {e : ε} {x : Except ε α} {r : α}
    (h : (if c then .error e else x) = .ok r) : ¬ c ∧ x = .ok r := by
  by_cases hc : c
  · rw [if_pos hc] at h; cases h
  · exact ⟨hc, by rwa [if_neg hc] at h⟩

theorem writeFileF_ok (fails : Nat → Bool) (c : Cfg) (input : List In) (parts : List Part) (objs : List Obj)
    (h : writeFileF fails c input = .ok (parts, objs)) :
    writeFile c input = .ok (parts, objs) ∧ ∀ i, i < objs.length → fails i = false := by
  rw [writeFileF] at h
  rw [writeFile]
  generalize writeFileChunks c input = w at h ⊢
  obtain ⟨n, spans, chunks⟩ := w
  obtain ⟨h1, h⟩ := ok_of_guard h
  cases ha : addBytesParts spans with
  | error e => rw [ha] at h; cases h
  | ok pu =>
    obtain ⟨ps, ups⟩ := pu
    rw [ha] at h
    obtain ⟨h2, h⟩ := ok_of_guard h
    obtain ⟨h3, h⟩ := ok_of_guard h
    obtain ⟨h4, h⟩ := ok_of_guard h
    cases h
    refine ⟨by simp only [ha]; exact if_neg h2, fun i hi => ?_⟩
    -- upload `i` is a chunk, a bytes schema blob or the file blob
    simp only [List.length_append, List.length_map, List.length_cons, List.length_nil] at hi
    by_cases hc : i < chunks.length
    · exact range_any_false _ _ h1 i hc
    · by_cases hu : i < chunks.length + ups.length
      · have := range_any_false _ _ h3 (i - chunks.length) (Nat.sub_lt_left_of_lt_add (Nat.le_of_not_lt hc) hu)
        rwa [Nat.add_sub_cancel' (Nat.le_of_not_lt hc)] at this
      · rw [Nat.le_antisymm (Nat.le_of_lt_succ hi) (Nat.le_of_not_lt hu)]
        exact Bool.eq_false_iff.mpr h4

/-- every subset `t` merges is among `all` -/
def Closed (all : List SSet) (t : SSet) : Prop := ∀ c ∈ t.mergeSets, c ∈ all

theorem staticSetL_append (a b : List SSet) : staticSetL (a ++ b) = staticSetL a ++ staticSetL b :=
  append_of_cons staticSetL (· ++ ·) staticSet [] rfl (fun _ _ => rfl) List.nil_append List.append_assoc a b

/-- `r` succeeded with `(t, a)`: `t` lists `xs`, and `a` contains every subset that `t` or a member of `a`
merges -/
def RecOK (r : Except SErr (SSet × List SSet)) (xs : List Nat) : Prop :=
  ∃ t a, r = .ok (t, a) ∧ staticSet t = xs ∧ Closed a t ∧ ∀ s ∈ a, Closed a s

theorem spreadSubs_spec (rec : List Nat → Except SErr (SSet × List SSet)) (ms : List Nat) (per : Nat)
    (hrec : ∀ xs, xs.length = per → RecOK (rec xs) xs) (k i : Nat) (h : (i + k) * per ≤ ms.length) :
    ∃ rs, spreadSubs rec ms per k i = .ok rs ∧
      staticSetL (rs.map (·.1)) = (ms.drop (i * per)).take (k * per) ∧
      ∀ r ∈ rs, Closed r.2 r.1 ∧ ∀ s ∈ r.2, Closed r.2 s := by
  induction k generalizing i with
  | zero => exact ⟨[], rfl, by simp [staticSetL], fun _ h => (by cases h)⟩
  | succ k ih =>
    have hk : (i + 1 + k) * per ≤ ms.length := by rwa [Nat.add_right_comm i 1 k]
    have hi : i * per + per ≤ ms.length :=
      Nat.succ_mul i per ▸ Nat.le_trans (Nat.mul_le_mul_right per (Nat.le_add_right (i + 1) k)) hk
    have hlen : ((ms.drop (i * per)).take per).length = per := by
      rw [List.length_take, List.length_drop, Nat.min_eq_left (Nat.le_sub_of_add_le' hi)]
    obtain ⟨t, a, hr, hflat, hc1, hc2⟩ := hrec _ hlen
    obtain ⟨rs, hs, hfl, hcl⟩ := ih (i + 1) hk
    refine ⟨(t, a) :: rs, ?_, ?_, ?_⟩
    · rw [spreadSubs, if_neg (by rw [Nat.succ_mul]; exact Nat.not_lt.mpr hi), hr]
      simp only [hs]
    · simp only [List.map_cons, staticSetL, hflat, hfl, Nat.succ_mul, Nat.add_comm (k * per) per, List.take_add,
        List.drop_drop]
    · intro r hrm
      rcases List.mem_cons.1 hrm with rfl | hrm
      · exact ⟨hc1, hc2⟩
      · exact hcl r hrm

theorem setStatic_leaf (M fuel : Nat) (ms : List Nat) (h : ms.length ≤ M) :
    setStaticSetMembers M (fuel + 1) ms = .ok (.mk ms [], []) := by
  unfold setStaticSetMembers; simp [h]

theorem staticSet_leaf (ms : List Nat) : staticSet (.mk ms []) = ms := by
  cases ms <;> simp [staticSet, staticSetL]

theorem staticSet_merge (subs : List SSet) : staticSet (.mk [] subs) = staticSetL subs := by
  simp [staticSet]

theorem recOK_leaf (ms : List Nat) : RecOK (.ok (.mk ms [], [])) ms :=
  ⟨.mk ms [], [], rfl, staticSet_leaf ms, fun _ h => (by cases h), fun _ h => (by cases h)⟩

theorem recOK_merge (rs : List (SSet × List SSet)) (extra : List SSet)
    (hcl : ∀ r ∈ rs, Closed r.2 r.1 ∧ ∀ s ∈ r.2, Closed r.2 s) (hex : ∀ s ∈ extra, s.mergeSets = []) :
    RecOK (.ok (.mk [] (rs.map (·.1) ++ extra), rs.flatMap (fun r => r.1 :: r.2) ++ extra))
      (staticSetL (rs.map (·.1) ++ extra)) := by
  have hsub : ∀ r ∈ rs, ∀ x ∈ r.1 :: r.2, x ∈ rs.flatMap (fun r => r.1 :: r.2) ++ extra :=
    fun r hr x hx => List.mem_append_left _ (List.mem_flatMap.2 ⟨r, hr, hx⟩)
  refine ⟨_, _, rfl, staticSet_merge _, ?_, ?_⟩
  · intro c hc
    rcases List.mem_append.1 hc with hc | hc
    · obtain ⟨r, hr, rfl⟩ := List.mem_map.1 hc
      exact hsub r hr _ List.mem_cons_self
    · exact List.mem_append_right _ hc
  · intro s hsm c hc
    rcases List.mem_append.1 hsm with hsm | hsm
    · obtain ⟨r, hr, hsr⟩ := List.mem_flatMap.1 hsm
      refine hsub r hr c (List.mem_cons_of_mem _ ?_)
      rcases List.mem_cons.1 hsr with rfl | hsr
      · exact (hcl r hr).1 c hc
      · exact (hcl r hr).2 s hsr c hc
    · rw [hex s hsm] at hc; cases hc

/-- the two ways `SetStaticSetMembers` chooses (subsetsNumber, perSubset) for more than `M` members: the
subsets are shorter than the list and leave at most `M` members over.  `sn` and `per` only name the two `if`s,
so that the caller can rewrite with the equations. -/
theorem subsets_arith (M n : Nat) (hM : 3 ≤ M) (hn : M < n) :
    ∃ sn per, (if n / M < M then n / M else M - 1) = sn ∧ (if n / M < M then M else n / (M - 1)) = per ∧
      sn * per ≤ n ∧ per < n ∧ n - per * sn ≤ M := by
  have hM0 : 0 < M := Nat.lt_of_lt_of_le (by decide) hM
  have hM1 : 1 < M - 1 := Nat.lt_sub_of_add_lt hM
  have hM1' : 0 < M - 1 := Nat.lt_trans Nat.zero_lt_one hM1
  by_cases hA : n / M < M
  · refine ⟨_, _, if_pos hA, if_pos hA, Nat.div_mul_le_self _ _, hn, ?_⟩
    rw [← Nat.mod_def]; exact Nat.le_of_lt (Nat.mod_lt _ hM0)
  · refine ⟨_, _, if_neg hA, if_neg hA, Nat.mul_div_le _ _, Nat.div_lt_self (Nat.lt_trans hM0 hn) hM1, ?_⟩
    rw [Nat.mul_comm, ← Nat.mod_def]
    exact Nat.le_trans (Nat.le_of_lt (Nat.mod_lt n hM1')) (Nat.sub_le M 1)

theorem setStatic_spec (M : Nat) (hM : 3 ≤ M) (fuel : Nat) (ms : List Nat) (h : ms.length < fuel) :
    RecOK (setStaticSetMembers M fuel ms) ms := by
  induction fuel generalizing ms with
  | zero => exact absurd h (Nat.not_lt_zero _)
  | succ fuel ih =>
    by_cases hle : ms.length ≤ M
    · rw [setStatic_leaf M fuel ms hle]; exact recOK_leaf ms
    · obtain ⟨sn, per, hsn, hper, h1, h2, h4⟩ := subsets_arith M ms.length hM (Nat.lt_of_not_le hle)
      have hrec : ∀ xs : List Nat, xs.length = per → RecOK (setStaticSetMembers M fuel xs) xs :=
        fun xs hx => ih xs (hx ▸ Nat.lt_of_lt_of_le h2 (Nat.le_of_lt_succ h))
      obtain ⟨rs, hs, hfl, hcl⟩ := spreadSubs_spec _ ms per hrec sn 0 (by simpa using h1)
      rw [Nat.zero_mul, List.drop_zero] at hfl
      have hM0 : ¬ M = 0 := Nat.ne_of_gt (Nat.lt_of_lt_of_le (by decide) hM)
      have hM1 : ¬ M - 1 = 0 := Nat.sub_ne_zero_of_lt (Nat.lt_of_lt_of_le (by decide) hM)
      rw [setStaticSetMembers]
      simp only [hle, if_false, hM0, hM1, and_false, hsn, hper, hs]
      by_cases hrest : per * sn < ms.length
      · -- the members left over fit one more leaf
        rw [if_pos hrest]
        cases fuel with
        | zero => exact absurd (Nat.lt_of_le_of_lt (Nat.zero_le _) hrest) (Nat.not_lt.mpr (Nat.le_of_lt_succ h))
        | succ fuel' =>
          rw [setStatic_leaf M fuel' _ (by simpa using h4)]
          have := recOK_merge rs [.mk (ms.drop (per * sn)) []] hcl (fun s hs => by
            rw [List.mem_singleton.1 hs]; rfl)
          rwa [staticSetL_append, hfl, staticSetL, staticSetL, staticSet_leaf, List.append_nil, Nat.mul_comm sn per,
            List.take_append_drop] at this
      · rw [if_neg hrest]
        have := recOK_merge rs [] hcl (fun s hs => by cases hs)
        rwa [List.append_nil, List.append_nil, hfl, List.take_of_length_le (Nat.mul_comm sn per ▸ Nat.not_lt.mp hrest)] at this

end Pk.FS
