import PkVerif.Model.SearchPage
import PkVerif.Lemmas.Ref
/-!
# Lemmas for C09

The decimal and the token codec; the enumeration order is a strict total order; insertion sort over
it; the full ordered list; one page of a query and paging along the tokens (`follow_rest`,
`follow_from`, `follow_all`); the window bookkeeping of Around (`AroundOK`, `AroundStep`,
`query_around`); the pivot lookup and the positional window of the unsorted sources.
-/
namespace Pk.SearchPage
open Pk Pk.Ref

/-! ## decimal codec -/

theorem revDigitsF_spec : ∀ (f n : Nat), n < f →
    revDigitsF f n ≠ [] ∧ (∀ d ∈ revDigitsF f n, d < 10) ∧
    (revDigitsF f n).foldr (fun d a => a * 10 + d) 0 = n := by
  intro f
  induction f with
  | zero => intro n h; omega
  | succ f ih =>
    intro n h
    unfold revDigitsF
    by_cases hn : n < 10
    · simp [hn]
    · simp only [hn, if_false]
      obtain ⟨_, h2, h3⟩ := ih (n / 10)
        (Nat.lt_of_lt_of_le (Nat.div_lt_self (by omega) (by decide)) (Nat.le_of_lt_succ h))
      refine ⟨by simp, ?_, ?_⟩
      · intro d hd
        cases hd with
        | head => exact Nat.mod_lt _ (by decide)
        | tail _ hd' => exact h2 d hd'
      · simp only [List.foldr_cons, h3]; exact Nat.div_add_mod' n 10

theorem parseDigits_map : ∀ (l : List Nat) (acc : Nat), (∀ d ∈ l, d < 10) →
    parseDigits (l.map (· + 48)) acc = some (l.foldl (fun a d => a * 10 + d) acc) := by
  intro l
  induction l with
  | nil => intro acc _; rfl
  | cons d ds ih =>
    intro acc h
    have hd : d < 10 := h d (by simp)
    have : digitVal (d + 48) = some d := by
      unfold digitVal; rw [if_pos (by omega)]; simp
    simp only [List.map_cons, parseDigits, this, List.foldl_cons]
    exact ih _ (fun x hx => h x (by simp [hx]))

theorem decEnc_ne_nil (n : Nat) : decEnc n ≠ [] := by
  have := (revDigitsF_spec (n + 1) n (by omega)).1
  simp [decEnc, revDigits, this]

theorem decEnc_digits (n : Nat) : ∀ c ∈ decEnc n, 48 ≤ c ∧ c ≤ 57 := by
  intro c hc
  have h2 := (revDigitsF_spec (n + 1) n (by omega)).2.1
  simp only [decEnc, revDigits, List.mem_map, List.mem_reverse] at hc
  obtain ⟨d, hd, rfl⟩ := hc
  have := h2 d hd
  omega

theorem parseDigits_decEnc (n : Nat) : parseDigits (decEnc n) 0 = some n := by
  obtain ⟨_, h2, h3⟩ := revDigitsF_spec (n + 1) n (by omega)
  unfold decEnc revDigits
  rw [parseDigits_map _ _ (by intro d hd; exact h2 d (by simpa using hd)), List.foldl_reverse]
  exact congrArg some h3

theorem parseUint_decEnc (n : Nat) (h : n < 18446744073709551616) : parseUint (decEnc n) = some n := by
  unfold parseUint
  have : (decEnc n).isEmpty = false := by
    cases hd : decEnc n with
    | nil => exact absurd hd (decEnc_ne_nil n)
    | cons _ _ => rfl
  simp [this, parseDigits_decEnc, h]

theorem decEnc_head (n : Nat) : ∃ c cs, decEnc n = c :: cs ∧ 48 ≤ c ∧ c ≤ 57 := by
  cases hd : decEnc n with
  | nil => exact absurd hd (decEnc_ne_nil n)
  | cons c cs => exact ⟨c, cs, rfl, decEnc_digits n c (by simp [hd])⟩

/-- a minus sign and digits parse to `-u`, down to `-2^63` -/
theorem parseInt_minus (s : Bytes) (u : Nat) (hu : parseUint s = some u) (h : u ≤ 9223372036854775808) :
    parseInt (45 :: s) = some (-(u : Int)) := by
  simp [parseInt, hu, Nat.not_lt.mpr h]

/-- digits alone parse to `u`, below `2^63` -/
theorem parseInt_digit (c : Nat) (cs : Bytes) (u : Nat) (hc : 48 ≤ c) (hu : parseUint (c :: cs) = some u)
    (h : u < 9223372036854775808) : parseInt (c :: cs) = some (u : Int) := by
  have e1 : (c == 45) = false := by simp; omega
  have e2 : (c == 43) = false := by simp; omega
  simp [parseInt, hu, e1, e2, Nat.not_le.mpr h]

/-- `%d` then `ParseInt` is the identity on int64 -/
theorem parseInt_showInt (n : Int) (h : InInt64 n) : parseInt (showInt n) = some n := by
  obtain ⟨h1, h2⟩ := h
  unfold showInt
  by_cases hn : n < 0
  · have ha : (n.natAbs : Int) = -n := Int.ofNat_natAbs_of_nonpos (Int.le_of_lt hn)
    have hle : n.natAbs ≤ 9223372036854775808 := by omega
    rw [if_pos hn, parseInt_minus _ _ (parseUint_decEnc _ (Nat.lt_of_le_of_lt hle (by decide))) hle, ha, Int.neg_neg]
  · have ha : (n.natAbs : Int) = n := Int.natAbs_of_nonneg (Int.not_lt.mp hn)
    have hlt : n.natAbs < 9223372036854775808 := by omega
    obtain ⟨c, cs, hc, hc1, _⟩ := decEnc_head n.natAbs
    rw [if_neg hn, hc, parseInt_digit c cs _ hc1 (hc ▸ parseUint_decEnc _ (Nat.lt_trans hlt (by decide))) hlt, ha]

theorem showInt_no_colon (n : Int) : 58 ∉ showInt n := by
  unfold showInt
  intro h
  by_cases hn : n < 0
  · simp only [hn, if_true, List.mem_cons] at h
    rcases h with h | h
    · omega
    · have := decEnc_digits _ _ h; omega
  · simp only [hn, if_false] at h
    have := decEnc_digits _ _ h; omega

theorem splitColon_append : ∀ (a rest : Bytes), 58 ∉ a → splitColon (a ++ 58 :: rest) = some (a, rest) := by
  intro a
  induction a with
  | nil => intro rest _; simp [splitColon]
  | cons c cs ih =>
    intro rest h
    have hc : c ≠ 58 := fun e => h (by simp [e])
    have := ih rest (fun e => h (by simp [e]))
    simp [splitColon, hc, this]

theorem wrap64_id (t : Int) (h : InInt64 t) : wrap64 t = t := by
  obtain ⟨h1, h2⟩ := h
  unfold wrap64; omega

theorem wrap64_inInt64 (t : Int) : InInt64 (wrap64 t) := by
  unfold wrap64 InInt64; omega

/-- the codec round trip of the repaired parser: for ANY time, the token decodes to `UnixNano` of the
time (which is the time itself exactly when it fits int64 nanoseconds) and to the ref -/
theorem token_roundtrip (tbl : Tbl) (ht : tbl.WF) (t : Int) (r : Ref) (hr : WFKnown tbl r) :
    parsePermanodeContinueToken tbl true (encodeToken t r) = some (unixNano t, r) := by
  have hp := parse_toText_known tbl ht r hr true
  unfold parsePermanodeContinueToken encodeToken
  have hc : cutPrefix pnPrefix (pnPrefix ++ (showInt (unixNano t) ++ 58 :: toText r))
      = some (showInt (unixNano t) ++ 58 :: toText r) := by
    simp [cutPrefix, pnPrefix, List.isPrefixOf]
  have hi : parseInt (showInt (unixNano t)) = some (unixNano t) :=
    parseInt_showInt (unixNano t) (wrap64_inInt64 t)
  simp only [hc, splitColon_append _ _ (showInt_no_colon _), if_true, hi, hp]

theorem encodeToken_not_empty (t : Int) (r : Ref) : (encodeToken t r).isEmpty = false := by
  simp [encodeToken, pnPrefix]

/-! ## the enumeration order is a strict total order -/

theorem lessK_irrefl (a : RefKey) : lessK a a = false := by
  simp [lessK, less, RefKey.toRef, ltB_irrefl]

theorem lessK_iff (a b : RefKey) :
    lessK a b = true ↔ ltB a.name b.name = true ∨ (a.name = b.name ∧ ltB a.sum b.sum = true) := by
  unfold lessK less RefKey.toRef
  by_cases e : a.name = b.name
  · simp [e, ltB_irrefl]
  · simp [e]

-- (the four cases of a lexicographic order; so are `before_strictTotal` below and `sw_timeRefDesc` in
-- Lemmas/Search)
theorem lessK_trans (a b c : RefKey) (h1 : lessK a b = true) (h2 : lessK b c = true) : lessK a c = true := by
  rw [lessK_iff] at *
  rcases h1 with h1 | ⟨e1, l1⟩ <;> rcases h2 with h2 | ⟨e2, l2⟩
  · exact Or.inl (ltB_trans _ _ _ h1 h2)
  · exact Or.inl (e2 ▸ h1)
  · exact Or.inl (e1 ▸ h2)
  · exact Or.inr ⟨e1.trans e2, ltB_trans _ _ _ l1 l2⟩

theorem lessK_total (a b : RefKey) : lessK a b = true ∨ a = b ∨ lessK b a = true := by
  rcases ltB_total a.name b.name with h | h | h
  · exact Or.inl ((lessK_iff a b).mpr (Or.inl h))
  · rcases ltB_total a.sum b.sum with l | l | l
    · exact Or.inl ((lessK_iff a b).mpr (Or.inr ⟨h, l⟩))
    · exact Or.inr (Or.inl (by cases a; cases b; cases h; cases l; rfl))
    · exact Or.inr (Or.inr ((lessK_iff b a).mpr (Or.inr ⟨h.symm, l⟩)))
  · exact Or.inr (Or.inr ((lessK_iff b a).mpr (Or.inl h)))

theorem before_iff (a b : Cand) :
    before a b = true ↔ b.1 < a.1 ∨ (b.1 = a.1 ∧ lessK b.2 a.2 = true) := by
  unfold before
  by_cases e : b.1 = a.1
  · rw [if_pos e, e]; exact ⟨fun h => Or.inr ⟨rfl, h⟩, fun h => h.elim (fun h => absurd h (Int.lt_irrefl _)) And.right⟩
  · rw [if_neg e, decide_eq_true_eq]; exact ⟨Or.inl, fun h => h.elim id fun h => absurd h.1 e⟩

theorem before_strictTotal : StrictTotal before where
  irrefl := by intro a; simp [before, lessK_irrefl]
  trans := by
    intro a b c h1 h2
    rw [before_iff] at *
    rcases h1 with h1 | ⟨e1, l1⟩ <;> rcases h2 with h2 | ⟨e2, l2⟩
    · exact Or.inl (Int.lt_trans h2 h1)
    · exact Or.inl (e2 ▸ h1)
    · exact Or.inl (e1 ▸ h2)
    · exact Or.inr ⟨e2.trans e1, lessK_trans _ _ _ l2 l1⟩
  total := by
    intro a b
    rcases Int.lt_trichotomy a.1 b.1 with h | h | h
    · exact Or.inr (Or.inr ((before_iff b a).mpr (Or.inl h)))
    · rcases lessK_total a.2 b.2 with l | l | l
      · exact Or.inr (Or.inr ((before_iff b a).mpr (Or.inr ⟨h, l⟩)))
      · exact Or.inr (Or.inl (Prod.ext h l))
      · exact Or.inl ((before_iff a b).mpr (Or.inr ⟨h.symm, l⟩))
    · exact Or.inl ((before_iff a b).mpr (Or.inl h))

/-! ## insertion sort over a strict total order -/

section Sorting
variable {K : Type} (lt : K → K → Bool)

theorem insertBy_perm (x : K) : ∀ (l : List K), (insertBy lt x l).Perm (x :: l)
  | [] => .refl _
  | z :: zs => by
    unfold insertBy
    by_cases h : lt x z = true
    · rw [if_pos h]
    · rw [if_neg h]
      exact ((insertBy_perm x zs).cons z).trans (.swap x z zs)

theorem sortBy_perm : ∀ (l : List K), (sortBy lt l).Perm l := by
  intro l
  induction l with
  | nil => exact .refl _
  | cons z zs ih => exact (insertBy_perm lt z _).trans (ih.cons z)

theorem mem_insertBy (x y : K) (l : List K) : y ∈ insertBy lt x l ↔ y = x ∨ y ∈ l := by
  rw [(insertBy_perm lt x l).mem_iff, List.mem_cons]

theorem pairwise_insertBy (st : StrictTotal lt) (x : K) : ∀ (l : List K),
    l.Pairwise (fun a b => lt a b = true) → x ∉ l → (insertBy lt x l).Pairwise (fun a b => lt a b = true)
  | [], _, _ => List.pairwise_singleton _ _
  | z :: zs, hp, hx => by
    obtain ⟨hz, hzs⟩ := List.pairwise_cons.mp hp
    rw [List.mem_cons, not_or] at hx
    unfold insertBy
    by_cases h : lt x z = true
    · rw [if_pos h]
      exact List.pairwise_cons.mpr
        ⟨fun a ha => (List.mem_cons.mp ha).elim (· ▸ h) fun ha' => st.trans _ _ _ h (hz a ha'), hp⟩
    · rw [if_neg h]
      have hzx : lt z x = true := ((st.total x z).resolve_left h).resolve_left hx.1
      exact List.pairwise_cons.mpr
        ⟨fun a ha => ((mem_insertBy lt x a zs).mp ha).elim (· ▸ hzx) (hz a), pairwise_insertBy st x zs hzs hx.2⟩

theorem mem_sortBy (y : K) (l : List K) : y ∈ sortBy lt l ↔ y ∈ l := (sortBy_perm lt l).mem_iff

theorem pairwise_sortBy (st : StrictTotal lt) : ∀ (l : List K), l.Nodup →
    (sortBy lt l).Pairwise (fun a b => lt a b = true)
  | [], _ => List.Pairwise.nil
  | z :: zs, hnd =>
    pairwise_insertBy lt st z _ (pairwise_sortBy st zs (List.nodup_cons.mp hnd).2)
      fun e => (List.nodup_cons.mp hnd).1 ((mem_sortBy lt z zs).mp e)

end Sorting

/-! ## candidates and the full ordered list -/

/-- hypotheses on a world: permanode refs are pairwise distinct (they are map keys of the corpus) and
are refs of a supported hash (they are computed by the server from the blob) -/
structure WorldOK (tbl : Tbl) (w : List PN) : Prop where
  nodup : (w.map PN.ref).Nodup
  wf : ∀ p ∈ w, WFKnown tbl p.ref.toRef

instance (t : Tbl) (r : Ref) : Decidable (WFKnown t r) := by unfold WFKnown; infer_instance

/-- the permanodes that have the sort time, with it: what `candidates` sorts -/
def timed (srt : SortBy) (w : List PN) : List Cand :=
  w.filterMap (fun p => (pnTime srt p).map (fun t => (t, p.ref)))

theorem mem_timed (srt : SortBy) (w : List PN) (k : Cand) :
    k ∈ timed srt w ↔ ∃ p ∈ w, pnTime srt p = some k.1 ∧ p.ref = k.2 := by
  obtain ⟨t, r⟩ := k
  simp only [timed, List.mem_filterMap, Option.map_eq_some_iff, Prod.mk.injEq]
  exact ⟨fun ⟨p, hp, _, h1, rfl, h2⟩ => ⟨p, hp, h1, h2⟩, fun ⟨p, hp, h1, h2⟩ => ⟨p, hp, _, h1, rfl, h2⟩⟩

/-- two entries with the same ref come from one permanode -/
theorem timed_nodup (srt : SortBy) (w : List PN) (h : (w.map PN.ref).Nodup) : (timed srt w).Nodup := by
  rw [List.Nodup, List.pairwise_map] at h
  rw [timed, List.Nodup, List.pairwise_filterMap]
  refine h.imp fun {a a'} hab b hb b' hb' e => hab ?_
  cases h1 : pnTime srt a <;> cases h2 : pnTime srt a' <;> simp_all
  exact hab (congrArg Prod.snd (hb.trans hb'.symm))

theorem candidates_eq (srt : SortBy) (w : List PN) : candidates srt w = sortBy before (timed srt w) := rfl

theorem mem_candidates (srt : SortBy) (w : List PN) (k : Cand) :
    k ∈ candidates srt w ↔ ∃ p ∈ w, pnTime srt p = some k.1 ∧ p.ref = k.2 := by
  rw [candidates_eq, mem_sortBy, mem_timed]

theorem candidates_pairwise (srt : SortBy) (w : List PN) (h : (w.map PN.ref).Nodup) :
    (candidates srt w).Pairwise (fun a b => before a b = true) :=
  pairwise_sortBy before before_strictTotal _ (timed_nodup srt w h)

theorem fullOrdered_pairwise (srt : SortBy) (c : Cons) (w : List PN) (h : (w.map PN.ref).Nodup) :
    (fullOrdered w srt c).Pairwise (fun a b => before a b = true) :=
  List.Pairwise.filter _ (candidates_pairwise srt w h)

theorem fullOrdered_asc (srt : SortBy) (c : Cons) (w : List PN) (h : (w.map PN.ref).Nodup) :
    Asc before (fullOrdered w srt c) :=
  pairwise_asc before _ (fullOrdered_pairwise srt c w h)

theorem mem_fullOrdered (srt : SortBy) (c : Cons) (w : List PN) (k : Cand) :
    k ∈ fullOrdered w srt c ↔ (∃ p ∈ w, pnTime srt p = some k.1 ∧ p.ref = k.2) ∧ baseMatches w c k.2 = true := by
  unfold fullOrdered
  rw [List.mem_filter, mem_candidates]

theorem zeroTime_not_inInt64 : ¬ InInt64 zeroTime := by
  unfold InInt64 zeroTime; omega

theorem ne_zeroTime_of_inInt64 {t : Int} (h : InInt64 t) : t ≠ zeroTime :=
  fun e => zeroTime_not_inInt64 (e ▸ h)

theorem wf_of_mem_fullOrdered {tbl : Tbl} {w : List PN} (hw : WorldOK tbl w) {srt : SortBy} {c : Cons} {k : Cand}
    (hk : k ∈ fullOrdered w srt c) : WFKnown tbl k.2.toRef := by
  obtain ⟨⟨p, hp, _, h2⟩, _⟩ := (mem_fullOrdered srt c w k).mp hk
  exact h2 ▸ hw.wf p hp

/-! ## one page of a query without Around -/

/-- without a pivot the callback fills the page.  The limit is written as what `bs` holds plus `k + 1`,
so it is positive and the induction needs no side condition; exactly `k + 1` more are taken. -/
theorem collect_no_pivot : ∀ (X bs : List Cand) (k : Nat) (f : Bool),
    collect ((bs.length + (k + 1) : Nat) : Int) none X bs f = (bs ++ X.take (k + 1), f) := by
  intro X
  induction X with
  | nil => intro bs k f; simp [collect]
  | cons m ms ih =>
    intro bs k f
    have h0 : ¬ ((bs.length + (k + 1) : Nat) : Int) ≤ 0 :=
      Int.not_le.mpr (Int.natCast_pos.mpr (Nat.add_pos_right _ (Nat.succ_pos k)))
    rw [collect, if_neg h0]
    simp only [Option.isNone_none, Bool.true_or, if_true, List.length_append, List.length_singleton, Int.natCast_inj,
      List.take_succ_cons]
    cases k with
    | zero => rw [if_pos rfl, List.take_zero]
    | succ k =>
      rw [if_neg (fun h => by cases Nat.add_left_cancel h)]
      have e : bs.length + (k + 1 + 1) = (bs ++ [m]).length + (k + 1) := by
        rw [List.length_append, List.length_singleton, Nat.add_assoc bs.length, Nat.add_comm 1]
      rw [e, ih, List.append_assoc]; rfl

theorem collect_nolimit (lim : Int) (hl : lim ≤ 0) (ar : Option Ref) : ∀ (X bs : List Cand) (f : Bool),
    (collect lim ar X bs f).1 = bs ++ X := by
  intro X
  induction X with
  | nil => intro bs f; simp [collect]
  | cons m ms ih =>
    intro bs f
    unfold collect
    simp only [hl, if_true]
    rw [ih]; simp

section Paging
variable (tbl : Tbl) (ht : tbl.WF) (signed : Bool) (w : List PN) (srt : SortBy) (cons : Cons)

/-- a page: the first `L` of what the planned matcher lets through, plus its token -/
theorem query_page (L : Nat) (hL : 0 < L) (tok : Bytes) :
    query tbl signed w ⟨srt, cons, (L : Int), tok, none⟩ =
      some ⟨((candidates srt w).filter (plannedMatcher tbl signed w ⟨srt, cons, (L : Int), tok, none⟩)).take L,
        setResultContinue (L : Int)
          (((candidates srt w).filter (plannedMatcher tbl signed w ⟨srt, cons, (L : Int), tok, none⟩)).take L)⟩ := by
  obtain ⟨k, rfl⟩ : ∃ k, L = k + 1 := ⟨L - 1, (Nat.sub_add_cancel hL).symm⟩
  have hc := fun X => collect_no_pivot X [] k false
  rw [List.length_nil, Nat.zero_add] at hc
  have h0 : ¬ (((k + 1 : Nat) : Int) = 0) := fun h => Nat.succ_ne_zero k (Int.ofNat_inj.mp h)
  unfold query
  simp only [Option.isSome_none, Bool.and_false, Bool.false_eq_true, if_false, h0, Option.isNone_none, if_true, hc,
    List.nil_append, Bool.false_and]

theorem matcher_first (lim : Int) (ar : Option Ref) :
    (candidates srt w).filter (plannedMatcher tbl signed w ⟨srt, cons, lim, [], ar⟩) = fullOrdered w srt cons := by
  unfold fullOrdered plannedMatcher
  simp

/-- the continue constraint of a token `(T, last)` is "strictly after `(T, last)`" in the enumeration
order; only the hash name and the digest of `last` are looked at -/
theorem continueMatches_eq_before (T : Int) (last : Ref) (k : Cand) (hk : k.1 ≠ zeroTime) :
    continueMatches ⟨T, last⟩ k = before (T, ⟨last.name, last.sum⟩) k := by
  unfold continueMatches before lessK
  have hless : less k.2.toRef last = less k.2.toRef (RefKey.toRef ⟨last.name, last.sum⟩) := rfl
  rw [← hless]
  by_cases h1 : T < k.1
  · rw [if_pos h1, if_neg (Int.ne_of_gt h1)]
    exact (decide_eq_false (Int.lt_asymm h1)).symm
  · rw [if_neg h1]
    by_cases h2 : k.1 = T
    · simp only [h2, true_or, true_and, if_true]
      cases less k.2.toRef last <;> rfl
    · simp only [h2, hk, false_or, false_and, if_false]
      exact (decide_eq_true (Int.lt_iff_le_and_ne.mpr ⟨Int.not_lt.mp h1, h2⟩)).symm

theorem matcher_token (lim : Int) (tok : Bytes) (T : Int) (last : Ref) (htok : tok.isEmpty = false)
    (hp : parsePermanodeContinueToken tbl signed tok = some (T, last))
    (hz : ∀ k ∈ fullOrdered w srt cons, k.1 ≠ zeroTime) :
    (candidates srt w).filter (plannedMatcher tbl signed w ⟨srt, cons, lim, tok, none⟩)
      = (fullOrdered w srt cons).filter (fun k => before (T, ⟨last.name, last.sum⟩) k) := by
  unfold plannedMatcher
  simp only [htok, Bool.false_eq_true, if_false, hp, Option.map_some]
  unfold fullOrdered
  rw [List.filter_filter]
  apply List.filter_congr
  intro k hk
  cases hb : baseMatches w cons k.2 with
  | false => rw [Bool.and_false, Bool.and_false]
  | true =>
    have hk' : k ∈ fullOrdered w srt cons := List.mem_filter.mpr ⟨hk, hb⟩
    rw [continueMatches_eq_before T last k (hz k hk'), Bool.and_true]

include ht in
theorem matcher_after (lim : Int) (c : Cand) (hc : InInt64 c.1) (hwf : WFKnown tbl c.2.toRef)
    (hz : ∀ k ∈ fullOrdered w srt cons, k.1 ≠ zeroTime) :
    (candidates srt w).filter (plannedMatcher tbl true w ⟨srt, cons, lim, encodeToken c.1 c.2.toRef, none⟩)
      = (fullOrdered w srt cons).filter (fun k => before c k) :=
  matcher_token tbl true w srt cons lim _ c.1 c.2.toRef (encodeToken_not_empty _ _)
    (by rw [token_roundtrip tbl ht c.1 _ hwf, unixNano, wrap64_id _ hc]) hz

/-- the token of a page: set exactly when the page is full -/
theorem setResultContinue_take (L : Nat) (hL : 0 < L) (r : List Cand) :
    (r.length < L ∧ r.take L = r ∧ setResultContinue (L : Int) (r.take L) = []) ∨
    (∃ ini last, r.take L = ini ++ [last] ∧ r = ini ++ last :: r.drop L ∧
      setResultContinue (L : Int) (r.take L) = encodeToken last.1 last.2.toRef) := by
  by_cases h : r.length < L
  · left
    have ht : r.take L = r := List.take_of_length_le (Nat.le_of_lt h)
    refine ⟨h, ht, ?_⟩
    unfold setResultContinue
    rw [ht, if_pos (Or.inr fun e => Nat.ne_of_lt h (Int.ofNat_inj.mp e))]
  · right
    have hlen : (r.take L).length = L := by rw [List.length_take]; exact Nat.min_eq_left (Nat.le_of_not_lt h)
    cases hg : (r.take L).getLast? with
    | none =>
      have : r.take L = [] := List.getLast?_eq_none_iff.mp hg
      rw [this] at hlen; exact absurd hlen.symm (Nat.ne_of_gt hL)
    | some last =>
      obtain ⟨ini, hini⟩ := List.getLast?_eq_some_iff.mp hg
      refine ⟨ini, last, hini, ?_, ?_⟩
      · have := List.take_append_drop L r
        rw [hini] at this
        simpa [List.append_assoc] using this.symm
      · unfold setResultContinue
        rw [hlen, if_neg (fun h => h.elim (fun h => Int.not_lt.mpr h (Int.natCast_pos.mpr hL)) fun h => h rfl), hg]

variable (L : Nat) (hL : 0 < L) (hw : WorldOK tbl w) (hr : ∀ k ∈ fullOrdered w srt cons, InInt64 k.1)
include ht hL hw hr

omit hL in
theorem matcher_rest (pre r : List Cand) (c : Cand) (hM : fullOrdered w srt cons = pre ++ c :: r) (lim : Int) :
    (candidates srt w).filter (plannedMatcher tbl true w ⟨srt, cons, lim, encodeToken c.1 c.2.toRef, none⟩) = r := by
  have hc : c ∈ fullOrdered w srt cons := by rw [hM]; simp
  rw [matcher_after tbl ht w srt cons _ c (hr c hc) (wf_of_mem_fullOrdered hw hc)
      (fun k hk => ne_zeroTime_of_inInt64 (hr k hk)), hM]
  exact filter_gt_split before before_strictTotal pre r c (hM ▸ fullOrdered_asc srt cons w hw.nodup)

/-- **paging**: from a token that makes the matcher let through the rest `r` of the full list, following
the tokens returns exactly `r` -/
-- (the same induction as `Pk.pages_suffix` in Base/Order, on the token instead of the cursor)
theorem follow_rest : ∀ (fuel : Nat) (pre r : List Cand) (tok : Bytes), fullOrdered w srt cons = pre ++ r →
    (candidates srt w).filter (plannedMatcher tbl true w ⟨srt, cons, (L : Int), tok, none⟩) = r → r.length < fuel →
      followContinue tbl true w srt cons (L : Int) fuel tok = r := by
  intro fuel
  induction fuel with
  | zero => intro pre r tok _ _ hf; cases hf
  | succ n ih =>
    intro pre r tok hM hfil hf
    unfold followContinue
    rw [query_page tbl true w srt cons L hL, hfil]
    simp only
    rcases setResultContinue_take L hL r with ⟨_, h2, h3⟩ | ⟨ini, last, h1, h2, h3⟩
    · rw [h3, h2]; rfl
    · rw [h3, encodeToken_not_empty]
      simp only [Bool.false_eq_true, if_false]
      have hM' : fullOrdered w srt cons = (pre ++ ini) ++ last :: r.drop L := by
        rw [hM, List.append_assoc]; exact congrArg (pre ++ ·) h2
      have hlen : (r.drop L).length < n := by
        have := congrArg List.length h2
        rw [List.length_append, List.length_cons] at this
        exact Nat.lt_of_lt_of_le (by rw [this]; exact Nat.lt_succ_of_le (Nat.le_add_left _ _)) (Nat.le_of_lt_succ hf)
      rw [ih (pre ++ ini ++ [last]) (r.drop L) _ (by rw [hM']; simp)
        (matcher_rest tbl ht w srt cons hw hr _ _ last hM' _) hlen]
      exact List.take_append_drop L r

/-- **paging from a token**: if the previous page ended at `c`, following the tokens returns exactly
what comes after `c` in the full ordered list -/
theorem follow_from (fuel : Nat) (pre r : List Cand) (c : Cand) (hM : fullOrdered w srt cons = pre ++ c :: r)
    (hf : r.length < fuel) :
    followContinue tbl true w srt cons (L : Int) fuel (encodeToken c.1 c.2.toRef) = r :=
  follow_rest tbl ht w srt cons L hL hw hr fuel (pre ++ [c]) r _ (by rw [hM]; simp)
    (matcher_rest tbl ht w srt cons hw hr pre r c hM _) hf

/-- **paging from the start**: without a token the tokens lead through the whole list -/
theorem follow_all (fuel : Nat) (hf : (fullOrdered w srt cons).length < fuel) :
    followContinue tbl true w srt cons (L : Int) fuel [] = fullOrdered w srt cons :=
  follow_rest tbl ht w srt cons L hL hw hr fuel [] _ [] rfl (matcher_first ..) hf

end Paging

/-! ## Around: the window bookkeeping -/

/-- the blob refs of a result list, as `Around` names them -/
def refsOf (l : List Cand) : List Ref := l.map (fun c => c.2.toRef)

theorem refsOf_append (a b : List Cand) : refsOf (a ++ b) = refsOf a ++ refsOf b := by
  simp [refsOf]

/-- what the callback loop guarantees about `(res.Blobs, foundAround)` over the matching list `all` -/
def AroundOK (piv : Ref) (res : List Cand × Bool) (all : List Cand) : Prop :=
  res.1 <:+: all ∧ (res.2 = true → piv ∈ refsOf res.1) ∧ (res.2 = false → piv ∉ refsOf all)

/-- one call of the callback of an Around query leaves `X`: the candidate is appended and the window
`bs'` is cut at the front – not at all once the pivot is in, and never past a pivot just appended –;
the enumeration stops (`stop`) when the pivot is in (`f'`) and the page is full -/
structure AroundStep (lim : Int) (piv : Ref) (m : Cand) (ms bs : List Cand) (f : Bool) (X : List Cand × Bool)
    (bs' : List Cand) (f' stop : Bool) : Prop where
  eq : X = (if stop then (bs', true) else collect lim (some piv) ms bs' f')
  suffix : bs' <:+ bs ++ [m]
  found_iff : f' = true ↔ f = true ∨ piv = m.2.toRef
  keep : f = true → bs' = bs ++ [m]
  pivot_in : piv = m.2.toRef → m ∈ bs'
  stop_full : stop = true → f' = true ∧ (bs'.length : Int) = lim
  go_short : stop = false → 0 < lim → (f = true → (bs.length : Int) < lim) → f' = true → (bs'.length : Int) < lim

theorem collect_cons_around (lim : Int) (piv : Ref) (m : Cand) (ms bs : List Cand) (f : Bool) :
    ∃ bs' f' stop, AroundStep lim piv m ms bs f (collect lim (some piv) (m :: ms) bs f) bs' f' stop := by
  rw [collect]
  simp only [Option.isNone_some, Bool.false_or]
  have hn : (bs ++ [m]).length = bs.length + 1 := by simp
  have hm : ∀ d, d ≤ bs.length → m ∈ (bs ++ [m]).drop d := fun d hd => by
    rw [List.drop_append_of_le_length hd]; simp
  have hk : ¬ lim ≤ 0 → (((lim / 2).toNat + 1 : Nat) : Int) ≤ lim := fun h => by
    have h0 : 0 < lim := Int.not_le.mp h
    rw [Int.natCast_add, Int.toNat_of_nonneg (Int.ediv_nonneg (Int.le_of_lt h0) (by decide))]
    exact Int.add_one_le_iff.mpr (Int.ediv_lt_of_lt_mul (by decide)
      (by rw [Int.mul_comm, Int.two_mul]; exact Int.lt_add_of_pos_left lim h0))
  generalize (lim / 2).toNat = k at hk ⊢
  -- the pivot is in the window `bs'`: stop when the page is full
  have found : ∀ bs' : List Cand, bs' <:+ bs ++ [m] → (f = true → bs' = bs ++ [m]) → m ∈ bs' →
      (f = true ∨ piv = m.2.toRef) → (0 < lim → (f = true → (bs.length : Int) < lim) → (bs'.length : Int) ≤ lim) →
      ∃ bs'' f' stop, AroundStep lim piv m ms bs f
        (if (bs'.length : Int) = lim then (bs', true) else collect lim (some piv) ms bs' true) bs'' f' stop := by
    intro bs' h1 h2 h3 h4 h5
    by_cases hlen : (bs'.length : Int) = lim
    · exact ⟨bs', true, true,
        { eq := by rw [if_pos hlen]; rfl, suffix := h1, found_iff := ⟨fun _ => h4, fun _ => rfl⟩, keep := h2,
          pivot_in := fun _ => h3, stop_full := fun _ => ⟨rfl, hlen⟩, go_short := fun h => (by cases h) }⟩
    · exact ⟨bs', true, false,
        { eq := by rw [if_neg hlen]; rfl, suffix := h1, found_iff := ⟨fun _ => h4, fun _ => rfl⟩, keep := h2,
          pivot_in := fun _ => h3, stop_full := fun h => (by cases h),
          go_short := fun _ hl hb _ => Int.lt_iff_le_and_ne.mpr ⟨h5 hl hb, hlen⟩ }⟩
  by_cases hl : lim ≤ 0
  · exact ⟨bs ++ [m], f || some piv == some m.2.toRef, false,
      { eq := by rw [if_pos hl]; rfl, suffix := List.suffix_refl _, found_iff := by simp, keep := fun _ => rfl,
        pivot_in := fun _ => hm 0 (Nat.zero_le _), stop_full := fun h => (by cases h),
        go_short := fun _ h => absurd h (Int.not_lt.mpr hl) }⟩
  · rw [if_neg hl]
    cases f with
    | true =>
      rw [if_pos rfl]
      exact found _ (List.suffix_refl _) (fun _ => rfl) (hm 0 (Nat.zero_le _)) (Or.inl rfl)
        fun _ h => by rw [hn]; exact Int.add_one_le_iff.mpr (h rfl)
    | false =>
      rw [if_neg Bool.false_ne_true]
      by_cases hp : piv = m.2.toRef
      · -- the pivot has just been appended: at most `lim / 2` candidates are kept in front of it
        have e : (some piv == some m.2.toRef) = true := by simp [hp]
        simp only [e, if_true]
        by_cases h2x : lim < ((bs ++ [m]).length : Int) * 2
        · rw [if_pos h2x]
          refine found _ (List.drop_suffix _ _) (fun h => by cases h)
            (hm _ (by rw [hn]; exact Nat.sub_le_of_le_add (Nat.sub_le _ _))) (Or.inr hp) fun _ _ => ?_
          rw [List.length_drop]
          exact Int.le_trans (Int.ofNat_le.mpr (by
            rw [Nat.sub_le_iff_le_add, Nat.sub_sub, Nat.add_comm]; exact Nat.le_add_of_sub_le (Nat.le_refl _))) (hk hl)
        · rw [if_neg h2x]
          exact found _ (List.suffix_refl _) (fun h => by cases h) (hm 0 (Nat.zero_le _)) (Or.inr hp)
            fun _ _ => Int.le_trans (by rw [Int.mul_comm, Int.two_mul]; exact Int.le_add_of_nonneg_left (Int.natCast_nonneg _))
              (Int.not_lt.mp h2x)
      · have e : (some piv == some m.2.toRef) = false := by simp [hp]
        simp only [e, Bool.false_eq_true, if_false]
        refine ⟨_, false, false,
          { eq := rfl, suffix := ?_, found_iff := by simp [hp], keep := fun h => (by cases h),
            pivot_in := fun h => absurd h hp, stop_full := fun h => (by cases h),
            go_short := fun _ _ _ h => (by cases h) }⟩
        split
        · exact List.drop_suffix _ _
        · exact List.suffix_refl _

theorem collect_around (lim : Int) (piv : Ref) : ∀ (rest pre bs : List Cand) (f : Bool),
    bs <:+ pre → (f = true → piv ∈ refsOf bs) → (f = false → piv ∉ refsOf pre) →
    AroundOK piv (collect lim (some piv) rest bs f) (pre ++ rest) ∧
      (0 < lim → (f = true → (bs.length : Int) < lim) → (collect lim (some piv) rest bs f).2 = true →
        ((collect lim (some piv) rest bs f).1.length : Int) ≤ lim) := by
  intro rest
  induction rest with
  | nil =>
    intro pre bs f h1 h2 h3
    simp only [collect, List.append_nil]
    exact ⟨⟨h1.isInfix, h2, h3⟩, fun _ h hf => Int.le_of_lt (h hf)⟩
  | cons m ms ih =>
    intro pre bs f h1 h2 h3
    obtain ⟨bs', f', stop, st⟩ := collect_cons_around lim piv m ms bs f
    have hs : bs' <:+ pre ++ [m] := by
      obtain ⟨u, hu⟩ := h1
      exact st.suffix.trans ⟨u, by rw [← hu]; simp⟩
    have hin : f' = true → piv ∈ refsOf bs' := fun h => by
      rcases st.found_iff.mp h with hf | hp
      · rw [st.keep hf, refsOf_append]; exact List.mem_append_left _ (h2 hf)
      · exact List.mem_map.mpr ⟨m, st.pivot_in hp, hp.symm⟩
    have hall : pre ++ m :: ms = (pre ++ [m]) ++ ms := by simp
    rw [st.eq, hall]
    cases stop with
    | true =>
      exact ⟨⟨hs.isInfix.trans (List.prefix_append _ _).isInfix, fun _ => hin (st.stop_full rfl).1, fun h => by cases h⟩,
        fun _ _ _ => Int.le_of_eq (st.stop_full rfl).2⟩
    | false =>
      obtain ⟨ih1, ih2⟩ := ih (pre ++ [m]) bs' f' hs hin fun h hmem => by
        have hno : ¬ (f = true ∨ piv = m.2.toRef) := fun hx => by rw [st.found_iff.mpr hx] at h; cases h
        rw [refsOf_append] at hmem
        rcases List.mem_append.mp hmem with hmem | hmem
        · exact h3 (Bool.eq_false_iff.mpr fun hf => hno (Or.inl hf)) hmem
        · exact hno (Or.inr (by simpa [refsOf] using hmem))
      exact ⟨ih1, fun hl hb => ih2 hl (st.go_short rfl hl hb)⟩

/-- an Around query returns a contiguous piece of the full list that holds the pivot (nothing when
the pivot is not in the list), at most `lim` long for a positive limit, and no token -/
theorem query_around (tbl : Tbl) (signed : Bool) (w : List PN) (srt : SortBy) (cons : Cons) (lim : Int) (piv : Ref) :
    ∃ res, query tbl signed w ⟨srt, cons, lim, [], some piv⟩ = some ⟨res, []⟩ ∧
      (piv ∈ refsOf (fullOrdered w srt cons) → res <:+: fullOrdered w srt cons ∧ piv ∈ refsOf res) ∧
      (piv ∉ refsOf (fullOrdered w srt cons) → res = []) ∧
      (0 < lim → (res.length : Int) ≤ lim) := by
  unfold query
  simp only [List.isEmpty_nil, Bool.not_true, Bool.false_and, Bool.false_eq_true, if_false, Option.isSome_some,
    Bool.true_and, Option.isNone_some, matcher_first]
  obtain ⟨⟨h1, h2, h3⟩, hlen⟩ := collect_around (if lim = 0 then 200 else lim) piv (fullOrdered w srt cons) [] []
    false (List.suffix_refl _) (fun h => by cases h) (fun _ => by simp [refsOf])
  rw [List.nil_append] at h1 h3
  refine ⟨_, rfl, ?_⟩
  cases hf : (collect (if lim = 0 then 200 else lim) (some piv) (fullOrdered w srt cons) [] false).2 with
  | false => exact ⟨fun hin => absurd hin (h3 hf), fun _ => rfl, fun _ => by simp; omega⟩
  | true =>
    refine ⟨fun _ => ⟨h1, h2 hf⟩, fun hnot => ?_, fun hl => ?_⟩
    · obtain ⟨s, t, hst⟩ := h1
      refine absurd ?_ hnot
      rw [← hst, refsOf_append, refsOf_append]
      exact List.mem_append_left _ (List.mem_append_right _ (h2 hf))
    · have hl0 : ¬ lim = 0 := by omega
      rw [if_neg hl0] at hlen hf ⊢
      exact hlen hl (fun h => by cases h) hf

/-! ## the unsorted candidate sources: pivot lookup and window -/

theorem indexOf?_of_mem {α : Type} (p : α → Bool) (l : List α) (x : α) (hx : x ∈ l) (hpx : p x = true) :
    ∃ pos y, indexOf? p l = some pos ∧ l[pos]? = some y ∧ p y = true := by
  induction l with
  | nil => cases hx
  | cons y ys ih =>
    unfold indexOf?
    by_cases hy : p y = true
    · exact ⟨0, y, if_pos hy, rfl, hy⟩
    · obtain ⟨pos, z, h1, h2, h3⟩ := ih ((List.mem_cons.mp hx).resolve_left fun e => hy (e ▸ hpx))
      exact ⟨pos + 1, z, by rw [if_neg hy, h1]; rfl, h2, h3⟩

theorem aroundPos_fixed (full : List RefKey) (piv : Ref) (h : piv ∈ full.map RefKey.toRef) :
    ∃ pos x, aroundPos true full piv = some pos ∧ full[pos]? = some x ∧ x.toRef = piv := by
  obtain ⟨k, hk, he⟩ := List.mem_map.mp h
  obtain ⟨pos, x, h1, h2, h3⟩ := indexOf?_of_mem (fun k => k.toRef == piv) full k hk (by simp [he])
  exact ⟨pos, x, by unfold aroundPos; rw [if_pos rfl]; exact h1, h2, by simpa using h3⟩

/-- the positional cut: a contiguous window that contains the element at `pos`, at most `L` long -/
theorem windowAround_spec {α : Type} (bs : List α) (pos L : Nat) (x : α) (hx : bs[pos]? = some x) (hL : 0 < L) :
    windowAround bs pos L <:+: bs ∧ x ∈ windowAround bs pos L ∧ (windowAround bs pos L).length ≤ L := by
  have hpos : pos < bs.length := (List.getElem?_eq_some_iff.mp hx).1
  -- all that matters of the lower bound `pos - L / 2`
  have hlo : pos - L / 2 ≤ pos := Nat.sub_le _ _
  have hhi : pos < pos - L / 2 + L :=
    Nat.lt_of_le_of_lt (Nat.sub_le_iff_le_add.mp (Nat.le_refl _)) (Nat.add_lt_add_left (Nat.div_lt_self hL (by decide)) _)
  unfold windowAround
  generalize pos - L / 2 = lo at hlo hhi
  refine ⟨(List.drop_suffix _ _).isInfix.trans (List.take_prefix _ _).isInfix, ?_, ?_⟩
  · apply List.mem_of_getElem? (i := pos - lo)
    rw [List.getElem?_drop, List.getElem?_take, Nat.add_sub_cancel' hlo, if_pos (Nat.lt_min.mpr ⟨hhi, hpos⟩)]
    exact hx
  · rw [List.length_drop, List.length_take]
    refine Nat.sub_le_of_le_add ?_
    rw [Nat.add_comm]
    exact Nat.le_trans (Nat.min_le_left _ _) (Nat.min_le_left _ _)

end Pk.SearchPage
