import PkVerif.Model.Sync
/-! Helper lemmas for C19 (pkg/server/sync.go): list-as-set facts, the invariant and its preservation,
and the explicit effect of the failure-free recovery. -/
namespace Pk.Sync

theorem mem_ins {a x : Nat} {l : List Nat} : x ∈ ins a l ↔ x = a ∨ x ∈ l := by
  unfold ins
  split
  · exact ⟨.inr, fun e => e.elim (· ▸ ‹a ∈ l›) id⟩
  · simp [or_comm]

theorem mem_del {a x : Nat} {l : List Nat} : x ∈ del a l ↔ x ∈ l ∧ x ≠ a := by
  simp [del]

theorem length_del_lt {i : Nat} {l : List Nat} (h : i ∈ l) : (del i l).length < l.length :=
  List.length_filter_lt_length_iff_exists.2 ⟨i, h, by simp⟩

theorem mem_replaceFirst {α} [DecidableEq α] {a b x : α} {l : List α} :
    x ∈ replaceFirst a b l → x = b ∨ x ∈ l := by
  induction l with
  | nil => simp [replaceFirst]
  | cons y ys ih =>
    unfold replaceFirst
    split
    · simp only [List.mem_cons]; exact Or.imp_right .inr
    · simp only [List.mem_cons]; exact fun e => e.elim (.inr ∘ .inl) fun e => (ih e).imp_right .inr

theorem mem_replaceFirst_new {α} [DecidableEq α] {a b : α} {l : List α} (h : a ∈ l) :
    b ∈ replaceFirst a b l := by
  induction l with
  | nil => cases h
  | cons y ys ih =>
    unfold replaceFirst
    split
    · exact .head _
    · exact .tail _ (ih ((List.mem_cons.1 h).resolve_left (Ne.symm ‹_›)))

theorem mem_dstIns {i d : Nat} {l : List (Nat × Nat)} {p : Nat × Nat} :
    p ∈ dstIns i d l → p = (i, d) ∨ p ∈ l := by
  unfold dstIns
  split
  · exact .inr
  · simp [or_comm]

theorem mem_dstIns_of_mem {i d : Nat} {l : List (Nat × Nat)} {p : Nat × Nat} (h : p ∈ l) :
    p ∈ dstIns i d l := by
  unfold dstIns
  split
  · exact h
  · exact List.mem_append_left _ h

theorem id_mem_dstIns {i d : Nat} {l : List (Nat × Nat)} : i ∈ (dstIns i d l).map (·.1) := by
  unfold dstIns
  split
  · assumption
  · simp

theorem mem_readQueue {rows : List Nat} : ∀ {n : List Nat} {x : Nat},
    x ∈ readQueueToMemory n rows ↔ x ∈ n ∨ x ∈ rows := by
  unfold readQueueToMemory
  induction rows with
  | nil => simp
  | cons r rs ih => simp [ih, mem_ins, or_left_comm, or_assoc]

theorem length_readQueue_le (rows : List Nat) : ∀ n, (readQueueToMemory n rows).length ≤ n.length + rows.length := by
  unfold readQueueToMemory
  induction rows with
  | nil => simp
  | cons r rs ih =>
    intro n
    have h2 : (ins r n).length ≤ n.length + 1 := by unfold ins; split <;> simp
    exact Nat.le_trans (ih (ins r n)) (by
      rw [List.length_cons, ← Nat.add_assoc, Nat.add_right_comm]
      exact Nat.add_le_add_right h2 _)

/-! ## the transfer part of `copyBlob` -/

theorem xfer_cases (src : List Nat) (dst : List (Nat × Nat)) (i : Nat) (f : Fault) :
    xfer src dst i f = (dst, false) ∨ (i ∈ src ∧ ∃ b, xfer src dst i f = (dstIns i i dst, b)) := by
  unfold xfer
  split
  next hs =>
    split
    · exact .inl rfl
    next d _ =>
      split
      next hm =>
        obtain rfl : d = i := by simpa [hashMatches] using hm
        split
        · exact .inl rfl
        · exact .inr ⟨hs, _, rfl⟩
        · exact .inr ⟨hs, _, rfl⟩
      · exact .inl rfl
  · exact .inl rfl

theorem xfer_mono {src dst i f p} (h : p ∈ dst) : p ∈ (xfer src dst i f).1 := by
  rcases xfer_cases src dst i f with e | ⟨_, _, e⟩ <;> rw [e]
  · exact h
  · exact mem_dstIns_of_mem h

theorem xfer_mem {src dst i f p} (h : p ∈ (xfer src dst i f).1) : p ∈ dst ∨ (p = (i, i) ∧ i ∈ src) := by
  rcases xfer_cases src dst i f with e | ⟨hs, _, e⟩ <;> rw [e] at h
  · exact .inl h
  · exact (mem_dstIns h).elim (fun e => .inr ⟨e, hs⟩) .inl

/-- `copyBlob` returns nil only after the destination holds the blob -/
theorem xfer_ok {src dst i f} (h : (xfer src dst i f).2 = true) : i ∈ ((xfer src dst i f).1).map (·.1) := by
  rcases xfer_cases src dst i f with e | ⟨_, _, e⟩ <;> rw [e] at h ⊢
  · cases h
  · exact id_mem_dstIns

theorem xfer_clean {src dst i} (h : i ∈ src) : xfer src dst i .ok = (dstIns i i dst, true) := by
  simp [xfer, h, fetched, hashMatches]

theorem dstIds_xfer_mono {s : St} {i f j} (h : j ∈ dstIds s) :
    j ∈ ((xfer s.src s.dst i f).1).map (·.1) := by
  obtain ⟨p, hp, e⟩ := List.mem_map.1 h
  exact List.mem_map.2 ⟨p, xfer_mono hp, e⟩

theorem mem_rows_set {ok : Bool} {i j : Nat} {rows : List Nat} (h : j ∈ rows) :
    j ∈ (if ok then ins i rows else rows) := by
  cases ok
  · exact h
  · exact mem_ins.2 (.inr h)

/-- The invariant of the handler with the `fixed` variant of `enqueue` (row first, then memory); every
`inv_*` below is about `step .fixed`.  The last three clauses say that whatever is queued, pending or
being uploaded is in the source store. -/
structure Inv (s : St) : Prop where
  /-- queue durable: an acknowledged upload is at the destination or has its queue row -/
  acked_safe : ∀ i ∈ s.acked, i ∈ dstIds s ∨ i ∈ s.rows
  /-- an in-flight upload whose row write returned nil still has the row (or is already delivered) -/
  rowed_safe : ∀ i, (i, UpPhase.rowed true) ∈ s.upl → i ∈ dstIds s ∨ i ∈ s.rows
  /-- a copy only reaches the row deletion after the destination acknowledged the blob -/
  xferred_at_dst : ∀ i, (i, CpPhase.xferred) ∈ s.cps ∨ (i, CpPhase.qdone) ∈ s.cps → i ∈ dstIds s
  /-- the destination holds only true bytes of source blobs -/
  dst_true : ∀ p ∈ s.dst, p.2 = p.1 ∧ p.1 ∈ s.src
  rows_src : ∀ i ∈ s.rows, i ∈ s.src
  need_src : ∀ i ∈ s.need, i ∈ s.src
  upl_src : ∀ p ∈ s.upl, p.1 ∈ s.src

theorem inv_init : Inv init := by
  constructor <;> simp [init, dstIds]

/- Each step rewrites a few components of the state; the clauses of `Inv` that do not read them are
taken over from `h` as they stand (`{ h with … }`). -/

theorem inv_srcRecv (s : St) (i : Nat) (h : Inv s) : Inv (step .fixed s (.srcRecv i)) :=
  have grow : ∀ {j}, j ∈ s.src → j ∈ ins i s.src := fun hj => mem_ins.2 (.inr hj)
  { h with
    rowed_safe := fun j hj => h.rowed_safe j (by
      simpa using show (j, UpPhase.rowed true) ∈ s.upl ++ [(i, UpPhase.stored)] from hj)
    dst_true := fun p hp => ⟨(h.dst_true p hp).1, grow (h.dst_true p hp).2⟩
    rows_src := fun j hj => grow (h.rows_src j hj)
    need_src := fun j hj => grow (h.need_src j hj)
    upl_src := fun p hp => by
      rcases List.mem_append.1 (hp : p ∈ s.upl ++ [(i, .stored)]) with e | e
      · exact grow (h.upl_src p e)
      · rw [List.mem_singleton.1 e]; exact mem_ins.2 (.inl rfl) }

theorem inv_qSet (s : St) (i : Nat) (ok : Bool) (h : Inv s) : Inv (step .fixed s (.qSet i ok)) := by
  dsimp only [step]
  split
  next hm =>
    have hi : i ∈ s.src := h.upl_src _ hm
    exact { h with
      acked_safe := fun j hj => (h.acked_safe j hj).imp_right mem_rows_set
      rowed_safe := fun j hj => by
        rcases mem_replaceFirst hj with e | e
        · -- the upload of this step: its row has just been written
          cases e; exact .inr (mem_ins.2 (.inl rfl))
        · exact (h.rowed_safe j e).imp_right mem_rows_set
      rows_src := fun j hj => by
        cases ok
        · exact h.rows_src j hj
        · exact (mem_ins.1 hj).elim (· ▸ hi) (h.rows_src j)
      upl_src := fun p hp => (mem_replaceFirst hp).elim (fun e => by cases e; exact hi) (h.upl_src p) }
  next => exact h

theorem inv_memAdd (s : St) (i : Nat) (ok : Bool) (h : Inv s) : Inv (step .fixed s (.memAdd i ok)) := by
  dsimp only [step]
  split
  next hm =>
    exact { h with
      acked_safe := fun j hj => by
        cases ok
        · exact h.acked_safe j hj
        · exact (mem_ins.1 hj).elim (fun e => h.rowed_safe j (e ▸ hm)) (h.acked_safe j)
      rowed_safe := fun j hj => h.rowed_safe j (List.mem_of_mem_erase hj)
      need_src := fun j hj => (mem_ins.1 hj).elim (· ▸ h.upl_src _ hm) (h.need_src j)
      upl_src := fun p hp => h.upl_src p (List.mem_of_mem_erase hp) }
  next => exact h

theorem inv_cpStart (s : St) (i : Nat) (h : Inv s) : Inv (step .fixed s (.cpStart i)) := by
  dsimp only [step]
  split
  · exact { h with
      xferred_at_dst := fun j hj => h.xferred_at_dst j (by
        simpa using (hj : _ ∈ s.cps ++ [(i, .started)] ∨ _ ∈ s.cps ++ [(i, .started)])) }
  · exact h

theorem inv_cpXfer (s : St) (i : Nat) (f : Fault) (h : Inv s) : Inv (step .fixed s (.cpXfer i f)) := by
  dsimp only [step]
  split
  next hm =>
    -- a copy in a phase other than `failed` after the step is this one, its transfer having
    -- succeeded, or an older one
    have key : ∀ j ph, ph ≠ .failed → ((j, ph) ∈ s.cps → j ∈ dstIds s) →
        (j, ph) ∈ replaceFirst (i, CpPhase.started)
          (i, if (xfer s.src s.dst i f).2 = true then .xferred else .failed) s.cps →
        j ∈ ((xfer s.src s.dst i f).1).map (·.1) := fun j ph hph hold hmem =>
      (mem_replaceFirst hmem).elim (fun e => by
        cases e
        by_cases hr : (xfer s.src s.dst i f).2 = true
        · exact xfer_ok hr
        · exact absurd (if_neg hr) hph) (dstIds_xfer_mono ∘ hold)
    exact { h with
      acked_safe := fun j hj => (h.acked_safe j hj).imp_left dstIds_xfer_mono
      rowed_safe := fun j hj => (h.rowed_safe j hj).imp_left dstIds_xfer_mono
      xferred_at_dst := fun j hj =>
        hj.elim (key j _ nofun (h.xferred_at_dst j ∘ .inl)) (key j _ nofun (h.xferred_at_dst j ∘ .inr))
      dst_true := fun p hp => (xfer_mem hp).elim (h.dst_true p) fun ⟨e, hs⟩ => e ▸ ⟨rfl, hs⟩ }
  next => exact h

theorem inv_qDel (s : St) (i : Nat) (ok : Bool) (h : Inv s) : Inv (step .fixed s (.qDel i ok)) := by
  dsimp only [step]
  split
  next hm =>
    have hd : i ∈ dstIds s := h.xferred_at_dst i (.inl hm)
    -- the row that goes belongs to a delivered blob
    have keep : ∀ j, j ∈ dstIds s ∨ j ∈ s.rows → j ∈ dstIds s ∨ j ∈ (if ok = true then del i s.rows else s.rows) :=
      fun j hj => hj.elim .inl fun e => by
        cases ok
        · exact .inr e
        · exact (Decidable.em (j = i)).elim (fun hji => .inl (hji ▸ hd)) fun hji => .inr (mem_del.2 ⟨e, hji⟩)
    exact { h with
      acked_safe := fun j hj => keep j (h.acked_safe j hj)
      rowed_safe := fun j hj => keep j (h.rowed_safe j hj)
      xferred_at_dst := fun j hj => by
        rcases hj with e | e
        · exact (mem_replaceFirst e).elim nofun (h.xferred_at_dst j ∘ .inl)
        · exact (mem_replaceFirst e).elim (fun e' => by cases e'; exact hd) (h.xferred_at_dst j ∘ .inr)
      rows_src := fun j hj => by
        cases ok
        · exact h.rows_src j hj
        · exact h.rows_src j (mem_del.1 hj).1 }
  next => exact h

theorem inv_cpEnd (s : St) (i : Nat) (h : Inv s) : Inv (step .fixed s (.cpEnd i)) := by
  have erased : ∀ ph, Inv { s with cps := s.cps.erase (i, ph) } := fun ph =>
    { h with xferred_at_dst := fun j hj =>
        h.xferred_at_dst j (hj.imp List.mem_of_mem_erase List.mem_of_mem_erase) }
  have shrunk : ∀ ph (c : List Nat), Inv { s with copying := c, need := del i s.need, cps := s.cps.erase (i, ph) } :=
    fun ph c => { erased ph with need_src := fun j hj => h.need_src j (mem_del.1 hj).1 }
  dsimp only [step]
  by_cases c1 : (i, CpPhase.qdone) ∈ s.cps
  · rw [if_pos c1]
    by_cases c : i ∈ s.need
    · rw [if_pos c]; exact shrunk _ _
    · rw [if_neg c]; exact erased _
  · rw [if_neg c1]
    by_cases c2 : (i, CpPhase.failed) ∈ s.cps
    · rw [if_pos c2]
      by_cases c : i ∈ s.need
      · rw [if_pos c]; exact { erased .failed with }
      · rw [if_neg c]; exact erased _
    · rw [if_neg c2]; exact h

theorem inv_restart (s : St) (h : Inv s) : Inv (step .fixed s .restart) :=
  { h with
    rowed_safe := nofun
    xferred_at_dst := fun _ hj => hj.elim nofun nofun
    need_src := fun j hj => (mem_readQueue.1 hj).elim nofun (h.rows_src j)
    upl_src := nofun }

theorem inv_step (s : St) (t : Step) (h : Inv s) : Inv (step .fixed s t) := by
  cases t with
  | srcRecv i => exact inv_srcRecv s i h
  | qSet i ok => exact inv_qSet s i ok h
  | memAdd i ok => exact inv_memAdd s i ok h
  | cpStart i => exact inv_cpStart s i h
  | cpXfer i f => exact inv_cpXfer s i f h
  | qDel i ok => exact inv_qDel s i ok h
  | cpEnd i => exact inv_cpEnd s i h
  | restart => exact inv_restart s h

theorem inv_run (l : List Step) : ∀ (s : St), Inv s → Inv (run .fixed s l) := by
  induction l with
  | nil => exact fun _ h => h
  | cons t ts ih => exact fun s h => ih _ (inv_step s t h)

theorem row_removed_only_by_qDel {s : St} {t : Step} {i : Nat} (hr : i ∈ s.rows) (hn : i ∉ (step .fixed s t).rows) :
    (i, CpPhase.xferred) ∈ s.cps := by
  -- only `qSet` and `qDel` write `rows`, and `qSet` only adds
  cases t with
  | qSet j ok =>
    simp only [step, apply_ite St.rows] at hn
    split at hn
    · exact absurd (mem_rows_set hr) hn
    · exact absurd hr hn
  | qDel j ok =>
    simp only [step, apply_ite St.rows] at hn
    by_cases c : (j, CpPhase.xferred) ∈ s.cps
    · rw [if_pos c] at hn
      cases ok
      · exact absurd hr hn
      · by_cases e : i = j
        · exact e ▸ c
        · exact absurd (mem_del.2 ⟨hr, e⟩) hn
    · rw [if_neg c] at hn
      exact absurd hr hn
  | srcRecv j | restart => exact absurd hr hn
  | cpEnd j | memAdd j ok | cpStart j | cpXfer j f =>
    simp only [step, apply_ite St.rows, ite_self] at hn
    exact absurd hr hn

/-! ## the failure-free recovery, computed -/

/-- the net effect of one failure-free copy of `i` when nothing else is in flight -/
def copied (s : St) (i : Nat) : St :=
  if i ∈ s.need then { s with dst := dstIns i i s.dst, rows := del i s.rows, need := del i s.need } else s

theorem run_append (v : Variant) (s : St) (a b : List Step) : run v s (a ++ b) = run v (run v s a) b := by
  simp [run, List.foldl_append]

theorem run_copyOk (v : Variant) (s : St) (i : Nat) (hc : s.cps = []) (hcp : s.copying = [])
    (hsrc : i ∈ s.need → i ∈ s.src) : run v s (copyOkSteps i) = copied s i := by
  obtain ⟨src, dst, rows, need, copying, acked, upl, cps⟩ := s
  simp only at hc hcp hsrc
  subst hc hcp
  by_cases hn : i ∈ need
  · have hs := hsrc hn
    simp [run, copyOkSteps, step, copied, hn, xfer_clean hs, replaceFirst, ins, del]
  · simp [run, copyOkSteps, step, copied, hn]

/-- quiescent: nothing in flight, and everything pending is in the source -/
structure Quiet (s : St) : Prop where
  cps : s.cps = []
  copying : s.copying = []
  need_src : ∀ i ∈ s.need, i ∈ s.src
  rows_need : ∀ i ∈ s.rows, i ∈ s.need

theorem quiet_copied {s : St} (i : Nat) (h : Quiet s) : Quiet (copied s i) := by
  unfold copied
  split
  · exact { h with
      need_src := fun j hj => h.need_src j (mem_del.1 hj).1
      rows_need := fun j hj => mem_del.2 ⟨h.rows_need j (mem_del.1 hj).1, (mem_del.1 hj).2⟩ }
  · exact h

theorem run_drain (v : Variant) (l : List Nat) : ∀ (s : St), Quiet s →
    run v s (l.flatMap copyOkSteps) = l.foldl copied s := by
  induction l with
  | nil => intro s _; rfl
  | cons i t ih =>
    intro s h
    rw [List.flatMap_cons, run_append, run_copyOk v s i h.cps h.copying (h.need_src i), List.foldl_cons]
    exact ih _ (quiet_copied i h)

theorem foldl_copied_induct {P : St → Prop} (l : List Nat) (hP : ∀ s i, P s → P (copied s i)) :
    ∀ s, P s → P (l.foldl copied s) := by
  induction l with
  | nil => exact fun _ h => h
  | cons i t ih => exact fun s h => ih _ (hP s i h)

theorem quiet_foldl (l : List Nat) : ∀ (s : St), Quiet s → Quiet (l.foldl copied s) :=
  foldl_copied_induct l fun _ i => quiet_copied i

theorem copied_dst_mono {s : St} {i j : Nat} (h : j ∈ dstIds s) : j ∈ dstIds (copied s i) := by
  unfold copied
  split
  · obtain ⟨p, hp, e⟩ := List.mem_map.1 h
    exact List.mem_map.2 ⟨p, mem_dstIns_of_mem hp, e⟩
  · exact h

theorem foldl_copied_dst_mono (l : List Nat) (s : St) {j : Nat} :
    j ∈ dstIds s → j ∈ dstIds (l.foldl copied s) :=
  foldl_copied_induct (P := fun s => j ∈ dstIds s) l (fun _ _ => copied_dst_mono) s

theorem copied_delivers {s : St} {i : Nat} (h : i ∈ s.need) : i ∈ dstIds (copied s i) := by
  unfold copied
  rw [if_pos h]
  exact id_mem_dstIns

theorem copied_need {s : St} {i x : Nat} : x ∈ (copied s i).need ↔ x ∈ s.need ∧ x ≠ i := by
  unfold copied
  split
  · exact mem_del
  next hi => exact ⟨fun h => ⟨h, fun e => hi (e ▸ h)⟩, And.left⟩

theorem foldl_copied_delivers (l : List Nat) : ∀ (s : St) {i : Nat}, i ∈ l → i ∈ s.need →
    i ∈ dstIds (l.foldl copied s) := by
  induction l with
  | nil => exact fun _ _ h => nomatch h
  | cons j t ih =>
    intro s i hi hn
    by_cases e : i = j
    · subst e
      exact foldl_copied_dst_mono t _ (copied_delivers hn)
    · exact ih _ ((List.mem_cons.1 hi).resolve_left e) (copied_need.2 ⟨hn, e⟩)

theorem foldl_copied_need (l : List Nat) : ∀ (s : St) {x : Nat}, x ∈ (l.foldl copied s).need →
    x ∈ s.need ∧ x ∉ l := by
  induction l with
  | nil => exact fun _ _ h => ⟨h, nofun⟩
  | cons j t ih =>
    intro s x h
    obtain ⟨h1, h2⟩ := ih _ h
    obtain ⟨h3, h4⟩ := copied_need.1 h1
    exact ⟨h3, by simp [h2, h4]⟩

theorem copied_frame (s : St) (i : Nat) :
    (copied s i).acked = s.acked ∧ (copied s i).src = s.src ∧ (copied s i).upl = s.upl := by
  unfold copied; split <;> simp

theorem foldl_copied_frame (l : List Nat) (s : St) :
    (l.foldl copied s).acked = s.acked ∧ (l.foldl copied s).src = s.src ∧ (l.foldl copied s).upl = s.upl :=
  foldl_copied_induct (P := fun t => t.acked = s.acked ∧ t.src = s.src ∧ t.upl = s.upl) l
    (fun t i ⟨a, b, c⟩ =>
      have ⟨a', b', c'⟩ := copied_frame t i
      ⟨a'.trans a, b'.trans b, c'.trans c⟩) s ⟨rfl, rfl, rfl⟩

/-- the state right after a crash and `readQueueToMemory` -/
def restarted (s : St) : St := step .fixed s .restart

theorem quiet_restarted {s : St} (h : Inv s) : Quiet (restarted s) where
  cps := rfl
  copying := rfl
  need_src := (inv_restart s h).need_src
  rows_need := fun _ hi => mem_readQueue.2 (Or.inr hi)

theorem recover_eq {s : St} (h : Inv s) :
    recover .fixed s = (readQueueToMemory [] s.rows).foldl copied (restarted s) := by
  unfold recover recoverSteps
  show run .fixed (step .fixed s .restart) _ = _
  exact run_drain .fixed _ _ (quiet_restarted h)

/-- what the failure-free continuation has achieved in `t`, started in `s` -/
structure Drained (s t : St) : Prop where
  need_nil : t.need = []
  rows_nil : t.rows = []
  cps_nil : t.cps = []
  copying_nil : t.copying = []
  acked_eq : t.acked = s.acked
  src_eq : t.src = s.src
  delivered : ∀ i, i ∈ dstIds s ∨ i ∈ s.rows → i ∈ dstIds t

theorem recover_spec {s : St} (h : Inv s) : Drained s (recover .fixed s) := by
  rw [recover_eq h]
  have hq := quiet_foldl (readQueueToMemory [] s.rows) _ (quiet_restarted h)
  have hneed : ((readQueueToMemory [] s.rows).foldl copied (restarted s)).need = [] :=
    List.eq_nil_iff_forall_not_mem.2 fun x hx =>
      (foldl_copied_need _ _ hx).2 (foldl_copied_need _ _ hx).1
  have ⟨fa, fs, _⟩ := foldl_copied_frame (readQueueToMemory [] s.rows) (restarted s)
  exact {
    need_nil := hneed
    rows_nil := List.eq_nil_iff_forall_not_mem.2 fun x hx => by
      have := hq.rows_need x hx
      rw [hneed] at this
      cases this
    cps_nil := hq.cps
    copying_nil := hq.copying
    acked_eq := fa
    src_eq := fs
    delivered := fun i hi => hi.elim (foldl_copied_dst_mono _ (restarted s)) fun e =>
      have hn : i ∈ (restarted s).need := mem_readQueue.2 (.inr e)
      foldl_copied_delivers _ _ hn hn }

theorem length_recoverSteps (s : St) : (recoverSteps s).length ≤ 1 + 4 * s.rows.length := by
  have h1 : ∀ l : List Nat, (l.flatMap copyOkSteps).length = 4 * l.length := by
    intro l
    induction l with
    | nil => rfl
    | cons a t ih => rw [List.flatMap_cons, List.length_append, ih, Nat.add_comm]; rfl
  have h2 : (readQueueToMemory [] s.rows).length ≤ s.rows.length :=
    Nat.le_trans (length_readQueue_le s.rows []) (Nat.le_of_eq (Nat.zero_add _))
  rw [recoverSteps, List.length_cons, h1, Nat.add_comm]
  exact Nat.add_le_add_left (Nat.mul_le_mul_left 4 h2) 1

theorem recoverSteps_clean (s : St) : ∀ t ∈ recoverSteps s, t.clean = true := by
  intro t ht
  simp only [recoverSteps, List.mem_cons, List.mem_flatMap] at ht
  rcases ht with e | ⟨i, _, hi⟩
  · subst e; rfl
  · simp only [copyOkSteps, List.mem_cons, List.not_mem_nil, or_false] at hi
    rcases hi with e | e | e | e <;> subst e <;> rfl

end Pk.Sync
