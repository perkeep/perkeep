import PkVerif.Lemmas.RefOverlay
/-! C13: the overlay combinator over layers whose calls may fail transiently.

`overlayImpl` passes a failed upper receive/remove on as `.err` and leaves the tombstones alone; a
failed read of either layer is passed on as `.err`; a failed sub-enumeration in any round of the
refill loop makes the whole enumeration answer `.err` (`overlayEnum_sub` at `enumSub_F`).  In every case the visible contents
(upper ∪ lower minus tombstoned keys) are the before- or the after-state of the operation, and once
both layers are quiet every step is exact again (`overlayFRefines`). -/
namespace Pk.Stores
open Pk Pk.SMap Pk.RefMap

theorem enumSub_F {content : Bytes → Bytes} {I : Impl} (F : FRefines content I) :
    EnumSub content I F.abs F.Inv F.Quiet := by
  intro s c r h
  obtain ⟨hi, hs, hq⟩ := F.sub s (.enum c r) h trivial
  refine ⟨(I.step s (.enum c r)).1, (I.step s (.enum c r)).2, rfl,
    hs.read_abs rfl, hi, F.good s h, ?_, fun hQ => ⟨(hq hQ).1, (hq hQ).2.2⟩⟩
  rcases hs with ⟨ho, _⟩ | ⟨ho, _⟩
  · exact Or.inl ho
  · exact Or.inr ho

/-! ### map algebra: the upper layer took a step the overlay did not acknowledge -/

/-- the upper layer performed `op` but answered an error, so the tombstones were not updated: the
visible map is at its before- or its after-state -/
theorem ovl_abs_upper_only {content : Bytes → Bytes} {A B : SMap Bytes} {D : SMap Unit}
    (hA : Good content A) (hB : Good content B) (hD : KAsc D) (op : Op) (hop : op.WK content) :
    (union (next A op) B).filter (fun p => !has D p.1) = (union A B).filter (fun p => !has D p.1) ∨
    (union (next A op) B).filter (fun p => !has D p.1) =
      next ((union A B).filter (fun p => !has D p.1)) op := by
  have hU : Good content (union A B) := good_union hA hB
  have hM := good_live D hU
  cases op with
  | fetch _ => exact Or.inl rfl
  | stat _ => exact Or.inl rfl
  | enum _ _ => exact Or.inl rfl
  | recv k v =>
    by_cases hd : has D k = true
    · left
      apply SMap.ext (kasc_filter _ (kasc_union _ hB.1)) hM.1
      intro x
      rw [get_live _ (kasc_union _ hB.1), get_union, get_next_recv hA hop.1, get_live D hU.1,
        get_union]
      by_cases hx : x = k
      · subst hx; simp [hd]
      · simp [hx]
    · right
      have hd' : has D k = false := Bool.eq_false_iff.mpr hd
      have := ovl_abs_next hA hB hD (.recv k v) hop
      simp only [ovlDel, del_eq_self k hD hd'] at this
      exact this
  | rm k =>
    have hX : ∀ x, SMap.get ((union (next A (.rm k)) B).filter (fun p => !has D p.1)) x =
        if has D x then none else if x = k then SMap.get B k else SMap.get (union A B) x := by
      intro x
      simp only [next]
      rw [get_live _ (kasc_union _ hB.1), get_union, get_del k hA.1, get_union]
      by_cases hx : x = k <;> simp [hx]
    -- the blob stays visible exactly if the lower layer holds it too
    by_cases hkeep : has D k = true ∨ (SMap.get B k).isSome = true
    · left
      apply SMap.ext (kasc_filter _ (kasc_union _ hB.1)) hM.1
      intro x
      rw [hX, get_live D hU.1]
      by_cases hx : x = k
      · subst hx
        rcases hkeep with h | h
        · simp [h]
        · obtain ⟨w, hw⟩ := Option.isSome_iff_exists.mp h
          simp [hw, get_union_of_right hA hB hw]
      · simp [hx]
    · right
      have hd : has D k = false := Bool.eq_false_iff.mpr (fun h => hkeep (Or.inl h))
      have hb : SMap.get B k = none := by
        cases hgb : SMap.get B k with
        | none => rfl
        | some w => exact absurd (Or.inr (by simp [hgb])) hkeep
      apply SMap.ext (kasc_filter _ (kasc_union _ hB.1)) (kasc_del _ hM.1)
      intro x
      show _ = SMap.get (SMap.del k _) x
      rw [hX, get_del k hM.1, get_live D hU.1]
      by_cases hx : x = k
      · subst hx; simp [hd, hb]
      · simp [hx]

section FStep
variable {content : Bytes → Bytes} {lower upper : Impl}

/-- the visible map: upper wins, tombstoned keys hidden (`ovlAbsK` over `FRefines`; `ovlFInv` below is
`ovlInvK` likewise) -/
def ovlFAbs (Fl : FRefines content lower) (Fu : FRefines content upper)
    (s : (overlayImpl lower upper).σ) : SMap Bytes :=
  (union (Fu.abs s.2.1) (Fl.abs s.1)).filter (fun p => !has s.2.2 p.1)

def ovlFInv (Fl : FRefines content lower) (Fu : FRefines content upper)
    (s : (overlayImpl lower upper).σ) : Prop :=
  Fl.Inv s.1 ∧ Fu.Inv s.2.1 ∧ KAsc s.2.2

def ovlFQuiet (Fl : FRefines content lower) (Fu : FRefines content upper)
    (s : (overlayImpl lower upper).σ) : Prop :=
  Fl.Quiet s.1 ∧ Fu.Quiet s.2.1

def OvlFStep (Fl : FRefines content lower) (Fu : FRefines content upper)
    (s : (overlayImpl lower upper).σ) (op : Op) (r : (overlayImpl lower upper).σ × Out) : Prop :=
  ovlFInv Fl Fu r.1 ∧
    StepSpec (ovlFAbs Fl Fu s) (ovlFAbs Fl Fu r.1) r.2 op (ovlFQuiet Fl Fu s) (ovlFQuiet Fl Fu r.1)

theorem ovlF_good (Fl : FRefines content lower) (Fu : FRefines content upper)
    (s : (overlayImpl lower upper).σ) (h : ovlFInv Fl Fu s) : Good content (ovlFAbs Fl Fu s) :=
  good_live _ (good_union (Fu.good _ h.2.1) (Fl.good _ h.1))

/-- receive and remove go to the upper layer only; the tombstones follow its answer -/
theorem ovl_write_F (Fl : FRefines content lower) (Fu : FRefines content upper)
    (ls : lower.σ) (us : upper.σ) (del : SMap Unit) (op : Op)
    (hw : (∃ k v, op = .recv k v) ∨ ∃ k, op = .rm k)
    (hs : ovlFInv Fl Fu (ls, us, del)) (hop : op.WK content) :
    OvlFStep Fl Fu (ls, us, del) op ((overlayImpl lower upper).step (ls, us, del) op) := by
  obtain ⟨hl, hu, hD⟩ := hs
  have hA := Fu.good us hu
  have hB := Fl.good ls hl
  obtain ⟨hi, hst, hq⟩ := Fu.sub us op hu hop
  rcases hw with ⟨k, v, rfl⟩ | ⟨k, rfl⟩
  all_goals
    simp only [overlayImpl]
    generalize upper.step us _ = pr at hi hst hq
    obtain ⟨us1, o⟩ := pr
    simp only at hi hst hq
    rcases hst with ⟨ho, ha⟩ | ⟨ho, ha⟩
    · simp only [out] at ho
      subst ho
      refine ⟨⟨hl, hi, by first | exact kasc_del _ hD | exact kasc_ins _ _ hD⟩,
        StepSpec.exact rfl ?_ (fun hQ => ⟨hQ.1, (hq hQ.2).2.2⟩)⟩
      show (union (Fu.abs us1) (Fl.abs ls)).filter _ = _
      rw [ha]
      exact ovl_abs_next hA hB hD _ hop
    · subst ho
      refine ⟨⟨hl, hi, hD⟩, Or.inr ⟨rfl, ?_⟩, fun hQ => absurd (hq hQ.2).1.symm (out_ne_err _ _)⟩
      show (union (Fu.abs us1) (Fl.abs ls)).filter _ = _ ∨ (union (Fu.abs us1) (Fl.abs ls)).filter _ = _
      rcases ha with ha | ha
      · rw [ha]; exact Or.inl rfl
      · rw [ha]; exact ovl_abs_upper_only hA hB hD _ hop

theorem ovl_read_F (Fl : FRefines content lower) (Fu : FRefines content upper)
    (ls : lower.σ) (us : upper.σ) (del : SMap Unit) (k : Bytes) (op : Op)
    (hop : op = .fetch k ∨ op = .stat k) (hs : ovlFInv Fl Fu (ls, us, del)) :
    OvlFStep Fl Fu (ls, us, del) op ((overlayImpl lower upper).step (ls, us, del) op) := by
  obtain ⟨hl, hu, hD⟩ := hs
  have hD : KAsc del := hD
  have hwk : op.WK content := by rcases hop with rfl | rfl <;> trivial
  have hnext : ∀ m, next m op = m := by rcases hop with rfl | rfl <;> intro m <;> rfl
  obtain ⟨hi, hst, hq⟩ := Fu.sub us op hu hwk
  have hau := hst.read_abs (hnext _)
  obtain ⟨hi2, hst2, hq2⟩ := Fl.sub ls op hl hwk
  have hal := hst2.read_abs (hnext _)
  have hvis : out (ovlFAbs Fl Fu (ls, us, del)) op = _ :=
    out_live_read del (A := Fu.abs us) (Fl.good ls hl).1 hop
  rw [ovl_read_eq lower upper ls us del hop]
  generalize upper.step us op = pr at hi hst hq hau
  obtain ⟨us1, o⟩ := pr
  have habsL : ovlFAbs Fl Fu ((lower.step ls op).1, us1, del) = ovlFAbs Fl Fu (ls, us, del) := by
    show (union (Fu.abs us1) (Fl.abs (lower.step ls op).1)).filter _ = _
    rw [hau, hal]; rfl
  have habsU : ovlFAbs Fl Fu (ls, us1, del) = ovlFAbs Fl Fu (ls, us, del) := by
    show (union (Fu.abs us1) (Fl.abs ls)).filter _ = _
    rw [hau]; rfl
  cases hd : has del k with
  | true =>
    rw [hd] at hvis
    exact ⟨⟨hl, hu, hD⟩, StepSpec.exact hvis.symm (hnext _).symm id⟩
  | false =>
    rw [hd] at hvis
    simp only [Bool.false_eq_true, if_false] at hvis ⊢
    rcases hst with ⟨ho, _⟩ | ⟨ho, _⟩
    · cases hg : SMap.get (Fu.abs us) k with
      | some v =>
        have ho' : o = out (Fu.abs us) op := ho
        have hne : o ≠ .notExist := by rw [ho']; rcases hop with rfl | rfl <;> simp [out, hg]
        simp only [hg, Option.isSome_some, if_true] at hvis
        simp only
        exact ⟨⟨hl, hi, hD⟩, StepSpec.exact (ho'.trans hvis.symm) (habsU.trans (hnext _).symm)
          (fun hQ => ⟨hQ.1, (hq hQ.2).2.2⟩)⟩
      | none =>
        have ho' : o = .notExist := by
          rw [show o = out (Fu.abs us) op from ho]; rcases hop with rfl | rfl <;> simp [out, hg]
        subst ho'
        simp only [hg, Option.isSome_none, Bool.false_eq_true, if_false] at hvis
        refine ⟨⟨hi2, hi, hD⟩, ?_, fun hQ => ?_⟩
        · rcases hst2 with ⟨ho2, _⟩ | ⟨ho2, _⟩
          · exact Or.inl ⟨ho2.trans hvis.symm, habsL.trans (hnext _).symm⟩
          · exact Or.inr ⟨ho2, Or.inl habsL⟩
        · exact ⟨(hq2 hQ.1).1.trans hvis.symm, habsL.trans (hnext _).symm, (hq2 hQ.1).2.2,
            (hq hQ.2).2.2⟩
    · have ho' : o = .err := ho
      subst ho'
      refine ⟨⟨hl, hi, hD⟩, Or.inr ⟨rfl, Or.inl habsU⟩, fun hQ => ?_⟩
      exact absurd (hq hQ.2).1 (Ne.symm (out_ne_err _ _))

theorem ovl_enum_F (Fl : FRefines content lower) (Fu : FRefines content upper)
    (ls : lower.σ) (us : upper.σ) (del : SMap Unit) (after : Bytes) (limit : Nat)
    (hs : ovlFInv Fl Fu (ls, us, del)) :
    OvlFStep Fl Fu (ls, us, del) (.enum after limit)
      ((overlayImpl lower upper).step (ls, us, del) (.enum after limit)) := by
  obtain ⟨hl, hu, hD⟩ := hs
  have hD : KAsc del := hD
  obtain ⟨ls', us', r, hres, ha1, ha2, hi1, hi2, hr1, hr2⟩ :=
    overlayEnum_sub (enumSub_F Fl) (enumSub_F Fu) del (del.length + 2) ls us after limit [] hl hu
  have ht := tombAfter_le_del hD (kasc_union (Fu.abs us) (Fl.good ls hl).1) after
  have habs : ovlFAbs Fl Fu (ls', us', del) = ovlFAbs Fl Fu (ls, us, del) := by
    show (union (Fu.abs us') (Fl.abs ls')).filter _ = _
    rw [ha1, ha2]; rfl
  have hspec : out (ovlFAbs Fl Fu (ls, us, del)) (.enum after limit) =
      .refs ([] ++ ((entriesAfter (union (Fu.abs us) (Fl.abs ls)) after).filter
        (fun p => !has del p.1)).take limit) := by
    simp only [List.nil_append, out, ovlFAbs, enumOf_live]
  simp only [overlayImpl, hres]
  refine ⟨?_, ?_, fun hQ => ?_⟩
  · cases r <;> exact ⟨hi1, hi2, hD⟩
  · rcases hr1 with rfl | rfl
    · exact Or.inr ⟨rfl, Or.inl habs⟩
    · exact Or.inl ⟨hspec.symm, habs⟩
  · obtain ⟨hrr, hq'⟩ := hr2 hQ.1 hQ.2 (by omega) (fun _ _ => by omega)
    subst hrr
    exact ⟨hspec.symm, habs, hq'⟩

theorem ovl_step_F (Fl : FRefines content lower) (Fu : FRefines content upper)
    (s : (overlayImpl lower upper).σ) (op : Op) (hs : ovlFInv Fl Fu s) (hop : op.WK content) :
    OvlFStep Fl Fu s op ((overlayImpl lower upper).step s op) := by
  obtain ⟨ls, us, del⟩ := s
  cases op with
  | recv k v => exact ovl_write_F Fl Fu ls us del _ (Or.inl ⟨k, v, rfl⟩) hs hop
  | rm k => exact ovl_write_F Fl Fu ls us del _ (Or.inr ⟨k, rfl⟩) hs hop
  | fetch k => exact ovl_read_F Fl Fu ls us del k _ (Or.inl rfl) hs
  | stat k => exact ovl_read_F Fl Fu ls us del k _ (Or.inr rfl) hs
  | enum after limit => exact ovl_enum_F Fl Fu ls us del after limit hs

end FStep

/-- **overlay over fault-tolerant layers is fault-tolerant**: every step keeps the invariant and is
exact or answers `.err` with the visible contents at the before- or after-state of the operation;
with both layers quiet every step is exact and the layers stay quiet. -/
def overlayFRefines {content : Bytes → Bytes} {lower upper : Impl}
    (Fl : FRefines content lower) (Fu : FRefines content upper) :
    FRefines content (overlayImpl lower upper) where
  abs := ovlFAbs Fl Fu
  Inv := ovlFInv Fl Fu
  Quiet := ovlFQuiet Fl Fu
  init_inv := ⟨Fl.init_inv, Fu.init_inv, kasc_nil⟩
  init_abs := by
    show (union (Fu.abs upper.init) (Fl.abs lower.init)).filter _ = []
    rw [Fu.init_abs, Fl.init_abs]
    rfl
  good := ovlF_good Fl Fu
  step_ok := fun s op h hop => ⟨(ovl_step_F Fl Fu s op h hop).1, (ovl_step_F Fl Fu s op h hop).2.1⟩
  quiet_step := fun s op h hq hop => (ovl_step_F Fl Fu s op h hop).2.2 hq

end Pk.Stores
