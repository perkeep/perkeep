import PkVerif.Model.Receive
/-!
# C02: one step of the multipart loop and of `receiveInto`, by the outcome of `receive`

An outcome is either `.accepted d` or has `isAccepted = false`; each function of the upload paths
does one thing in the first case and one in the second.
-/
namespace Pk.Recv
open Pk Pk.RefMap

theorem Res.accepted_or (r : Res) : (∃ d, r = .accepted d) ∨ r.isAccepted = false := by
  cases r with
  | accepted d => exact Or.inl ⟨d, rfl⟩
  | corrupt | tooBig | srcErr | badHash => exact Or.inr rfl

theorem multipart_skip (max : Nat) (p : Part) (ps : List Part) (h : p.parses = false) :
    multipart max (p :: ps) = multipart max ps := by
  rw [multipart, h]; rfl

theorem multipart_accepted (max : Nat) (p : Part) (ps : List Part) (d : Bytes) (h : p.parses = true)
    (hr : receive max p.supported p.matches_ p.src = .accepted d) :
    multipart max (p :: ps) = (p.key, d.length) :: multipart max ps := by
  rw [multipart, h, hr]; rfl

theorem multipart_rejected (max : Nat) (p : Part) (ps : List Part) (h : p.parses = true)
    (hr : (receive max p.supported p.matches_ p.src).isAccepted = false) :
    multipart max (p :: ps) = [] := by
  rw [multipart, h]
  cases hx : receive max p.supported p.matches_ p.src with
  | accepted d => rw [hx] at hr; cases hr
  | corrupt | tooBig | srcErr | badHash => rfl

theorem receiveInto_accepted (I : Impl) (max : Nat) (sup : Bool) (mk : Bytes → Bool) (s : I.σ)
    (k : Bytes) (src : Src) (d : Bytes) (hr : receive max sup mk src = .accepted d) :
    (receiveInto I max sup mk s k src).state = (I.step s (.recv k d)).1 ∧
    ((I.step s (.recv k d)).2 = .sized d.length → (receiveInto I max sup mk s k src).hub = [k]) := by
  unfold receiveInto
  simp only [hr]
  generalize I.step s (.recv k d) = pr
  obtain ⟨s', o⟩ := pr
  cases o with
  | sized n => exact ⟨rfl, fun _ => rfl⟩
  | bytes _ | notExist | refs _ | ok | err => exact ⟨rfl, fun h => nomatch h⟩

theorem receiveInto_rejected (I : Impl) (max : Nat) (sup : Bool) (mk : Bytes → Bool) (s : I.σ)
    (k : Bytes) (src : Src) (hr : (receive max sup mk src).isAccepted = false) :
    receiveInto I max sup mk s k src = ⟨s, [], receive max sup mk src⟩ := by
  unfold receiveInto
  cases hx : receive max sup mk src with
  | accepted d => rw [hx] at hr; cases hr
  | corrupt | tooBig | srcErr | badHash => rfl

end Pk.Recv
