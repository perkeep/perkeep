import PkVerif.Spec.Share
/-! For C17: the model's link check decides `links`, its loop over the inner chain positions decides
`LinkPath`, the whole chain validation decides `ValidFrom` (the spec's `ValidChain` with the share's
transitivity exposed), and what follows for a request that is served. -/
namespace Pk.Share

theorem links_sub_textRefs (s : Stored) (t : Ref) (h : t ∈ links s.blob) : t ∈ textRefs s := by
  unfold textRefs
  cases hb : s.blob <;> simp_all [links, fieldRefs]
  -- left over: `staticSet`, whose links are its members or its merge sets
  rcases h with h | h <;> simp [h]

/-- the link check accepts exactly the genuine schema links -/
theorem bytesHaveSchemaLink_iff (s : Stored) (t : Ref) :
    bytesHaveSchemaLink s t = true ↔ t ∈ links s.blob := by
  constructor
  · intro h
    unfold bytesHaveSchemaLink at h
    split at h
    · cases h
    · cases hb : s.blob <;> simp_all [links]
  · intro h
    have ht := links_sub_textRefs s t h
    unfold bytesHaveSchemaLink
    have : (textRefs s).contains t = true := by simpa using ht
    simp only [this]
    cases hb : s.blob <;> simp_all [links]

/-- the old link check accepts only genuine schema links (but not all of them) -/
theorem bytesHaveSchemaLinkOld_sound (s : Stored) (t : Ref)
    (h : bytesHaveSchemaLinkOld s t = true) : t ∈ links s.blob := by
  unfold bytesHaveSchemaLinkOld at h
  split at h
  · cases h
  · cases hb : s.blob <;> simp_all [links]

theorem checkLinksWith_none_sound (link : Stored → Ref → Bool)
    (hl : ∀ s t, link s t = true → t ∈ links s.blob) (st : Store) (a : Ref) (l : List Ref)
    (h : checkLinksWith link st a l = none) : LinkPath st a l := by
  induction l generalizing a with
  | nil => trivial
  | cons b rest ih =>
    unfold checkLinksWith at h
    split at h
    · cases h
    · rename_i s hs
      split at h
      · exact ⟨⟨s, hs, hl s b ‹_›⟩, ih b h⟩
      · cases h

theorem checkLinksWith_none_complete (link : Stored → Ref → Bool)
    (hl : ∀ s t, t ∈ links s.blob → link s t = true) (st : Store) (a : Ref) (l : List Ref)
    (h : LinkPath st a l) : checkLinksWith link st a l = none := by
  induction l generalizing a with
  | nil => rfl
  | cons b rest ih =>
    obtain ⟨⟨s, hs, hm⟩, hp⟩ := h
    simp [checkLinksWith, hs, hl s b hm, ih b hp]

theorem isExpired_false_iff (now : Nat) (exp : Option Nat) :
    isExpired now exp = false ↔ Unexpired now exp := by
  cases exp with
  | none => simp [isExpired, Unexpired]
  | some t => simp [isExpired, Unexpired]

theorem chain_split (vb : List Ref) (r : Ref) :
    vb ++ [r] = chainHead vb r :: chainTail vb r := by
  cases vb <;> simp [chainHead, chainTail]

theorem parseVia_map_some (vb : List Ref) : parseVia (vb.map some) = some vb := by
  induction vb with
  | nil => rfl
  | cons v vs ih => simp [parseVia, ih]

theorem parseVia_eq_some_iff (via : List (Option Ref)) (vb : List Ref) :
    parseVia via = some vb ↔ via = vb.map some := by
  refine ⟨fun h => ?_, fun h => h ▸ parseVia_map_some vb⟩
  induction via generalizing vb with
  | nil => simp [parseVia] at h; subst h; rfl
  | cons x xs ih =>
    cases x with
    | none => simp [parseVia] at h
    | some r =>
      simp only [parseVia, Option.map_eq_some_iff] at h
      obtain ⟨w, hw, rfl⟩ := h
      simp [ih w hw]

/-- what the spec asks of the chain behind a share claim with this target and transitivity -/
def RestOK (e : Env) (tgt : Option Ref) (tr : Bool) (rest : List Ref) : Prop :=
  rest = [] ∨ ∃ c1 more, rest = c1 :: more ∧ tgt = some c1 ∧
    (more = [] ∨ (tr = true ∧ LinkPath e.store c1 more))

/-- what the spec asks of a chain `c0 :: rest` whose share claim has transitivity `tr` -/
def ValidFrom (e : Env) (c0 : Ref) (rest : List Ref) (tr : Bool) : Prop :=
  ∃ s0 tgt exp, e.store c0 = some s0 ∧ s0.blob = .share tgt tr exp ∧
    e.deleted c0 = false ∧ Unexpired e.now exp ∧ RestOK e tgt tr rest

theorem validChain_iff_validFrom (e : Env) (c0 : Ref) (rest : List Ref) :
    ValidChain e (c0 :: rest) ↔ ∃ tr, ValidFrom e c0 rest tr := by
  unfold ValidChain ValidFrom
  constructor
  · rintro ⟨s0, tgt, tr, exp, h⟩; exact ⟨tr, s0, tgt, exp, h⟩
  · rintro ⟨tr, s0, tgt, exp, h⟩; exact ⟨s0, tgt, tr, exp, h⟩

theorem validChain_head {e : Env} {c0 : Ref} {rest : List Ref} {s0 : Stored} {tgt : Option Ref}
    {tr : Bool} {exp : Option Nat} (h : ValidChain e (c0 :: rest)) (hs : e.store c0 = some s0)
    (hb : s0.blob = .share tgt tr exp) :
    e.deleted c0 = false ∧ Unexpired e.now exp ∧ RestOK e tgt tr rest := by
  obtain ⟨s0', tgt', tr', exp', hs', hb', h⟩ := h
  rw [hs] at hs'; cases hs'
  rw [hb] at hb'; cases hb'
  exact h

/-- soundness half of the loop, for any link check that accepts only genuine links -/
theorem validateWith_ok_sound (link : Stored → Ref → Bool)
    (hl : ∀ s t, link s t = true → t ∈ links s.blob) (e : Env) (c0 : Ref) (rest : List Ref)
    (tr : Bool) (h : validateWith link e c0 rest = .ok tr) : ValidFrom e c0 rest tr := by
  unfold validateWith at h
  by_cases hd : e.deleted c0 = true
  · rw [if_pos hd] at h; cases h
  rw [if_neg hd] at h
  cases hs : e.store c0 with
  | none => simp [hs] at h
  | some s0 =>
    cases hb : s0.blob with
    | share tgt trans exp =>
      simp only [hs, hb] at h
      by_cases hx : isExpired e.now exp = true
      · rw [if_pos hx] at h; cases h
      rw [if_neg hx] at h
      obtain ⟨rfl, hr⟩ : trans = tr ∧ RestOK e tgt trans rest := by
        cases rest with
        | nil => cases h; exact ⟨rfl, .inl rfl⟩
        | cons c1 more =>
          simp only at h
          by_cases ht : (tgt != some c1) = true
          · rw [if_pos ht] at h; cases h
          rw [if_neg ht] at h
          by_cases hm : (!more.isEmpty && !trans) = true
          · rw [if_pos hm] at h; cases h
          rw [if_neg hm] at h
          cases hc : checkLinksWith link e.store c1 more with
          | some err => simp [hc] at h
          | none =>
            simp only [hc] at h
            cases h
            refine ⟨rfl, .inr ⟨c1, more, rfl, by simpa using ht, ?_⟩⟩
            cases more with
            | nil => exact .inl rfl
            | cons _ _ => exact .inr ⟨by simpa using hm, checkLinksWith_none_sound link hl _ _ _ hc⟩
      exact ⟨s0, tgt, exp, hs, hb, by simpa using hd, (isExpired_false_iff _ _).1 (by simpa using hx), hr⟩
    | _ => simp [hs, hb] at h

/-- completeness half of the loop, for a link check that accepts every genuine link -/
theorem validateWith_ok_complete (link : Stored → Ref → Bool)
    (hl : ∀ s t, t ∈ links s.blob → link s t = true) (e : Env) (c0 : Ref) (rest : List Ref)
    (tr : Bool) (h : ValidFrom e c0 rest tr) : validateWith link e c0 rest = .ok tr := by
  obtain ⟨s0, tgt, exp, hs, hb, hdel, hun, hrest⟩ := h
  have hx : isExpired e.now exp = false := (isExpired_false_iff _ _).2 hun
  unfold validateWith
  simp only [hdel, hs, hb, hx]
  rcases hrest with rfl | ⟨c1, more, rfl, rfl, hmore⟩
  · simp
  · simp only [bne_self_eq_false]
    rcases hmore with rfl | ⟨rfl, hp⟩
    · simp [checkLinksWith]
    · simp [checkLinksWith_none_complete link hl e.store c1 more hp]

theorem validChain_of_validateWith {link : Stored → Ref → Bool}
    (hl : ∀ s t, link s t = true → t ∈ links s.blob) {e : Env} {c0 : Ref} {rest : List Ref} {tr : Bool}
    (h : validateWith link e c0 rest = .ok tr) : ValidChain e (c0 :: rest) :=
  (validChain_iff_validFrom e _ _).2 ⟨tr, validateWith_ok_sound link hl e _ _ tr h⟩

theorem finish_served {assemble tr : Bool} {b r : Ref} (h : (finish assemble tr b).served = some r) :
    r = b ∧ (assemble = true → tr = true) := by
  cases assemble <;> cases tr <;> simp_all [finish, Outcome.served]

/-- with any link check that accepts only genuine links: a request is served only on GET/HEAD, with
well-formed `via`, for the requested blob and along a valid chain; an assembled file only from a
transitive share -/
theorem handleWith_sound (link : Stored → Ref → Bool) (hl : ∀ s t, link s t = true → t ∈ links s.blob)
    (e : Env) (isGet : Bool) (via : List (Option Ref)) (blobRef : Ref) (assemble : Bool) (r : Ref)
    (h : (handleWith link e isGet via blobRef assemble).served = some r) :
    isGet = true ∧ r = blobRef ∧ ∃ vb, via = vb.map some ∧ ValidChain e (vb ++ [blobRef]) ∧
      (assemble = true → StartsTransitive e (vb ++ [blobRef])) := by
  unfold handleWith at h
  cases hg : isGet with
  | false => simp [hg, Outcome.served] at h
  | true =>
    simp only [hg] at h
    cases hp : parseVia via with
    | none => simp [hp, Outcome.served] at h
    | some vb =>
      simp only [hp] at h
      cases hv : validateWith link e (chainHead vb blobRef) (chainTail vb blobRef) with
      | error c => simp [hv, Outcome.served] at h
      | ok tr =>
        simp only [hv] at h
        have ⟨hr, htr⟩ := finish_served h
        refine ⟨rfl, hr, vb, (parseVia_eq_some_iff via vb).1 hp, ?_⟩
        rw [chain_split]
        refine ⟨validChain_of_validateWith hl hv, fun ha => ?_⟩
        cases htr ha
        have ⟨s0, tgt, exp, hs, hb, _⟩ := validateWith_ok_sound link hl e _ _ true hv
        exact ⟨s0, tgt, exp, hs, hb⟩

theorem linkPath_append (st : Store) (a : Ref) (l : List Ref) (b : Ref) :
    LinkPath st a (l ++ [b]) ↔ LinkPath st a l ∧ Link st ((a :: l).getLast (by simp)) b := by
  induction l generalizing a with
  | nil => simp [LinkPath]
  | cons x xs ih =>
    simp only [List.cons_append, LinkPath, ih x]
    constructor
    · rintro ⟨h1, h2, h3⟩; exact ⟨⟨h1, h2⟩, by simpa [List.getLast_cons] using h3⟩
    · rintro ⟨⟨h1, h2⟩, h3⟩; exact ⟨h1, h2, by simpa [List.getLast_cons] using h3⟩

end Pk.Share
