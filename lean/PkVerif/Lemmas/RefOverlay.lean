import PkVerif.Lemmas.RefMerge
/-! C01: the overlay combinator (pkg/blobserver/overlay/overlay.go) refines the reference map.

Everything is proved over layers that refine the map for received keys satisfying `K` (`RefinesK`);
the unrestricted statements are the instances at `K = fun _ => True` (`toTrueK`).

* `overlayEnum_sub`: the refill loop of `EnumerateBlobs`, over layers of which only the enumerate
  contract `EnumSub` is known (so that `FaultOverlay` can use it for layers that may fail): it returns
  exactly the first `remaining` live entries after the cursor, provided the fuel covers the rounds in
  which every merged entry was tombstoned (`del.length + 2` always does).
  `overlayEnum_spec_tombK` / `overlayEnum_spec` / `overlayEnum_spec_delK` are its refining instances.
* `overlay_fuel_limit_insufficient`: a fuel of `limit + 1` would NOT have been enough.
* `ovl_stepK`: one step, for arbitrary contents of both layers and arbitrary tombstones
  (abs = upper ∪ lower minus tombstoned keys); `overlayRefines` and `overlayRefinesK` package it.
-/
namespace Pk.Stores
open Pk Pk.SMap Pk.RefMap

theorem filter_take_split {α : Type} (p : α → Bool) (l : List α) (r : Nat) :
    (l.filter p).take r =
      (l.take r).filter p ++ ((l.drop r).filter p).take (r - ((l.take r).filter p).length) := by
  have h : l.filter p = (l.take r).filter p ++ (l.drop r).filter p := by
    rw [← List.filter_append, List.take_append_drop]
  have hl : ((l.take r).filter p).length ≤ r :=
    Nat.le_trans (List.length_filter_le _ _) (by rw [List.length_take]; exact Nat.min_le_left _ _)
  conv => lhs; rw [h]
  rw [List.take_append, List.take_of_length_le hl]

theorem length_filter_add {α : Type} (p : α → Bool) (l : List α) :
    (l.filter p).length + (l.filter (fun x => !p x)).length = l.length := by
  rw [← List.countP_eq_length_filter, ← List.countP_eq_length_filter, List.length_eq_countP_add_countP p]
  congr 2; funext a; cases p a <;> rfl

theorem filter_gt_last (ini post : List (Bytes × Nat)) (last : Bytes × Nat)
    (h : MergedEnum.PW (ini ++ last :: post)) :
    (ini ++ last :: post).filter (fun q => ltB last.1 q.1) = post := by
  induction ini with
  | nil =>
    have hall : ∀ x ∈ post, ltB last.1 x.1 = true := (List.pairwise_cons.mp h).1
    simp [ltB_irrefl, List.filter_eq_self.mpr hall]
  | cons a t ih =>
    have hal : ltB a.1 last.1 = true := (List.pairwise_cons.mp h).1 last (by simp)
    have : ltB last.1 a.1 = false := ltB_asymm _ _ hal
    simp only [List.cons_append, List.filter_cons, this, Bool.false_eq_true, if_false]
    exact ih (List.pairwise_cons.mp h).2

/-- all entries of `U` strictly after the cursor, as enumerate reports them -/
def entriesAfter (U : SMap Bytes) (c : Bytes) : List (Bytes × Nat) :=
  sizes (U.filter (fun p => ltB c p.1))

/-- the number of tombstoned entries of `U` after the cursor -/
def tombAfter (del : SMap Unit) (U : SMap Bytes) (c : Bytes) : Nat :=
  ((entriesAfter U c).filter (fun p => has del p.1)).length

theorem sizes_filter_key (p : Bytes → Bool) (m : SMap Bytes) :
    sizes (m.filter (fun q => p q.1)) = (sizes m).filter (fun q => p q.1) := by
  unfold sizes
  rw [List.filter_map]
  rfl

theorem enumOf_eq_take (U : SMap Bytes) (c : Bytes) (r : Nat) :
    enumOf U c r = (entriesAfter U c).take r := rfl

theorem pw_entriesAfter {U : SMap Bytes} (hU : KAsc U) (c : Bytes) :
    MergedEnum.PW (entriesAfter U c) := pw_sizes (kasc_filter _ hU)

theorem entriesAfter_last {U : SMap Bytes} (hU : KAsc U) (c : Bytes) (r : Nat)
    (ini : List (Bytes × Nat)) (last : Bytes × Nat)
    (h : (entriesAfter U c).take r = ini ++ [last]) :
    entriesAfter U last.1 = (entriesAfter U c).drop r := by
  have hsplit : entriesAfter U c = ini ++ last :: (entriesAfter U c).drop r := by
    have := List.take_append_drop r (entriesAfter U c)
    rw [h] at this
    simpa [List.append_assoc] using this.symm
  have hpw := pw_entriesAfter hU c
  have hmem : last ∈ entriesAfter U c := by rw [hsplit]; simp
  have hcl : ltB c last.1 = true := by
    unfold entriesAfter at hmem
    rw [sizes_filter_key] at hmem
    exact (List.mem_filter.mp hmem).2
  have h1 : entriesAfter U last.1 = (entriesAfter U c).filter (fun q => ltB last.1 q.1) := by
    unfold entriesAfter
    rw [sizes_filter_key, sizes_filter_key, List.filter_filter]
    apply List.filter_congr
    intro x _
    by_cases hx : ltB last.1 x.1 = true
    · simp [hx, ltB_trans _ _ _ hcl hx]
    · have : ltB last.1 x.1 = false := Bool.eq_false_iff.mpr hx
      simp [this]
  rw [h1]
  conv => lhs; rw [hsplit]
  rw [hsplit] at hpw
  exact filter_gt_last ini _ last hpw

/-! ### the refill loop

The loop only enumerates its layers.  `EnumSub` is what it needs of one layer: an enumerate call leaves
the contents alone and answers the spec's list or `.err`, the former whenever the layer is quiet (`Q`).
A refining layer is always quiet; a fault-tolerant one is quiet when `FRefines.Quiet` says so. -/

def EnumSub (content : Bytes → Bytes) (I : Impl) (abs : I.σ → SMap Bytes) (Inv Q : I.σ → Prop) : Prop :=
  ∀ s c r, Inv s → ∃ s1 o, I.step s (.enum c r) = (s1, o) ∧ abs s1 = abs s ∧ Inv s1 ∧
    Good content (abs s) ∧ (o = .refs (enumOf (abs s) c r) ∨ o = .err) ∧
    (Q s → o = .refs (enumOf (abs s) c r) ∧ Q s1)

theorem enumSub_K {content : Bytes → Bytes} {K : Bytes → Prop} {I : Impl} (R : RefinesK content K I) :
    EnumSub content I R.abs R.Inv (fun _ => True) := by
  intro s c r h
  obtain ⟨ho, ha, hi⟩ := R.step_ok s (.enum c r) h trivial trivial
  exact ⟨_, _, rfl, ha, hi, R.good s h, Or.inl ho, fun _ => ⟨ho, trivial⟩⟩

/-- content-addressing: which layer wins a tie does not matter -/
theorem union_comm_good {content : Bytes → Bytes} {A B : SMap Bytes} (hA : Good content A)
    (hB : Good content B) : union A B = union B A := by
  apply SMap.ext (kasc_union _ hB.1) (kasc_union _ hA.1)
  intro k
  rw [get_union, get_union]
  cases ha : SMap.get A k with
  | none => cases hb : SMap.get B k <;> rfl
  | some v =>
    cases hb : SMap.get B k with
    | none => rfl
    | some w => simp only [(hA.2 k v ha).1, (hB.2 k w hb).1]

theorem fuel_arith {a b c d r f : Nat} (hpart : a + b = r) (hsp : d = a + c) (hT : d + 2 ≤ f + 1)
    (hrem : r - b ≠ 0) : c + 2 ≤ f := by
  have hb : b < r := Nat.lt_of_sub_ne_zero hrem
  omega

/-- a round ended on a full page with live entries still wanted: at least one entry of the page was
tombstoned, so the rest needs one round less -/
theorem tomb_fuel_drop (del : SMap Unit) (E : List (Bytes × Nat)) (r f : Nat)
    (hT : (E.filter (fun p => has del p.1)).length + 2 ≤ f + 1)
    (hrem : r - ((E.take r).filter (fun p => !has del p.1)).length ≠ 0) (hrest : E.drop r ≠ []) :
    ((E.drop r).filter (fun p => has del p.1)).length + 2 ≤ f := by
  have hlen : (E.take r).length = r := by
    rw [List.length_take]
    exact Nat.min_eq_left (Nat.le_of_lt (Nat.lt_of_not_le fun h => hrest (List.drop_eq_nil_iff.mpr h)))
  have hpart := length_filter_add (fun p : Bytes × Nat => has del p.1) (E.take r)
  have hsp : (E.filter (fun p => has del p.1)).length =
      ((E.take r).filter (fun p => has del p.1)).length +
        ((E.drop r).filter (fun p => has del p.1)).length := by
    rw [← List.length_append, ← List.filter_append, List.take_append_drop]
  exact fuel_arith (hpart.trans hlen) hsp hT hrem

section Loop
variable {content : Bytes → Bytes} {lower upper : Impl} {absL : lower.σ → SMap Bytes}
  {InvL QL : lower.σ → Prop} {absU : upper.σ → SMap Bytes} {InvU QU : upper.σ → Prop}

theorem ovl_round (hL : EnumSub content lower absL InvL QL) (hU : EnumSub content upper absU InvU QU)
    (del : SMap Unit) (fuel : Nat) (ls : lower.σ) (us : upper.σ)
    (after : Bytes) (remaining : Nat) (acc : List (Bytes × Nat))
    (hl : InvL ls) (hu : InvU us) (hr : remaining ≠ 0) :
    ∃ ls1 us1, absL ls1 = absL ls ∧ absU us1 = absU us ∧ InvL ls1 ∧ InvU us1 ∧
      (QL ls → QU us → QL ls1 ∧ QU us1) ∧
      ((overlayEnum lower upper del (fuel + 1) ls us after remaining acc = (ls1, us1, none) ∧
          ¬ (QL ls ∧ QU us)) ∨
        overlayEnum lower upper del (fuel + 1) ls us after remaining acc =
          match (enumOf (union (absU us) (absL ls)) after remaining).getLast? with
          | none => (ls1, us1, some acc)
          | some last =>
            overlayEnum lower upper del fuel ls1 us1 last.1
              (remaining - ((enumOf (union (absU us) (absL ls)) after remaining).filter
                (fun p => !has del p.1)).length)
              (acc ++ (enumOf (union (absU us) (absL ls)) after remaining).filter
                (fun p => !has del p.1))) := by
  obtain ⟨ls1, o1, h1, ha1, hi1, hgl, ho1, hq1⟩ := hL ls after remaining hl
  obtain ⟨us1, o2, h2, ha2, hi2, hgu, ho2, hq2⟩ := hU us after remaining hu
  refine ⟨ls1, us1, ha1, ha2, hi1, hi2, fun hQl hQu => ⟨(hq1 hQl).2, (hq2 hQu).2⟩, ?_⟩
  rw [overlayEnum]
  simp only [hr, if_false, h1, h2]
  rcases ho1 with rfl | rfl
  · rcases ho2 with rfl | rfl
    · right
      simp only
      rw [enum2_spec hgl hgu, union_comm_good hgl hgu]
      cases (enumOf (union (absU us) (absL ls)) after remaining).getLast? <;> rfl
    · exact Or.inl ⟨rfl, fun hQ => nomatch (hq2 hQ.2).1⟩
  · exact Or.inl ⟨rfl, fun hQ => nomatch (hq1 hQ.1).1⟩

/-- **the refill loop, any fuel**: the layers' contents and invariants survive; the
answer is `none` (a sub-enumeration failed, or the fuel ran out) or exactly the spec's list; and with
both layers quiet and enough fuel it is the spec's list, the layers staying quiet -/
theorem overlayEnum_sub (hL : EnumSub content lower absL InvL QL) (hU : EnumSub content upper absU InvU QU)
    (del : SMap Unit) :
    ∀ (fuel : Nat) (ls : lower.σ) (us : upper.σ) (after : Bytes) (remaining : Nat)
      (acc : List (Bytes × Nat)), InvL ls → InvU us →
      ∃ ls' us' r, overlayEnum lower upper del fuel ls us after remaining acc = (ls', us', r) ∧
        absL ls' = absL ls ∧ absU us' = absU us ∧ InvL ls' ∧ InvU us' ∧
        (r = none ∨ r = some (acc ++ ((entriesAfter (union (absU us) (absL ls)) after).filter
            (fun p => !has del p.1)).take remaining)) ∧
        (QL ls → QU us → 1 ≤ fuel →
          (remaining ≠ 0 → entriesAfter (union (absU us) (absL ls)) after ≠ [] →
            tombAfter del (union (absU us) (absL ls)) after + 2 ≤ fuel) →
          r = some (acc ++ ((entriesAfter (union (absU us) (absL ls)) after).filter
            (fun p => !has del p.1)).take remaining) ∧ QL ls' ∧ QU us') := by
  intro fuel
  induction fuel with
  | zero =>
    intro ls us after remaining acc hl hu
    exact ⟨ls, us, none, rfl, rfl, rfl, hl, hu, Or.inl rfl, fun _ _ h => by cases h⟩
  | succ f ih =>
    intro ls us after remaining acc hl hu
    by_cases hr : remaining = 0
    · subst hr
      refine ⟨ls, us, some acc, ?_, rfl, rfl, hl, hu, Or.inr (by simp),
        fun hQl hQu _ _ => ⟨by simp, hQl, hQu⟩⟩
      rw [overlayEnum]; simp
    · obtain ⟨-, -, -, -, -, hgl, -⟩ := hL ls after remaining hl
      obtain ⟨ls1, us1, ha1, ha2, hi1, hi2, hq12, hstep⟩ :=
        ovl_round hL hU del f ls us after remaining acc hl hu hr
      have hUk : KAsc (union (absU us) (absL ls)) := kasc_union _ hgl.1
      have hU1 : union (absU us1) (absL ls1) = union (absU us) (absL ls) := by rw [ha2, ha1]
      obtain ⟨U, hU⟩ : ∃ U, U = union (absU us) (absL ls) := ⟨_, rfl⟩
      rw [← hU] at hstep hUk hU1 ⊢
      rcases hstep with ⟨hbad, hnq⟩ | hstep
      · exact ⟨ls1, us1, none, hbad, ha1, ha2, hi1, hi2, Or.inl rfl,
          fun hQl hQu => absurd ⟨hQl, hQu⟩ hnq⟩
      rw [hstep, enumOf_eq_take]
      cases hg : ((entriesAfter U after).take remaining).getLast? with
      | none =>
        have hE : entriesAfter U after = [] :=
          (List.take_eq_nil_iff.mp (List.getLast?_eq_none_iff.mp hg)).resolve_left hr
        exact ⟨ls1, us1, some acc, rfl, ha1, ha2, hi1, hi2, Or.inr (by simp [hE]),
          fun hQl hQu _ _ => ⟨by simp [hE], hq12 hQl hQu⟩⟩
      | some last =>
        obtain ⟨ini, hini⟩ := List.getLast?_eq_some_iff.mp hg
        have hdrop := entriesAfter_last hUk after remaining ini last hini
        have hne : entriesAfter U after ≠ [] := by
          intro h; rw [h, List.take_nil] at hg; cases hg
        obtain ⟨ls', us', r, hres, hb1, hb2, hj1, hj2, hr1, hr2⟩ :=
          ih ls1 us1 last.1 (remaining - (((entriesAfter U after).take remaining).filter
              (fun p => !has del p.1)).length)
            (acc ++ ((entriesAfter U after).take remaining).filter
              (fun p => !has del p.1)) hi1 hi2
        unfold tombAfter at hr2
        rw [hU1, hdrop] at hr1 hr2
        rw [filter_take_split _ (entriesAfter U after) remaining, ← List.append_assoc]
        refine ⟨ls', us', r, hres, hb1.trans ha1, hb2.trans ha2, hj1, hj2, hr1, ?_⟩
        intro hQl hQu _ hfuel
        have hT := hfuel hr hne
        obtain ⟨hQl1, hQu1⟩ := hq12 hQl hQu
        exact hr2 hQl1 hQu1 (by omega) (tomb_fuel_drop del _ remaining f hT)

end Loop

/-- **the refill loop over refining layers.**  With `U` the union of the layers: if the fuel is at
least 1 and, when there is something to do, at least (number of tombstoned entries of `U` after the
cursor) + 2, the loop returns `acc` followed by the first `remaining` live entries of `U` after the
cursor, and leaves the layers' contents unchanged. -/
theorem overlayEnum_spec_tombK {content : Bytes → Bytes} {K : Bytes → Prop} {lower upper : Impl}
    (Rl : RefinesK content K lower) (Ru : RefinesK content K upper) (del : SMap Unit) :
    ∀ (fuel : Nat) (ls : lower.σ) (us : upper.σ) (after : Bytes) (remaining : Nat)
      (acc : List (Bytes × Nat)),
      Rl.Inv ls → Ru.Inv us → 1 ≤ fuel →
      (remaining ≠ 0 → entriesAfter (union (Ru.abs us) (Rl.abs ls)) after ≠ [] →
        tombAfter del (union (Ru.abs us) (Rl.abs ls)) after + 2 ≤ fuel) →
      ∃ ls' us', overlayEnum lower upper del fuel ls us after remaining acc =
          (ls', us', some (acc ++ ((entriesAfter (union (Ru.abs us) (Rl.abs ls)) after).filter
            (fun p => !has del p.1)).take remaining)) ∧
        Rl.abs ls' = Rl.abs ls ∧ Ru.abs us' = Ru.abs us ∧ Rl.Inv ls' ∧ Ru.Inv us' := by
  intro fuel ls us after remaining acc hl hu h1 hfuel
  obtain ⟨ls', us', r, hres, ha1, ha2, hi1, hi2, -, hq⟩ :=
    overlayEnum_sub (enumSub_K Rl) (enumSub_K Ru) del fuel ls us after remaining acc hl hu
  obtain ⟨hr, -⟩ := hq trivial trivial h1 hfuel
  exact ⟨ls', us', by rw [hres, hr], ha1, ha2, hi1, hi2⟩

theorem length_del_of_has {V : Type} (k : Bytes) (m : SMap V) (h : has m k = true) :
    (SMap.del k m).length + 1 = m.length := by
  induction m with
  | nil => simp [has, SMap.get] at h
  | cons p rest ih =>
    obtain ⟨k', u⟩ := p
    simp only [SMap.del]
    by_cases hk : k = k'
    · simp [hk]
    · simp only [has, SMap.get, hk, if_false] at h
      simp only [hk, if_false, List.length_cons]
      rw [ih h]

/-- the keys of an ascending list are distinct, so each tombstone is counted at most once -/
theorem dead_le_del : ∀ (X : List (Bytes × Nat)) (del : SMap Unit), KAsc del → MergedEnum.PW X →
    (X.filter (fun p => has del p.1)).length ≤ del.length := by
  intro X
  induction X with
  | nil => intro del _ _; simp
  | cons x t ih =>
    intro del hd hX
    have ht : MergedEnum.PW t := (List.pairwise_cons.mp hX).2
    by_cases hx : has del x.1 = true
    · have hcongr : t.filter (fun p => has del p.1) = t.filter (fun p => has (SMap.del x.1 del) p.1) := by
        apply List.filter_congr
        intro q hq
        have hlt : ltB x.1 q.1 = true := (List.pairwise_cons.mp hX).1 q hq
        have hne : q.1 ≠ x.1 := by intro e; rw [e, ltB_irrefl] at hlt; cases hlt
        rw [has_del x.1 hd]; simp [hne]
      have := ih (SMap.del x.1 del) (kasc_del _ hd) ht
      have hlen := length_del_of_has x.1 del hx
      simp only [List.filter_cons, hx, if_true, List.length_cons, hcongr]
      omega
    · simp only [List.filter_cons, hx]
      exact ih del hd ht

theorem tombAfter_le_del {del : SMap Unit} (hd : KAsc del) {U : SMap Bytes} (hU : KAsc U)
    (c : Bytes) : tombAfter del U c ≤ del.length :=
  dead_le_del _ del hd (pw_entriesAfter hU c)

theorem tombAfter_le_length (del : SMap Unit) (U : SMap Bytes) (c : Bytes) :
    tombAfter del U c ≤ (entriesAfter U c).length := List.length_filter_le _ _

theorem enumOf_live (del : SMap Unit) (U : SMap Bytes) (after : Bytes) (limit : Nat) :
    enumOf (U.filter (fun p => !has del p.1)) after limit =
      ((entriesAfter U after).filter (fun p => !has del p.1)).take limit := by
  have h := sizes_filter_key (fun k => !has del k) (U.filter (fun p => ltB after p.1))
  unfold enumOf entriesAfter
  rw [← h, List.filter_filter, List.filter_filter]
  congr 3
  funext p
  exact Bool.and_comm _ _

/-- **the refill loop, fuel by the number of entries**: any fuel exceeding
(number of entries of the union after the cursor) + 1 is enough. -/
theorem overlayEnum_spec {content : Bytes → Bytes} {lower upper : Impl}
    (Rl : Refines content lower) (Ru : Refines content upper) (del : SMap Unit)
    (fuel : Nat) (ls : lower.σ) (us : upper.σ) (after : Bytes) (remaining : Nat)
    (acc : List (Bytes × Nat)) (hl : Rl.Inv ls) (hu : Ru.Inv us)
    (hfuel : (entriesAfter (union (Ru.abs us) (Rl.abs ls)) after).length + 1 < fuel) :
    ∃ ls' us', overlayEnum lower upper del fuel ls us after remaining acc =
        (ls', us', some (acc ++ enumOf ((union (Ru.abs us) (Rl.abs ls)).filter
          (fun p => !has del p.1)) after remaining)) ∧
      Rl.abs ls' = Rl.abs ls ∧ Ru.abs us' = Ru.abs us ∧ Rl.Inv ls' ∧ Ru.Inv us' := by
  rw [enumOf_live]
  apply overlayEnum_spec_tombK (toTrueK Rl) (toTrueK Ru) del fuel ls us after remaining acc hl hu
    (by omega)
  intro _ _
  have := tombAfter_le_length del (union (Ru.abs us) (Rl.abs ls)) after
  show tombAfter del (union (Ru.abs us) (Rl.abs ls)) after + 2 ≤ fuel
  omega

/-- **the refill loop, fuel computable from the model state**: `del.length + 2` rounds are enough
(every round that does not finish sees at least one new tombstoned entry). -/
theorem overlayEnum_spec_delK {content : Bytes → Bytes} {K : Bytes → Prop} {lower upper : Impl}
    (Rl : RefinesK content K lower) (Ru : RefinesK content K upper) (del : SMap Unit) (hd : KAsc del)
    (fuel : Nat) (ls : lower.σ) (us : upper.σ) (after : Bytes) (remaining : Nat)
    (acc : List (Bytes × Nat)) (hl : Rl.Inv ls) (hu : Ru.Inv us)
    (hfuel : del.length + 2 ≤ fuel) :
    ∃ ls' us', overlayEnum lower upper del fuel ls us after remaining acc =
        (ls', us', some (acc ++ enumOf ((union (Ru.abs us) (Rl.abs ls)).filter
          (fun p => !has del p.1)) after remaining)) ∧
      Rl.abs ls' = Rl.abs ls ∧ Ru.abs us' = Ru.abs us ∧ Rl.Inv ls' ∧ Ru.Inv us' := by
  rw [enumOf_live]
  apply overlayEnum_spec_tombK Rl Ru del fuel ls us after remaining acc hl hu (by omega)
  intro _ _
  have := tombAfter_le_del hd (kasc_union (Ru.abs us) (Rl.good ls hl).1) after
  omega

theorem overlayEnum_spec_del {content : Bytes → Bytes} {lower upper : Impl}
    (Rl : Refines content lower) (Ru : Refines content upper) (del : SMap Unit) (hd : KAsc del)
    (fuel : Nat) (ls : lower.σ) (us : upper.σ) (after : Bytes) (remaining : Nat)
    (acc : List (Bytes × Nat)) (hl : Rl.Inv ls) (hu : Ru.Inv us)
    (hfuel : del.length + 2 ≤ fuel) :
    ∃ ls' us', overlayEnum lower upper del fuel ls us after remaining acc =
        (ls', us', some (acc ++ enumOf ((union (Ru.abs us) (Rl.abs ls)).filter
          (fun p => !has del p.1)) after remaining)) ∧
      Rl.abs ls' = Rl.abs ls ∧ Ru.abs us' = Ru.abs us ∧ Rl.Inv ls' ∧ Ru.Inv us' :=
  overlayEnum_spec_delK (toTrueK Rl) (toTrueK Ru) del hd fuel ls us after remaining acc hl hu hfuel

/-- **a fuel of `limit + 1` would NOT have been enough**: lower layer {[1],[2],[3]}, tombstones
{[1],[2]}, `enum "" 1`.  The spec (and overlay.go, whose loop is unbounded) answer `[([3], 1)]`; with
fuel `limit + 1 = 2` the loop gives up after two all-tombstoned rounds, with `del.length + 2 = 4` it
answers the spec's list. -/
theorem overlay_fuel_limit_insufficient :
    (overlayEnum memImpl memImpl [([1], ()), ([2], ())] 2
        ([([1], [7]), ([2], [8]), ([3], [9])] : SMap Bytes) ([] : SMap Bytes) [] 1 []).2.2 = none ∧
    (overlayEnum memImpl memImpl [([1], ()), ([2], ())] 4
        ([([1], [7]), ([2], [8]), ([3], [9])] : SMap Bytes) ([] : SMap Bytes) [] 1 []).2.2 =
      some [([3], 1)] := by
  decide +kernel

theorem get_live (D : SMap Unit) {U : SMap Bytes} (hU : KAsc U) (x : Bytes) :
    SMap.get (U.filter (fun p => !has D p.1)) x = if has D x then none else SMap.get U x := by
  have h := get_filter_key (fun k => !has D k) U x
  rw [h]
  cases has D x <;> simp

theorem good_live {content : Bytes → Bytes} (D : SMap Unit) {U : SMap Bytes} (hU : Good content U) :
    Good content (U.filter (fun p => !has D p.1)) := by
  refine ⟨kasc_filter _ hU.1, ?_⟩
  intro k v h
  rw [get_live D hU.1] at h
  cases hd : has D k with
  | true => simp [hd] at h
  | false => simp only [hd, Bool.false_eq_true, if_false] at h; exact hU.2 k v h

/-- what a step does to the tombstones -/
def ovlDel : Op → SMap Unit → SMap Unit
  | .recv k _, D => SMap.del k D
  | .rm k, D => ins k () D
  | _, D => D

theorem kasc_ovlDel (op : Op) {D : SMap Unit} (hD : KAsc D) : KAsc (ovlDel op D) := by
  cases op <;> simp only [ovlDel] <;> first | exact hD | exact kasc_del _ hD | exact kasc_ins _ _ hD

/-- the upper layer takes the step, the tombstones are updated: the visible map takes the step -/
theorem ovl_abs_next {content : Bytes → Bytes} {A B : SMap Bytes} {D : SMap Unit}
    (hA : Good content A) (hB : Good content B) (hD : KAsc D) (op : Op) (hop : op.WK content) :
    (union (next A op) B).filter (fun p => !has (ovlDel op D) p.1) =
      next ((union A B).filter (fun p => !has D p.1)) op := by
  have hU : Good content (union A B) := good_union hA hB
  have hM := good_live D hU
  cases op with
  | fetch _ => rfl
  | stat _ => rfl
  | enum _ _ => rfl
  | recv k v =>
    have hA' := good_next hA (.recv k v) hop
    apply SMap.ext (kasc_filter _ (kasc_union _ hB.1)) (good_next hM (.recv k v) hop).1
    intro x
    simp only [ovlDel]
    rw [get_live _ (kasc_union _ hB.1), get_union, get_next_recv hA hop.1, has_del k hD,
      get_next_recv hM hop.1, get_live D hU.1, get_union]
    by_cases hx : x = k
    · simp [hx]
    · simp [hx]
  | rm k =>
    apply SMap.ext (kasc_filter _ (kasc_union _ hB.1)) (kasc_del _ hM.1)
    intro x
    simp only [ovlDel, next]
    rw [get_live _ (kasc_union _ hB.1), get_union, get_del k hA.1, has_ins, get_del k hM.1,
      get_live D hU.1, get_union]
    by_cases hx : x = k
    · simp [hx]
    · simp [hx]

theorem ovl_read_eq (lower upper : Impl) (ls : lower.σ) (us : upper.σ) (del : SMap Unit) {k : Bytes}
    {op : Op} (hop : op = .fetch k ∨ op = .stat k) :
    (overlayImpl lower upper).step (ls, us, del) op =
      if has del k then ((ls, us, del), .notExist)
      else
        match upper.step us op with
        | (us1, .notExist) =>
          match lower.step ls op with
          | (ls1, o) => ((ls1, us1, del), o)
        | (us1, o) => ((ls, us1, del), o) := by
  rcases hop with rfl | rfl <;> rfl

theorem out_live_read (D : SMap Unit) {A B : SMap Bytes} (hB : KAsc B) {k : Bytes} {op : Op}
    (hop : op = .fetch k ∨ op = .stat k) :
    out ((union A B).filter (fun p => !has D p.1)) op =
      if has D k then .notExist else if (SMap.get A k).isSome then out A op else out B op := by
  rcases hop with rfl | rfl <;>
    simp only [out, get_live D (kasc_union A hB), get_union] <;>
    cases has D k <;> cases SMap.get A k <;> rfl

section Step
variable {content : Bytes → Bytes} {K : Bytes → Prop} {lower upper : Impl}

/-- the visible map: upper wins, tombstoned keys hidden -/
def ovlAbsK (Rl : RefinesK content K lower) (Ru : RefinesK content K upper)
    (s : (overlayImpl lower upper).σ) : SMap Bytes :=
  (union (Ru.abs s.2.1) (Rl.abs s.1)).filter (fun p => !has s.2.2 p.1)

def ovlInvK (Rl : RefinesK content K lower) (Ru : RefinesK content K upper)
    (s : (overlayImpl lower upper).σ) : Prop :=
  Rl.Inv s.1 ∧ Ru.Inv s.2.1 ∧ KAsc s.2.2

/-- what a step `s --op--> r` of the overlay must satisfy, component by component: the answer is the
reference map's, the lower layer's contents are untouched, the upper layer took the step, the
tombstones were updated -/
def OvlStepK (Rl : RefinesK content K lower) (Ru : RefinesK content K upper)
    (s : (overlayImpl lower upper).σ) (op : Op) (r : (overlayImpl lower upper).σ × Out) : Prop :=
  r.2 = out (ovlAbsK Rl Ru s) op ∧ Rl.abs r.1.1 = Rl.abs s.1 ∧
    Ru.abs r.1.2.1 = next (Ru.abs s.2.1) op ∧ r.1.2.2 = ovlDel op s.2.2 ∧
    Rl.Inv r.1.1 ∧ Ru.Inv r.1.2.1

theorem ovl_goodK (Rl : RefinesK content K lower) (Ru : RefinesK content K upper)
    (s : (overlayImpl lower upper).σ) (h : ovlInvK Rl Ru s) : Good content (ovlAbsK Rl Ru s) :=
  good_live _ (good_union (Ru.good _ h.2.1) (Rl.good _ h.1))

theorem OvlStepK.ok {Rl : RefinesK content K lower} {Ru : RefinesK content K upper}
    {s : (overlayImpl lower upper).σ} {op : Op} {r : (overlayImpl lower upper).σ × Out}
    (h : OvlStepK Rl Ru s op r) (hs : ovlInvK Rl Ru s) (hop : op.WK content) :
    r.2 = out (ovlAbsK Rl Ru s) op ∧ ovlAbsK Rl Ru r.1 = next (ovlAbsK Rl Ru s) op ∧
      ovlInvK Rl Ru r.1 := by
  obtain ⟨ho, hal, hau, hd, hil, hiu⟩ := h
  refine ⟨ho, ?_, hil, hiu, by rw [hd]; exact kasc_ovlDel op hs.2.2⟩
  unfold ovlAbsK
  rw [hal, hau, hd]
  exact ovl_abs_next (Ru.good _ hs.2.1) (Rl.good _ hs.1) hs.2.2 op hop

theorem ovl_writeK (Rl : RefinesK content K lower) (Ru : RefinesK content K upper)
    (ls : lower.σ) (us : upper.σ) (del : SMap Unit) (op : Op)
    (hw : (∃ k v, op = .recv k v) ∨ ∃ k, op = .rm k)
    (hs : ovlInvK Rl Ru (ls, us, del)) (hop : op.WK content) (hK : op.KOK K) :
    OvlStepK Rl Ru (ls, us, del) op ((overlayImpl lower upper).step (ls, us, del) op) := by
  obtain ⟨ho, ha, hi⟩ := Ru.step_ok us op hs.2.1 hop hK
  rcases hw with ⟨k, v, rfl⟩ | ⟨k, rfl⟩
  all_goals
    simp only [overlayImpl]
    generalize upper.step us _ = pr at ho ha hi
    obtain ⟨us1, o⟩ := pr
    subst ho
    exact ⟨rfl, rfl, ha, rfl, hs.1, hi⟩

theorem ovl_readK (Rl : RefinesK content K lower) (Ru : RefinesK content K upper)
    (ls : lower.σ) (us : upper.σ) (del : SMap Unit) (k : Bytes) (op : Op)
    (hr : op = .fetch k ∨ op = .stat k) (hs : ovlInvK Rl Ru (ls, us, del)) :
    OvlStepK Rl Ru (ls, us, del) op ((overlayImpl lower upper).step (ls, us, del) op) := by
  obtain ⟨hl, hu, -⟩ := hs
  have hwk : op.WK content ∧ op.KOK K := by rcases hr with rfl | rfl <;> exact ⟨trivial, trivial⟩
  have hnext : ∀ m, next m op = m := by rcases hr with rfl | rfl <;> intro m <;> rfl
  obtain ⟨ho, ha, hi⟩ := Ru.step_ok us op hu hwk.1 hwk.2
  obtain ⟨ho2, ha2, hi2⟩ := Rl.step_ok ls op hl hwk.1 hwk.2
  rw [hnext] at ha ha2
  have hout := out_live_read del (A := Ru.abs us) (Rl.good ls hl).1 hr
  rw [ovl_read_eq lower upper ls us del hr]
  unfold OvlStepK ovlAbsK
  rw [hnext, hout]
  have hD : del = ovlDel op del := by rcases hr with rfl | rfl <;> rfl
  cases has del k with
  | true => exact ⟨rfl, rfl, rfl, hD, hl, hu⟩
  | false =>
    simp only [Bool.false_eq_true, if_false]
    generalize upper.step us op = pr at ho ha hi
    obtain ⟨us1, o⟩ := pr
    cases hg : SMap.get (Ru.abs us) k with
    | some v =>
      have ho' : o = out (Ru.abs us) op := ho
      -- not named below: `simp only` needs it in the context to take the last branch of the `match`
      have hne : o ≠ .notExist := by
        rw [ho']; rcases hr with rfl | rfl <;> simp [out, hg]
      simp only [Option.isSome_some, if_true]
      exact ⟨ho', trivial, ha, hD, hl, hi⟩
    | none =>
      have ho' : o = .notExist := by
        rw [show o = out (Ru.abs us) op from ho]; rcases hr with rfl | rfl <;> simp [out, hg]
      subst ho'
      exact ⟨ho2, ha2, ha, hD, hi2, hi⟩

theorem ovl_stepK (Rl : RefinesK content K lower) (Ru : RefinesK content K upper)
    (s : (overlayImpl lower upper).σ) (op : Op) (hs : ovlInvK Rl Ru s) (hop : op.WK content)
    (hK : op.KOK K) :
    ((overlayImpl lower upper).step s op).2 = out (ovlAbsK Rl Ru s) op ∧
    ovlAbsK Rl Ru ((overlayImpl lower upper).step s op).1 = next (ovlAbsK Rl Ru s) op ∧
    ovlInvK Rl Ru ((overlayImpl lower upper).step s op).1 := by
  obtain ⟨ls, us, del⟩ := s
  cases op with
  | enum after limit =>
    have hD : KAsc del := hs.2.2
    have ht := tombAfter_le_del hD (kasc_union (Ru.abs us) (Rl.good ls hs.1).1) after
    obtain ⟨ls', us', hres, ha1, ha2, hi1, hi2⟩ := overlayEnum_spec_tombK Rl Ru del
      (del.length + 2) ls us after limit [] hs.1 hs.2.1 (by omega) (fun _ _ => by omega)
    simp only [overlayImpl, hres]
    exact OvlStepK.ok (r := ((ls', us', del), .refs _))
      ⟨by simp only [List.nil_append, out, ovlAbsK, enumOf_live], ha1, ha2, rfl, hi1, hi2⟩ hs hop
  | recv k v => exact (ovl_writeK Rl Ru ls us del _ (Or.inl ⟨k, v, rfl⟩) hs hop hK).ok hs hop
  | rm k => exact (ovl_writeK Rl Ru ls us del _ (Or.inr ⟨k, rfl⟩) hs hop hK).ok hs hop
  | fetch k => exact (ovl_readK Rl Ru ls us del k _ (Or.inl rfl) hs).ok hs hop
  | stat k => exact (ovl_readK Rl Ru ls us del k _ (Or.inr rfl) hs).ok hs hop

theorem ovl_init_absK (Rl : RefinesK content K lower) (Ru : RefinesK content K upper) :
    ovlAbsK Rl Ru (lower.init, upper.init, []) = [] := by
  show (union (Ru.abs upper.init) (Rl.abs lower.init)).filter _ = []
  rw [Ru.init_abs, Rl.init_abs]
  rfl

end Step

section Packaged
variable {content : Bytes → Bytes} {lower upper : Impl}

/-- `ovlAbsK` at the trivial key predicate (`ovlAbs_eq`) -/
def ovlAbs (Rl : Refines content lower) (Ru : Refines content upper)
    (s : (overlayImpl lower upper).σ) : SMap Bytes :=
  (union (Ru.abs s.2.1) (Rl.abs s.1)).filter (fun p => !has s.2.2 p.1)

/-- `ovlInvK` at the trivial key predicate -/
def ovlInv (Rl : Refines content lower) (Ru : Refines content upper)
    (s : (overlayImpl lower upper).σ) : Prop :=
  Rl.Inv s.1 ∧ Ru.Inv s.2.1 ∧ KAsc s.2.2

theorem ovlAbs_eq (Rl : Refines content lower) (Ru : Refines content upper) :
    ovlAbs Rl Ru = ovlAbsK (toTrueK Rl) (toTrueK Ru) ∧ ovlInv Rl Ru = ovlInvK (toTrueK Rl) (toTrueK Ru) :=
  ⟨rfl, rfl⟩

theorem ovl_good (Rl : Refines content lower) (Ru : Refines content upper)
    (s : (overlayImpl lower upper).σ) (h : ovlInv Rl Ru s) : Good content (ovlAbs Rl Ru s) :=
  ovl_goodK (toTrueK Rl) (toTrueK Ru) s h

end Packaged

theorem ovl_init_abs {content : Bytes → Bytes} {lower upper : Impl} (Rl : Refines content lower)
    (Ru : Refines content upper) : ovlAbs Rl Ru (lower.init, upper.init, []) = [] :=
  ovl_init_absK (toTrueK Rl) (toTrueK Ru)

/-- **overlay refines the reference map whenever both layers do**, for ANY contents of the layers
and ANY tombstones: abs (ls, us, del) = (upper ∪ lower, upper wins) minus the tombstoned keys;
invariant = the layers' invariants and `KAsc del`.  The lower layer only ever sees fetch, stat and
enumerate. -/
def overlayRefines {content : Bytes → Bytes} {lower upper : Impl}
    (Rl : Refines content lower) (Ru : Refines content upper) :
    Refines content (overlayImpl lower upper) where
  abs := ovlAbs Rl Ru
  Inv := ovlInv Rl Ru
  init_inv := ⟨Rl.init_inv, Ru.init_inv, kasc_nil⟩
  init_abs := ovl_init_abs Rl Ru
  good := ovl_good Rl Ru
  step_ok := by
    intro s op hs hop
    have p := ovl_stepK (toTrueK Rl) (toTrueK Ru) s op hs hop (kok_true op)
    exact ⟨p.1, p.2.1, p.2.2⟩

theorem overlayRefines_abs {content : Bytes → Bytes} {lower upper : Impl}
    (Rl : Refines content lower) (Ru : Refines content upper) (ls : lower.σ) (us : upper.σ)
    (del : SMap Unit) :
    (overlayRefines Rl Ru).abs (ls, us, del) =
        (union (Ru.abs us) (Rl.abs ls)).filter (fun p => !has del p.1) ∧
    ((overlayRefines Rl Ru).Inv (ls, us, del) ↔ (Rl.Inv ls ∧ Ru.Inv us ∧ KAsc del)) :=
  ⟨rfl, Iff.rfl⟩

theorem ovl_keysK {content : Bytes → Bytes} {K : Bytes → Prop} {lower upper : Impl}
    (Rl : RefinesK content K lower) (Ru : RefinesK content K upper)
    (s : (overlayImpl lower upper).σ) (h : ovlInvK Rl Ru s) (k v : Bytes)
    (hg : SMap.get (ovlAbsK Rl Ru s) k = some v) : K k := by
  unfold ovlAbsK at hg
  rw [get_live _ (kasc_union _ (Rl.good _ h.1).1), get_union] at hg
  cases hd : has s.2.2 k with
  | true => simp [hd] at hg
  | false =>
    simp only [hd, Bool.false_eq_true, if_false] at hg
    cases hu : SMap.get (Ru.abs s.2.1) k with
    | some w => exact Ru.keys _ h.2.1 k w hu
    | none => rw [hu] at hg; exact Rl.keys _ h.1 k v hg

def overlayRefinesK {content : Bytes → Bytes} {K : Bytes → Prop} {lower upper : Impl}
    (Rl : RefinesK content K lower) (Ru : RefinesK content K upper) :
    RefinesK content K (overlayImpl lower upper) where
  abs := ovlAbsK Rl Ru
  Inv := ovlInvK Rl Ru
  init_inv := ⟨Rl.init_inv, Ru.init_inv, kasc_nil⟩
  init_abs := ovl_init_absK Rl Ru
  good := ovl_goodK Rl Ru
  keys := ovl_keysK Rl Ru
  step_ok := by
    exact ovl_stepK Rl Ru

theorem overlayRefinesK_abs {content : Bytes → Bytes} {K : Bytes → Prop} {lower upper : Impl}
    (Rl : RefinesK content K lower) (Ru : RefinesK content K upper) (ls : lower.σ) (us : upper.σ)
    (del : SMap Unit) :
    (overlayRefinesK Rl Ru).abs (ls, us, del) =
        (union (Ru.abs us) (Rl.abs ls)).filter (fun p => !has del p.1) ∧
    ((overlayRefinesK Rl Ru).Inv (ls, us, del) ↔ (Rl.Inv ls ∧ Ru.Inv us ∧ KAsc del)) :=
  ⟨rfl, Iff.rfl⟩

end Pk.Stores
