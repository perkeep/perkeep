import PkVerif.Lemmas.RefOverlay
/-! C13: shard, replica and cond over sub-stores whose calls may fail transiently.

The abstract contents of every two-way combinator here are the left-biased union of the two
sub-stores' abstract contents.  A sub-store step moves its contents to the before- or the after-state
of the operation (`StepOK`); the algebra below shows the union then also is at the before- or the
after-state of the same operation, whichever mix of the two sides happened.  What remains per
operation is the ANSWER: it must be exact or `.err`.  One answer of the real `replica2Impl` is
neither: the "best effort" `.ok` of a remove that one replica failed
(`replica2_rm_best_effort_counterexample`).  A second one is the fetch fallback of `replica2OldFetchImpl` (replica.Fetch returning the LAST
replica's error, finding F-C13-5): it passes on "not there" after the holder FAILED.  The contract is
proved for `replica2StrictImpl` / `cond2StrictImpl`; the real models take the same steps and differ
only in an answer the strict ones give as `.err` (`replica2_eq_strict`), which is what the statements
about the real models rest on. -/
namespace Pk.Stores
open Pk Pk.SMap Pk.RefMap

theorem union_step_left {content : Bytes → Bytes} {A B : SMap Bytes} (hA : Good content A)
    (hB : Good content B) (op : Op) (hop : op.WK content) :
    union (next A op) B = union A B ∨ union (next A op) B = next (union A B) op := by
  cases op with
  | recv k v =>
    right
    rw [next_recv_good hA k v hop.1, next_recv_good (good_union hA hB) k v hop.1,
      union_ins_left k v A hB.1]
  | rm k =>
    by_cases hk : has B k = true
    · -- `B` still serves `k`: seen from the right, the remove changed nothing
      left
      rw [union_comm_good (good_next hA (.rm k) hop) hB, union_comm_good hA hB]
      exact union_del_right_has hA.1 k hk
    · exact Or.inr (next_union_left hA.1 hB.1 (.rm k) (by simpa [opKey] using hk))
  | fetch _ => exact Or.inl rfl
  | stat _ => exact Or.inl rfl
  | enum _ _ => exact Or.inl rfl

theorem union_step_right {content : Bytes → Bytes} {A B : SMap Bytes} (hA : Good content A)
    (hB : Good content B) (op : Op) (hop : op.WK content) :
    union A (next B op) = union A B ∨ union A (next B op) = next (union A B) op := by
  rw [union_comm_good hA (good_next hB op hop), union_comm_good hA hB]
  exact union_step_left hB hA op hop

theorem union_step_both {content : Bytes → Bytes} {A B : SMap Bytes} (hA : Good content A)
    (hB : Good content B) (op : Op) (hop : op.WK content) :
    union (next A op) (next B op) = next (union A B) op := by
  cases op with
  | recv k v =>
    apply SMap.ext (kasc_union _ (good_next hB _ hop).1) (good_next (good_union hA hB) _ hop).1
    intro x
    rw [get_union, get_next_recv hA hop.1, get_next_recv hB hop.1,
      get_next_recv (good_union hA hB) hop.1, get_union]
    by_cases hx : x = k <;> simp [hx]
  | rm k => exact union_del_both k hA.1 hB.1
  | fetch _ => rfl
  | stat _ => rfl
  | enum _ _ => rfl

/-- each side at its before- or after-state (any mix): so is the union -/
theorem union_step_cases {content : Bytes → Bytes} {A B A' B' : SMap Bytes} (hA : Good content A)
    (hB : Good content B) (op : Op) (hop : op.WK content)
    (ha : A' = A ∨ A' = next A op) (hb : B' = B ∨ B' = next B op) :
    union A' B' = union A B ∨ union A' B' = next (union A B) op := by
  rcases ha with rfl | rfl <;> rcases hb with rfl | rfl
  · exact Or.inl rfl
  · exact union_step_right hA hB op hop
  · exact union_step_left hA hB op hop
  · exact Or.inr (union_step_both hA hB op hop)

def Exact (A A' : SMap Bytes) (o : Out) (op : Op) : Prop := o = out A op ∧ A' = next A op

/-- the combined answer `O` of two sub-answers is fine as soon as: it is exact when both are, and it
is `.err` when either is -/
theorem stepOK_union {content : Bytes → Bytes} {A B A' B' : SMap Bytes} {oa ob O : Out} {op : Op}
    (hA : Good content A) (hB : Good content B) (hop : op.WK content)
    (ha : StepOK A A' oa op) (hb : StepOK B B' ob op)
    (hex : Exact A A' oa op → Exact B B' ob op → Exact (union A B) (union A' B') O op)
    (herr : oa = .err ∨ ob = .err → O = .err) :
    StepOK (union A B) (union A' B') O op := by
  have hm := union_step_cases hA hB op hop ha.move hb.move
  rcases ha with hea | ⟨hoa, _⟩
  · rcases hb with heb | ⟨hob, _⟩
    · exact Or.inl (hex hea heb)
    · exact Or.inr ⟨herr (Or.inr hob), hm⟩
  · exact Or.inr ⟨herr (Or.inl hoa), hm⟩

/-! ### the contract of one step of a two-way combinator whose contents are the union -/

/-- both sub-invariants survive, each side is at its before- or after-state, the step is
faulted-or-exact on the union, and exact (staying quiet) when both sides are quiet -/
def PairSpec {content : Bytes → Bytes} {a b : Impl} (Fa : FRefines content a) (Fb : FRefines content b)
    (s s' : a.σ × b.σ) (o : Out) (op : Op) : Prop :=
  Fa.Inv s'.1 ∧ Fb.Inv s'.2 ∧
  (Fa.abs s'.1 = Fa.abs s.1 ∨ Fa.abs s'.1 = next (Fa.abs s.1) op) ∧
  (Fb.abs s'.2 = Fb.abs s.2 ∨ Fb.abs s'.2 = next (Fb.abs s.2) op) ∧
  StepSpec (union (Fa.abs s.1) (Fb.abs s.2)) (union (Fa.abs s'.1) (Fb.abs s'.2)) o op
    (Fa.Quiet s.1 ∧ Fb.Quiet s.2) (Fa.Quiet s'.1 ∧ Fb.Quiet s'.2)

/-- contents untouched: what remains of the contract is the answer -/
theorem pairSpec_of_abs_eq {content : Bytes → Bytes} {a b : Impl} {Fa : FRefines content a}
    {Fb : FRefines content b} {s s' : a.σ × b.σ} {o : Out} {op : Op} (h1 : Fa.Inv s'.1)
    (h2 : Fb.Inv s'.2) (h3 : Fa.abs s'.1 = Fa.abs s.1) (h4 : Fb.abs s'.2 = Fb.abs s.2)
    (h : StepSpec (union (Fa.abs s.1) (Fb.abs s.2)) (union (Fa.abs s.1) (Fb.abs s.2)) o op
      (Fa.Quiet s.1 ∧ Fb.Quiet s.2) (Fa.Quiet s'.1 ∧ Fb.Quiet s'.2)) : PairSpec Fa Fb s s' o op := by
  refine ⟨h1, h2, Or.inl h3, Or.inl h4, ?_⟩
  rw [h3, h4]; exact h

theorem pair_both {content : Bytes → Bytes} {a b : Impl} (Fa : FRefines content a)
    (Fb : FRefines content b) (sa : a.σ) (sb : b.σ) (op : Op)
    (ha : Fa.Inv sa) (hb : Fb.Inv sb) (hop : op.WK content) (O : Out → Out → Out)
    (hex : ∀ A' B' oa ob, Exact (Fa.abs sa) A' oa op → Exact (Fb.abs sb) B' ob op →
      Exact (union (Fa.abs sa) (Fb.abs sb)) (union A' B') (O oa ob) op)
    (herr : ∀ oa ob, oa = .err ∨ ob = .err → O oa ob = .err) :
    PairSpec Fa Fb (sa, sb) ((a.step sa op).1, (b.step sb op).1)
      (O (a.step sa op).2 (b.step sb op).2) op := by
  obtain ⟨hia, hsa⟩ := Fa.sub sa op ha hop
  obtain ⟨hib, hsb⟩ := Fb.sub sb op hb hop
  refine ⟨hia, hib, hsa.1.move, hsb.1.move,
    stepOK_union (Fa.good sa ha) (Fb.good sb hb) hop hsa.1 hsb.1 (hex _ _ _ _) (herr _ _), ?_⟩
  rintro ⟨hQa, hQb⟩
  obtain ⟨h1, h2, h3⟩ := hsa.2 hQa
  obtain ⟨h4, h5, h6⟩ := hsb.2 hQb
  have := hex _ _ _ _ ⟨h1, h2⟩ ⟨h4, h5⟩
  exact ⟨this.1, this.2, h3, h6⟩

theorem recvAns_exact {content : Bytes → Bytes} {A B A' B' : SMap Bytes} {oa ob : Out} {k v : Bytes}
    (hA : Good content A) (hB : Good content B) (hop : (Op.recv k v).WK content)
    (ha : Exact A A' oa (.recv k v)) (hb : Exact B B' ob (.recv k v)) :
    Exact (union A B) (union A' B') (recvAns oa ob) (.recv k v) := by
  obtain ⟨rfl, rfl⟩ := ha
  obtain ⟨rfl, rfl⟩ := hb
  exact ⟨by simp [recvAns, out], union_step_both hA hB _ hop⟩

theorem statAns_exact {A B A' B' : SMap Bytes} {oa ob : Out} {k : Bytes}
    (ha : Exact A A' oa (.stat k)) (hb : Exact B B' ob (.stat k)) :
    Exact (union A B) (union A' B') (statAns oa ob) (.stat k) := by
  obtain ⟨rfl, ha'⟩ := ha
  obtain ⟨rfl, hb'⟩ := hb
  refine ⟨?_, by rw [ha', hb']; rfl⟩
  simp only [out, get_union]
  cases SMap.get A k <;> cases SMap.get B k <;> rfl

theorem enumAns_exact {content : Bytes → Bytes} {A B A' B' : SMap Bytes} {oa ob : Out}
    {after : Bytes} {limit : Nat} (hA : Good content A) (hB : Good content B)
    (ha : Exact A A' oa (.enum after limit)) (hb : Exact B B' ob (.enum after limit)) :
    Exact (union A B) (union A' B') (enumAns limit oa ob) (.enum after limit) := by
  obtain ⟨rfl, ha'⟩ := ha
  obtain ⟨rfl, hb'⟩ := hb
  refine ⟨?_, by rw [ha', hb']; rfl⟩
  simp only [out, enumAns]
  rw [enum2_spec hA hB]

theorem rmStrictAns_exact {content : Bytes → Bytes} {A B A' B' : SMap Bytes} {oa ob : Out} {k : Bytes}
    (hA : Good content A) (hB : Good content B)
    (ha : Exact A A' oa (.rm k)) (hb : Exact B B' ob (.rm k)) :
    Exact (union A B) (union A' B') (rmStrictAns oa ob) (.rm k) := by
  obtain ⟨rfl, rfl⟩ := ha
  obtain ⟨rfl, rfl⟩ := hb
  exact ⟨rfl, union_del_both k hA.1 hB.1⟩

theorem recvAns_err (oa ob : Out) (h : oa = .err ∨ ob = .err) : recvAns oa ob = .err := by
  rcases h with rfl | rfl
  · cases ob <;> rfl
  · cases oa <;> rfl

theorem statAns_err (oa ob : Out) (h : oa = .err ∨ ob = .err) : statAns oa ob = .err := by
  rcases h with rfl | rfl
  · cases ob <;> rfl
  · cases oa <;> rfl

theorem enumAns_err (l : Nat) (oa ob : Out) (h : oa = .err ∨ ob = .err) : enumAns l oa ob = .err := by
  rcases h with rfl | rfl
  · cases ob <;> rfl
  · cases oa <;> rfl

theorem rmStrictAns_err (oa ob : Out) (h : oa = .err ∨ ob = .err) : rmStrictAns oa ob = .err := by
  rcases h with rfl | rfl
  · cases ob <;> rfl
  · cases oa <;> rfl

/-- a sub-store's step seen through `f` (the union with the other side's contents), as soon as `f`
passes on this operation's answer and commutes with its effect -/
theorem StepSpec.map {A A' : SMap Bytes} {o : Out} {op : Op} {q q' p p' : Prop}
    (f : SMap Bytes → SMap Bytes) (hout : out A op = out (f A) op)
    (hnext : f (next A op) = next (f A) op) (hp : p → q) (hp' : p → q' → p')
    (h : StepSpec A A' o op q q') : StepSpec (f A) (f A') o op p p' := by
  refine ⟨?_, fun hP => ?_⟩
  · rcases h.1 with ⟨ho, rfl⟩ | ⟨ho, rfl | rfl⟩
    · exact Or.inl ⟨ho.trans hout, hnext⟩
    · exact Or.inr ⟨ho, Or.inl rfl⟩
    · exact Or.inr ⟨ho, Or.inr hnext⟩
  · obtain ⟨ho, rfl, hq'⟩ := h.2 (hp hP)
    exact ⟨ho.trans hout, hnext, hp' hP hq'⟩

/-! ### fetch with fallback, generic in what is answered after the first replica FAILED -/

theorem _root_.Pk.RefMap.StepOK.fetch_cases {A A' : SMap Bytes} {o : Out} {k : Bytes} (h : StepOK A A' o (.fetch k)) :
    (∃ v, SMap.get A k = some v ∧ o = .bytes v) ∨ (SMap.get A k = none ∧ o = .notExist) ∨ o = .err := by
  rcases h with ⟨ho, _⟩ | ⟨ho, _⟩
  · cases hg : SMap.get A k with
    | some v => exact Or.inl ⟨v, rfl, by rw [ho]; simp only [out, hg]⟩
    | none => exact Or.inr (Or.inl ⟨rfl, by rw [ho]; simp only [out, hg]⟩)
  · exact Or.inr (Or.inr ho)

/-- the fetch of a replica pair: the full contract, or – only after a FAILURE of the first replica and
a miss on the second – the answer `E .notExist`, both invariants kept and the contents untouched -/
theorem fetchStep_spec {content : Bytes → Bytes} {a b : Impl} (Fa : FRefines content a)
    (Fb : FRefines content b) (E : Out → Out) (hEe : E .err = .err)
    (hEb : ∀ w, E (.bytes w) = .bytes w) (sa : a.σ) (sb : b.σ) (k : Bytes)
    (ha : Fa.Inv sa) (hb : Fb.Inv sb) :
    PairSpec Fa Fb (sa, sb) (fetchStep a b E sa sb k).1 (fetchStep a b E sa sb k).2 (.fetch k) ∨
    ((fetchStep a b E sa sb k).2 = E .notExist ∧
     (a.step sa (.fetch k)).2 = .err ∧ (b.step sb (.fetch k)).2 = .notExist ∧
     Fa.Inv (fetchStep a b E sa sb k).1.1 ∧ Fb.Inv (fetchStep a b E sa sb k).1.2 ∧
     Fa.abs (fetchStep a b E sa sb k).1.1 = Fa.abs sa ∧
     Fb.abs (fetchStep a b E sa sb k).1.2 = Fb.abs sb ∧ ¬ (Fa.Quiet sa ∧ Fb.Quiet sb)) := by
  have hA := Fa.good sa ha
  have hB := Fb.good sb hb
  obtain ⟨hia, hsa⟩ := Fa.sub sa (.fetch k) ha trivial
  obtain ⟨hib, hsb⟩ := Fb.sub sb (.fetch k) hb trivial
  have haa := hsa.1.read_abs rfl
  have hbb := hsb.1.read_abs rfl
  unfold fetchStep
  generalize a.step sa (.fetch k) = pa at hia hsa haa
  generalize b.step sb (.fetch k) = pb at hib hsb hbb
  obtain ⟨sa1, oa⟩ := pa
  obtain ⟨sb1, ob⟩ := pb
  rcases hsa.1.fetch_cases with ⟨v, hg, rfl⟩ | ⟨hg, rfl⟩ | rfl
  · exact Or.inl (pairSpec_of_abs_eq hia hb haa rfl (StepSpec.exact (by simp only [out, get_union, hg]) rfl
      (fun hQ => ⟨(hsa.2 hQ.1).2.2, hQ.2⟩)))
  · -- a miss on the first replica: the second one's step, seen through the union
    rw [hbb] at hsb
    exact Or.inl (pairSpec_of_abs_eq hia hib haa hbb (hsb.map (union (Fa.abs sa))
      (out_union_right (.fetch k) rfl (by simp only [opKey, has, hg]; rfl)) rfl And.right
      (fun hQ h => ⟨(hsa.2 hQ.1).2.2, h⟩)))
  · have hnq : ¬ (Fa.Quiet sa ∧ Fb.Quiet sb) := fun hQ => out_ne_err _ _ (hsa.2 hQ.1).1.symm
    rcases hsb.1.fetch_cases with ⟨w, hg, rfl⟩ | ⟨hg, rfl⟩ | rfl
    · exact Or.inl (pairSpec_of_abs_eq hia hib haa hbb (StepSpec.exact
        (by simp only [out, get_union_of_right hA hB hg]; exact hEb w) rfl (fun hQ => absurd hQ hnq)))
    · exact Or.inr ⟨rfl, rfl, rfl, hia, hib, haa, hbb, hnq⟩
    · exact Or.inl (pairSpec_of_abs_eq hia hib haa hbb (StepSpec.failed hEe (Or.inl rfl) hnq))

/-! ### the strict replica: the model for which the fault contract holds in full -/

/-- `replica2Impl` with one answer made honest: `.rm` answers `.ok` only if BOTH replicas did (`.err`
otherwise).  Everything else, and every state change, is `replica2Impl`'s. -/
def replica2StrictImpl (a b : Impl) : Impl where
  σ := a.σ × b.σ
  init := (a.init, b.init)
  step := fun (sa, sb) op =>
    match op with
    | .rm k =>
      (((a.step sa (.rm k)).1, (b.step sb (.rm k)).1),
        rmStrictAns (a.step sa (.rm k)).2 (b.step sb (.rm k)).2)
    | op => (replica2Impl a b).step (sa, sb) op

theorem fetchErrAns_err : fetchErrAns .err = .err := rfl
theorem fetchErrAns_bytes (w : Bytes) : fetchErrAns (.bytes w) = .bytes w := rfl

theorem replica2Strict_step {content : Bytes → Bytes} {a b : Impl} (Fa : FRefines content a)
    (Fb : FRefines content b) (sa : a.σ) (sb : b.σ) (op : Op)
    (ha : Fa.Inv sa) (hb : Fb.Inv sb) (hop : op.WK content) :
    PairSpec Fa Fb (sa, sb) ((replica2StrictImpl a b).step (sa, sb) op).1
      ((replica2StrictImpl a b).step (sa, sb) op).2 op := by
  have hA := Fa.good sa ha
  have hB := Fb.good sb hb
  cases op with
  | fetch k =>
    rw [show (replica2StrictImpl a b).step (sa, sb) (.fetch k) = _ from rep_fetch_eq a b sa sb k]
    -- the one case outside the contract is answered `fetchErrAns .notExist = .err` here
    rcases fetchStep_spec Fa Fb fetchErrAns rfl (fun _ => rfl) sa sb k ha hb with
      P | ⟨h, _, _, h1, h2, h3, h4, hnq⟩
    · exact P
    · exact pairSpec_of_abs_eq h1 h2 h3 h4 (StepSpec.failed h (Or.inl rfl) hnq)
  | rm k =>
    exact pair_both Fa Fb sa sb _ ha hb hop rmStrictAns
      (fun _ _ _ _ => rmStrictAns_exact hA hB) rmStrictAns_err
  | recv k v =>
    rw [show (replica2StrictImpl a b).step (sa, sb) (.recv k v) = _ from rep_recv_eq a b sa sb k v]
    exact pair_both Fa Fb sa sb _ ha hb hop recvAns
      (fun _ _ _ _ => recvAns_exact hA hB hop) recvAns_err
  | stat k =>
    rw [show (replica2StrictImpl a b).step (sa, sb) (.stat k) = _ from rep_stat_eq a b sa sb k]
    exact pair_both Fa Fb sa sb _ ha hb hop statAns (fun _ _ _ _ => statAns_exact) statAns_err
  | enum after limit =>
    rw [show (replica2StrictImpl a b).step (sa, sb) (.enum after limit) = _ from
      rep_enum_eq a b sa sb after limit]
    exact pair_both Fa Fb sa sb _ ha hb hop (enumAns limit)
      (fun _ _ _ _ => enumAns_exact hA hB) (enumAns_err limit)

/-- the strict replica over any two fault-tolerant stores is fault-tolerant; the two replicas need
not agree (after a failed write they may not): the contents are their union -/
def replica2FRefines {content : Bytes → Bytes} {a b : Impl} (Fa : FRefines content a)
    (Fb : FRefines content b) : FRefines content (replica2StrictImpl a b) where
  abs := fun s => union (Fa.abs s.1) (Fb.abs s.2)
  Inv := fun s => Fa.Inv s.1 ∧ Fb.Inv s.2
  Quiet := fun s => Fa.Quiet s.1 ∧ Fb.Quiet s.2
  init_inv := ⟨Fa.init_inv, Fb.init_inv⟩
  init_abs := by simp [replica2StrictImpl, Fa.init_abs, Fb.init_abs, union]
  good := fun s h => good_union (Fa.good _ h.1) (Fb.good _ h.2)
  step_ok := fun s op h hop =>
    have p := replica2Strict_step Fa Fb s.1 s.2 op h.1 h.2 hop
    ⟨⟨p.1, p.2.1⟩, p.2.2.2.2.1⟩
  quiet_step := fun s op h hq hop =>
    (replica2Strict_step Fa Fb s.1 s.2 op h.1 h.2 hop).2.2.2.2.2 hq

/-! ### the real replica: the strict one, except that a remove which one replica failed still
answers `.ok` -/

theorem rmAns_of_strict {oa ob : Out} (h : rmStrictAns oa ob ≠ .err) :
    rmAns oa ob = rmStrictAns oa ob := by
  cases oa with
  | ok =>
    cases ob with
    | ok => rfl
    | _ => exact absurd rfl h
  | _ => exact absurd rfl h

theorem replica2_state_strict (a b : Impl) (s : a.σ × b.σ) (op : Op) :
    ((replica2Impl a b).step s op).1 = ((replica2StrictImpl a b).step s op).1 := by
  cases op with
  | rm k => rw [rep_rm_eq]; rfl
  | _ => rfl

theorem replica2_eq_strict_of_not_rm (a b : Impl) (s : a.σ × b.σ) (op : Op) (hnrm : ∀ k, op ≠ .rm k) :
    (replica2Impl a b).step s op = (replica2StrictImpl a b).step s op := by
  cases op with
  | rm k => exact absurd rfl (hnrm k)
  | _ => rfl

theorem replica2_eq_strict (a b : Impl) (s : a.σ × b.σ) (op : Op)
    (h : ((replica2StrictImpl a b).step s op).2 ≠ .err) :
    (replica2Impl a b).step s op = (replica2StrictImpl a b).step s op := by
  cases op with
  | rm k => rw [rep_rm_eq]; exact Prod.ext rfl (rmAns_of_strict h)
  | _ => rfl

theorem replica2_step_ok_except_rm {content : Bytes → Bytes} {a b : Impl} (Fa : FRefines content a)
    (Fb : FRefines content b) (sa : a.σ) (sb : b.σ) (op : Op)
    (ha : Fa.Inv sa) (hb : Fb.Inv sb) (hop : op.WK content) (hnrm : ∀ k, op ≠ .rm k) :
    (Fa.Inv ((replica2Impl a b).step (sa, sb) op).1.1 ∧ Fb.Inv ((replica2Impl a b).step (sa, sb) op).1.2) ∧
    StepOK (union (Fa.abs sa) (Fb.abs sb))
      (union (Fa.abs ((replica2Impl a b).step (sa, sb) op).1.1)
        (Fb.abs ((replica2Impl a b).step (sa, sb) op).1.2))
      ((replica2Impl a b).step (sa, sb) op).2 op := by
  rw [replica2_eq_strict_of_not_rm a b (sa, sb) op hnrm]
  have P := replica2Strict_step Fa Fb sa sb op ha hb hop
  exact ⟨⟨P.1, P.2.1⟩, P.2.2.2.2.1⟩

theorem replica2_step_inv {content : Bytes → Bytes} {a b : Impl} (Fa : FRefines content a)
    (Fb : FRefines content b) (sa : a.σ) (sb : b.σ) (op : Op)
    (ha : Fa.Inv sa) (hb : Fb.Inv sb) (hop : op.WK content) :
    Fa.Inv ((replica2Impl a b).step (sa, sb) op).1.1 ∧ Fb.Inv ((replica2Impl a b).step (sa, sb) op).1.2 := by
  rw [replica2_state_strict]
  have P := replica2Strict_step Fa Fb sa sb op ha hb hop
  exact ⟨P.1, P.2.1⟩

theorem replica2_quiet_step {content : Bytes → Bytes} {a b : Impl} (Fa : FRefines content a)
    (Fb : FRefines content b) (sa : a.σ) (sb : b.σ) (op : Op)
    (ha : Fa.Inv sa) (hb : Fb.Inv sb) (hq : Fa.Quiet sa ∧ Fb.Quiet sb) (hop : op.WK content) :
    ((replica2Impl a b).step (sa, sb) op).2 = out (union (Fa.abs sa) (Fb.abs sb)) op ∧
    union (Fa.abs ((replica2Impl a b).step (sa, sb) op).1.1)
      (Fb.abs ((replica2Impl a b).step (sa, sb) op).1.2) = next (union (Fa.abs sa) (Fb.abs sb)) op ∧
    (Fa.Quiet ((replica2Impl a b).step (sa, sb) op).1.1 ∧
     Fb.Quiet ((replica2Impl a b).step (sa, sb) op).1.2) := by
  have P := (replica2Strict_step Fa Fb sa sb op ha hb hop).2.2.2.2.2 hq
  rw [replica2_eq_strict a b (sa, sb) op (by rw [P.1]; exact out_ne_err _ _)]
  exact P

theorem replica2_recovers {content : Bytes → Bytes} {a b : Impl} (Fa : FRefines content a)
    (Fb : FRefines content b) (s : a.σ × b.σ) (ha : Fa.Inv s.1) (hb : Fb.Inv s.2)
    (hq : Fa.Quiet s.1 ∧ Fb.Quiet s.2) (ops : List Op) (hops : ∀ op ∈ ops, op.WK content) :
    (replica2Impl a b).run s ops = run (union (Fa.abs s.1) (Fb.abs s.2)) ops :=
  run_eq_of_quiet (I := replica2Impl a b) (fun s => union (Fa.abs s.1) (Fb.abs s.2))
    (fun s => Fa.Inv s.1 ∧ Fb.Inv s.2) (fun s => Fa.Quiet s.1 ∧ Fb.Quiet s.2)
    (fun s op h hop => replica2_step_inv Fa Fb s.1 s.2 op h.1 h.2 hop)
    (fun s op h hq hop => replica2_quiet_step Fa Fb s.1 s.2 op h.1 h.2 hq hop) s ⟨ha, hb⟩ hq ops hops

/-- "best effort" remove, concretely: two memory stores, the first one's 2nd call fails before taking
effect.  Receive, remove, fetch: the remove answers `.ok` (the second store did remove), no call
answers an error, and yet the blob is still served afterwards.  The reference map says "not there". -/
theorem replica2_rm_best_effort_counterexample :
    (replica2Impl (faultLeaf memImpl [.none, .before]) (faultLeaf memImpl [])).run
        (replica2Impl (faultLeaf memImpl [.none, .before]) (faultLeaf memImpl [])).init
        [.recv [1] [7], .rm [1], .fetch [1]] = [.sized 1, .ok, .bytes [7]] ∧
    run [] [.recv [1] [7], .rm [1], .fetch [1]] = [.sized 1, .ok, .notExist] :=
  ⟨rfl, rfl⟩

/-- the same step against the contract: contents `{[1] ↦ [7]}` before and after, answer `.ok` -/
theorem replica2_rm_best_effort_not_stepOK :
    let I := replica2Impl (faultLeaf memImpl [.before]) (faultLeaf memImpl [])
    let s : I.σ := (([([1], [7])], [.before]), ([([1], [7])], []))
    (I.step s (.rm [1])).2 = .ok ∧
    ¬ StepOK (union s.1.1 s.2.1) (union (I.step s (.rm [1])).1.1.1 (I.step s (.rm [1])).1.2.1)
        (I.step s (.rm [1])).2 (.rm [1]) := by
  unfold StepOK
  decide

/-! ### finding F-C13-5 (fixed): the old fetch fallback -/

/-- `replica2Impl` with the fetch as it was before the repair of finding F-C13-5 (replica.go `Fetch`
returning the LAST replica's error): after a FAILURE of the first replica the second replica's answer
is passed on as it is, "not there" included. -/
def replica2OldFetchImpl (a b : Impl) : Impl where
  σ := a.σ × b.σ
  init := (a.init, b.init)
  step := fun (sa, sb) op =>
    match op with
    | .fetch k => fetchStep a b id sa sb k
    | op => (replica2Impl a b).step (sa, sb) op

/-- the old fetch: either the full contract, or – the first replica's fetch having FAILED and the
second not holding the blob – the call answers "not there" although the first replica may well hold
the blob; the contents are untouched -/
theorem replica2OldFetch_fetch_step {content : Bytes → Bytes} {a b : Impl} (Fa : FRefines content a)
    (Fb : FRefines content b) (sa : a.σ) (sb : b.σ) (k : Bytes) (ha : Fa.Inv sa) (hb : Fb.Inv sb) :
    PairSpec Fa Fb (sa, sb) ((replica2OldFetchImpl a b).step (sa, sb) (.fetch k)).1
      ((replica2OldFetchImpl a b).step (sa, sb) (.fetch k)).2 (.fetch k) ∨
    (((replica2OldFetchImpl a b).step (sa, sb) (.fetch k)).2 = .notExist ∧
     (a.step sa (.fetch k)).2 = .err ∧ (b.step sb (.fetch k)).2 = .notExist ∧
     Fa.Inv ((replica2OldFetchImpl a b).step (sa, sb) (.fetch k)).1.1 ∧
     Fb.Inv ((replica2OldFetchImpl a b).step (sa, sb) (.fetch k)).1.2 ∧
     Fa.abs ((replica2OldFetchImpl a b).step (sa, sb) (.fetch k)).1.1 = Fa.abs sa ∧
     Fb.abs ((replica2OldFetchImpl a b).step (sa, sb) (.fetch k)).1.2 = Fb.abs sb ∧
     ¬ (Fa.Quiet sa ∧ Fb.Quiet sb)) :=
  fetchStep_spec Fa Fb id rfl (fun _ => rfl) sa sb k ha hb

/-- the old fetch fallback, concretely: a receive reaches the first store only (the second one's call
fails: the receive answers `.err`, which is fine); then the first store's fetch fails once: the old
replica asks the second store and passes on its "not there"; the next fetch serves the blob.  No
reference map answers "not there" and then the bytes without a receive in between.  The repaired
model answers `.err` to the middle call. -/
theorem replica2_fetch_fallback_counterexample :
    (replica2OldFetchImpl (faultLeaf memImpl [.none, .before]) (faultLeaf memImpl [.before])).run
        (replica2OldFetchImpl (faultLeaf memImpl [.none, .before]) (faultLeaf memImpl [.before])).init
        [.recv [1] [7], .fetch [1], .fetch [1]] = [.err, .notExist, .bytes [7]] ∧
    (replica2Impl (faultLeaf memImpl [.none, .before]) (faultLeaf memImpl [.before])).run
        (replica2Impl (faultLeaf memImpl [.none, .before]) (faultLeaf memImpl [.before])).init
        [.recv [1] [7], .fetch [1], .fetch [1]] = [.err, .err, .bytes [7]] :=
  ⟨rfl, rfl⟩

/-- the same step of the old fetch against the contract: contents `{[1] ↦ [7]}` (held by the first
store only), the first store's fetch fails, the answer is `.notExist`: neither exact nor `.err` -/
theorem replica2_fetch_fallback_not_stepOK :
    let I := replica2OldFetchImpl (faultLeaf memImpl [.before]) (faultLeaf memImpl [])
    let s : I.σ := (([([1], [7])], [.before]), ([], []))
    (I.step s (.fetch [1])).2 = .notExist ∧
    ¬ StepOK (union s.1.1 s.2.1) (union (I.step s (.fetch [1])).1.1.1 (I.step s (.fetch [1])).1.2.1)
        (I.step s (.fetch [1])).2 (.fetch [1]) := by
  unfold StepOK
  decide

/-- both sub-invariants hold, `a` holds only keys on side `false`, `b` only keys on side `true`: the
same predicate as `PartInvK`, over `FRefines` -/
def PartFInv {content : Bytes → Bytes} {a b : Impl} (Fa : FRefines content a) (Fb : FRefines content b)
    (side : Bytes → Bool) (s : a.σ × b.σ) : Prop :=
  Fa.Inv s.1 ∧ Fb.Inv s.2 ∧
  (∀ k, has (Fa.abs s.1) k = true → side k = false) ∧
  (∀ k, has (Fb.abs s.2) k = true → side k = true)

def PartSpec {content : Bytes → Bytes} {a b : Impl} (Fa : FRefines content a) (Fb : FRefines content b)
    (side : Bytes → Bool) (s s' : a.σ × b.σ) (o : Out) (op : Op) : Prop :=
  PartFInv Fa Fb side s' ∧
  StepSpec (union (Fa.abs s.1) (Fb.abs s.2)) (union (Fa.abs s'.1) (Fb.abs s'.2)) o op
    (Fa.Quiet s.1 ∧ Fb.Quiet s.2) (Fa.Quiet s'.1 ∧ Fb.Quiet s'.2)

theorem fpart_left {content : Bytes → Bytes} {a b : Impl} (Fa : FRefines content a)
    (Fb : FRefines content b) (side : Bytes → Bool) (sa : a.σ) (sb : b.σ) (op : Op)
    (hne : opIsEnum op = false) (hI : PartFInv Fa Fb side (sa, sb)) (hop : op.WK content)
    (hs : side (opKey op) = false) :
    PartSpec Fa Fb side (sa, sb) ((a.step sa op).1, sb) (a.step sa op).2 op := by
  obtain ⟨hRa, hRb, hA, hB⟩ := hI
  obtain ⟨hi, hsp⟩ := Fa.sub sa op hRa hop
  have hk : has (Fb.abs sb) (opKey op) = false := has_false_of_side hB _ (by simp [hs])
  exact ⟨⟨hi, hRb, side_keep (Fa.good sa hRa).1 hA op (hsp.1.move) (fun _ => hs), hB⟩,
    hsp.map (union · (Fb.abs sb)) (out_union_left op hne hk)
      (next_union_left (Fa.good sa hRa).1 (Fb.good sb hRb).1 op hk) And.left (fun h h' => ⟨h', h.2⟩)⟩

theorem fpart_right {content : Bytes → Bytes} {a b : Impl} (Fa : FRefines content a)
    (Fb : FRefines content b) (side : Bytes → Bool) (sa : a.σ) (sb : b.σ) (op : Op)
    (hne : opIsEnum op = false) (hI : PartFInv Fa Fb side (sa, sb)) (hop : op.WK content)
    (hs : side (opKey op) = true) :
    PartSpec Fa Fb side (sa, sb) (sa, (b.step sb op).1) (b.step sb op).2 op := by
  obtain ⟨hRa, hRb, hA, hB⟩ := hI
  obtain ⟨hi, hsp⟩ := Fb.sub sb op hRb hop
  have hk : has (Fa.abs sa) (opKey op) = false := has_false_of_side hA _ (by simp [hs])
  exact ⟨⟨hRa, hi, hA, side_keep (Fb.good sb hRb).1 hB op (hsp.1.move) (fun _ => hs)⟩,
    hsp.map (union (Fa.abs sa)) (out_union_right op hne hk)
      (next_union_right (Fa.good sa hRa).1 (Fb.good sb hRb).1 op hk) And.right (fun h h' => ⟨h.1, h'⟩)⟩

theorem part_of_pair {content : Bytes → Bytes} {a b : Impl} (Fa : FRefines content a)
    (Fb : FRefines content b) (side : Bytes → Bool) (s s' : a.σ × b.σ) (o : Out) (op : Op)
    (hnr : opIsRecv op = false) (hI : PartFInv Fa Fb side s) (P : PairSpec Fa Fb s s' o op) :
    PartSpec Fa Fb side s s' o op := by
  obtain ⟨hRa, hRb, hA, hB⟩ := hI
  obtain ⟨hia, hib, hma, hmb, hsp⟩ := P
  exact ⟨⟨hia, hib,
    side_keep (Fa.good _ hRa).1 hA op hma (fun h => by rw [hnr] at h; cases h),
    side_keep (Fb.good _ hRb).1 hB op hmb (fun h => by rw [hnr] at h; cases h)⟩, hsp⟩

theorem shard2_step_F {content : Bytes → Bytes} (route : Bytes → Bool) {a b : Impl}
    (Fa : FRefines content a) (Fb : FRefines content b) (sa : a.σ) (sb : b.σ) (op : Op)
    (hI : PartFInv Fa Fb route (sa, sb)) (hop : op.WK content) :
    PartSpec Fa Fb route (sa, sb) ((shard2Impl route a b).step (sa, sb) op).1
      ((shard2Impl route a b).step (sa, sb) op).2 op := by
  cases he : opIsEnum op with
  | true =>
    cases op with
    | enum after limit =>
      have P := pair_both Fa Fb sa sb (.enum after limit) hI.1 hI.2.1 hop (enumAns limit)
        (fun _ _ _ _ => enumAns_exact (Fa.good sa hI.1) (Fb.good sb hI.2.1))
        (enumAns_err limit)
      have := part_of_pair Fa Fb route _ _ _ _ rfl hI P
      simp only [shard2Impl, enum2_eq]
      exact this
    | _ => cases he
  | false =>
    rw [shard2_step_keyed route a b sa sb op he]
    cases hr : route (opKey op) with
    | true => exact fpart_right Fa Fb route sa sb op he hI hop hr
    | false => exact fpart_left Fa Fb route sa sb op he hI hop hr

/-- shard over two fault-tolerant stores is fault-tolerant (the model as written, no caveat: a keyed
call reaches one shard only and its error is passed on; enumerate fails if either shard's does) -/
def shard2FRefines {content : Bytes → Bytes} (route : Bytes → Bool) {a b : Impl}
    (Fa : FRefines content a) (Fb : FRefines content b) : FRefines content (shard2Impl route a b) where
  abs := fun s => union (Fa.abs s.1) (Fb.abs s.2)
  Inv := PartFInv Fa Fb route
  Quiet := fun s => Fa.Quiet s.1 ∧ Fb.Quiet s.2
  init_inv := ⟨Fa.init_inv, Fb.init_inv,
    by intro k h; simp [shard2Impl, Fa.init_abs, has, SMap.get] at h,
    by intro k h; simp [shard2Impl, Fb.init_abs, has, SMap.get] at h⟩
  init_abs := by simp [shard2Impl, Fa.init_abs, Fb.init_abs, union]
  good := fun s h => good_union (Fa.good _ h.1) (Fb.good _ h.2.1)
  step_ok := fun s op h hop =>
    have p := shard2_step_F route Fa Fb s.1 s.2 op h hop
    ⟨p.1, p.2.1⟩
  quiet_step := fun s op h hq hop => (shard2_step_F route Fa Fb s.1 s.2 op h hop).2.2 hq

/-- `cond2Impl` with reads and removes going through the strict replica (see `replica2StrictImpl`) -/
def cond2StrictImpl (isSchema : Bytes → Bool) (t e : Impl) : Impl where
  σ := t.σ × e.σ
  init := (t.init, e.init)
  step := fun (st, se) op =>
    match op with
    | .recv _ v =>
      if isSchema v then
        match t.step st op with
        | (st1, o) => ((st1, se), o)
      else
        match e.step se op with
        | (se1, o) => ((st, se1), o)
    | op => (replica2StrictImpl t e).step (st, se) op

/-- the invariant of cond: `t` holds only blobs whose content is schema, `e` only the others (`CondInvK`
over `FRefines`) -/
def CondFInv {content : Bytes → Bytes} (isSchema : Bytes → Bool) {t e : Impl} (Ft : FRefines content t)
    (Fe : FRefines content e) (s : t.σ × e.σ) : Prop :=
  PartFInv Ft Fe (fun k => !isSchema (content k)) s

theorem cond2Strict_step {content : Bytes → Bytes} (isSchema : Bytes → Bool) {t e : Impl}
    (Ft : FRefines content t) (Fe : FRefines content e) (st : t.σ) (se : e.σ) (op : Op)
    (hI : CondFInv isSchema Ft Fe (st, se)) (hop : op.WK content) :
    PartSpec Ft Fe (fun k => !isSchema (content k)) (st, se)
      ((cond2StrictImpl isSchema t e).step (st, se) op).1
      ((cond2StrictImpl isSchema t e).step (st, se) op).2 op := by
  cases op with
  | recv k v =>
    show PartSpec Ft Fe _ (st, se) ((cond2Impl isSchema t e).step (st, se) (.recv k v)).1
      ((cond2Impl isSchema t e).step (st, se) (.recv k v)).2 _
    rw [cond2_recv_eq_shard isSchema t e (st, se) hop.1]
    exact shard2_step_F _ Ft Fe st se (.recv k v) hI hop
  | fetch k =>
    exact part_of_pair Ft Fe _ _ _ _ _ rfl hI (replica2Strict_step Ft Fe st se (.fetch k) hI.1 hI.2.1 hop)
  | stat k =>
    exact part_of_pair Ft Fe _ _ _ _ _ rfl hI (replica2Strict_step Ft Fe st se (.stat k) hI.1 hI.2.1 hop)
  | rm k =>
    exact part_of_pair Ft Fe _ _ _ _ _ rfl hI (replica2Strict_step Ft Fe st se (.rm k) hI.1 hI.2.1 hop)
  | enum x l =>
    exact part_of_pair Ft Fe _ _ _ _ _ rfl hI (replica2Strict_step Ft Fe st se (.enum x l) hI.1 hI.2.1 hop)

/-- cond (write by sniffing, read and remove through the strict replica of both targets) over two
fault-tolerant stores is fault-tolerant -/
def cond2FRefines {content : Bytes → Bytes} (isSchema : Bytes → Bool) {t e : Impl}
    (Ft : FRefines content t) (Fe : FRefines content e) :
    FRefines content (cond2StrictImpl isSchema t e) where
  abs := fun s => union (Ft.abs s.1) (Fe.abs s.2)
  Inv := CondFInv isSchema Ft Fe
  Quiet := fun s => Ft.Quiet s.1 ∧ Fe.Quiet s.2
  init_inv := ⟨Ft.init_inv, Fe.init_inv,
    by intro k h; simp [cond2StrictImpl, Ft.init_abs, has, SMap.get] at h,
    by intro k h; simp [cond2StrictImpl, Fe.init_abs, has, SMap.get] at h⟩
  init_abs := by simp [cond2StrictImpl, Ft.init_abs, Fe.init_abs, union]
  good := fun s h => good_union (Ft.good _ h.1) (Fe.good _ h.2.1)
  step_ok := fun s op h hop =>
    have p := cond2Strict_step isSchema Ft Fe s.1 s.2 op h hop
    ⟨p.1, p.2.1⟩
  quiet_step := fun s op h hq hop => (cond2Strict_step isSchema Ft Fe s.1 s.2 op h hop).2.2 hq

/-! ### the real cond: reads and removes are the real replica's, with its one bad answer -/

theorem cond2_state_strict (isSchema : Bytes → Bool) (t e : Impl) (s : t.σ × e.σ) (op : Op) :
    ((cond2Impl isSchema t e).step s op).1 = ((cond2StrictImpl isSchema t e).step s op).1 := by
  cases op with
  | rm k => exact replica2_state_strict t e s (.rm k)
  | _ => rfl

theorem cond2_eq_strict_of_not_rm (isSchema : Bytes → Bool) (t e : Impl) (s : t.σ × e.σ) (op : Op)
    (hnrm : ∀ k, op ≠ .rm k) :
    (cond2Impl isSchema t e).step s op = (cond2StrictImpl isSchema t e).step s op := by
  cases op with
  | rm k => exact absurd rfl (hnrm k)
  | _ => rfl

theorem cond2_eq_strict (isSchema : Bytes → Bool) (t e : Impl) (s : t.σ × e.σ) (op : Op)
    (h : ((cond2StrictImpl isSchema t e).step s op).2 ≠ .err) :
    (cond2Impl isSchema t e).step s op = (cond2StrictImpl isSchema t e).step s op := by
  cases op with
  | rm k => exact replica2_eq_strict t e s (.rm k) h
  | _ => rfl

/-- the StepOK/Inv contract of the real `cond2Impl` for every operation that is not `.rm` -/
theorem cond2_step_ok_except_rm {content : Bytes → Bytes} (isSchema : Bytes → Bool) {t e : Impl}
    (Ft : FRefines content t) (Fe : FRefines content e) (st : t.σ) (se : e.σ) (op : Op)
    (hI : CondFInv isSchema Ft Fe (st, se)) (hop : op.WK content) (hnrm : ∀ k, op ≠ .rm k) :
    CondFInv isSchema Ft Fe ((cond2Impl isSchema t e).step (st, se) op).1 ∧
    StepOK (union (Ft.abs st) (Fe.abs se))
      (union (Ft.abs ((cond2Impl isSchema t e).step (st, se) op).1.1)
        (Fe.abs ((cond2Impl isSchema t e).step (st, se) op).1.2))
      ((cond2Impl isSchema t e).step (st, se) op).2 op := by
  rw [cond2_eq_strict_of_not_rm isSchema t e (st, se) op hnrm]
  have P := cond2Strict_step isSchema Ft Fe st se op hI hop
  exact ⟨P.1, P.2.1⟩

theorem cond2_step_inv {content : Bytes → Bytes} (isSchema : Bytes → Bool) {t e : Impl}
    (Ft : FRefines content t) (Fe : FRefines content e) (st : t.σ) (se : e.σ) (op : Op)
    (hI : CondFInv isSchema Ft Fe (st, se)) (hop : op.WK content) :
    CondFInv isSchema Ft Fe ((cond2Impl isSchema t e).step (st, se) op).1 := by
  rw [cond2_state_strict]
  exact (cond2Strict_step isSchema Ft Fe st se op hI hop).1

theorem cond2_quiet_step {content : Bytes → Bytes} (isSchema : Bytes → Bool) {t e : Impl}
    (Ft : FRefines content t) (Fe : FRefines content e) (st : t.σ) (se : e.σ) (op : Op)
    (hI : CondFInv isSchema Ft Fe (st, se)) (hq : Ft.Quiet st ∧ Fe.Quiet se) (hop : op.WK content) :
    ((cond2Impl isSchema t e).step (st, se) op).2 = out (union (Ft.abs st) (Fe.abs se)) op ∧
    union (Ft.abs ((cond2Impl isSchema t e).step (st, se) op).1.1)
      (Fe.abs ((cond2Impl isSchema t e).step (st, se) op).1.2) = next (union (Ft.abs st) (Fe.abs se)) op ∧
    (Ft.Quiet ((cond2Impl isSchema t e).step (st, se) op).1.1 ∧
     Fe.Quiet ((cond2Impl isSchema t e).step (st, se) op).1.2) := by
  have P := (cond2Strict_step isSchema Ft Fe st se op hI hop).2.2 hq
  rw [cond2_eq_strict isSchema t e (st, se) op (by rw [P.1]; exact out_ne_err _ _)]
  exact P

/-- so the real cond, too, recovers once both sides are quiet -/
theorem cond2_recovers {content : Bytes → Bytes} (isSchema : Bytes → Bool) {t e : Impl}
    (Ft : FRefines content t) (Fe : FRefines content e) (s : t.σ × e.σ)
    (hI : CondFInv isSchema Ft Fe s) (hq : Ft.Quiet s.1 ∧ Fe.Quiet s.2) (ops : List Op)
    (hops : ∀ op ∈ ops, op.WK content) :
    (cond2Impl isSchema t e).run s ops = run (union (Ft.abs s.1) (Fe.abs s.2)) ops :=
  run_eq_of_quiet (I := cond2Impl isSchema t e) (fun s => union (Ft.abs s.1) (Fe.abs s.2))
    (CondFInv isSchema Ft Fe) (fun s => Ft.Quiet s.1 ∧ Fe.Quiet s.2)
    (fun s op h hop => cond2_step_inv isSchema Ft Fe s.1 s.2 op h hop)
    (fun s op h hq hop => cond2_quiet_step isSchema Ft Fe s.1 s.2 op h hq hop) s hI hq ops hops

/-- cond, concretely (everything is schema, so every blob lives in the first store and the second
never holds it): ONE failed remove on the first store is masked by the second store's `.ok` -/
theorem cond2_rm_best_effort_counterexample :
    (cond2Impl (fun _ => true) (faultLeaf memImpl [.none, .before]) (faultLeaf memImpl [])).run
        (cond2Impl (fun _ => true) (faultLeaf memImpl [.none, .before]) (faultLeaf memImpl [])).init
        [.recv [1] [7], .rm [1], .fetch [1]] = [.sized 1, .ok, .bytes [7]] ∧
    run [] [.recv [1] [7], .rm [1], .fetch [1]] = [.sized 1, .ok, .notExist] :=
  ⟨rfl, rfl⟩

/-- `cond2Impl` reading through the OLD replica fetch (finding F-C13-5) -/
def cond2OldFetchImpl (isSchema : Bytes → Bool) (t e : Impl) : Impl where
  σ := t.σ × e.σ
  init := (t.init, e.init)
  step := fun (st, se) op =>
    match op with
    | .fetch k => (replica2OldFetchImpl t e).step (st, se) (.fetch k)
    | op => (cond2Impl isSchema t e).step (st, se) op

/-- cond over the OLD fetch, concretely (finding F-C13-5, fixed): ONE failed fetch on the first store
is answered "not there" (the second store never holds a schema blob), and the next fetch serves the
blob; no call answers an error.  The repaired model answers `.err` to the middle call. -/
theorem cond2_fetch_fallback_counterexample :
    (cond2OldFetchImpl (fun _ => true) (faultLeaf memImpl [.none, .before]) (faultLeaf memImpl [])).run
        (cond2OldFetchImpl (fun _ => true) (faultLeaf memImpl [.none, .before]) (faultLeaf memImpl [])).init
        [.recv [1] [7], .fetch [1], .fetch [1]] = [.sized 1, .notExist, .bytes [7]] ∧
    run [] [.recv [1] [7], .fetch [1], .fetch [1]] = [.sized 1, .bytes [7], .bytes [7]] ∧
    (cond2Impl (fun _ => true) (faultLeaf memImpl [.none, .before]) (faultLeaf memImpl [])).run
        (cond2Impl (fun _ => true) (faultLeaf memImpl [.none, .before]) (faultLeaf memImpl [])).init
        [.recv [1] [7], .fetch [1], .fetch [1]] = [.sized 1, .err, .bytes [7]] :=
  ⟨rfl, rfl, rfl⟩

end Pk.Stores
