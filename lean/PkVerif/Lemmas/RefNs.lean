import PkVerif.Lemmas.Stores
/-! C01, C13: the namespace combinator over a master store whose calls may fail transiently.

`nsImpl` calls its master only in `recv` (after an inventory miss) and `fetch` (after an inventory hit);
a master error is passed on as `.err` and the inventory is left untouched, so the abstract contents
(`mapK content inventory`) are exactly the before-state.  `stat`, `rm` and `enum` never touch the master
and are always exact.  `ns_step_F` is the one step theorem; a master that refines the reference map is
a master that never fails (`Refines.toF`), which gives `nsRefines`. -/
namespace Pk.Stores
open Pk Pk.SMap Pk.RefMap

theorem ns_sizes {content : Bytes → Bytes} {inv : SMap Nat}
    (hI : ∀ k sz, SMap.get inv k = some sz → (content k).length = sz) (hK : KAsc inv) :
    ∀ p ∈ inv, p.2 = (content p.1).length := by
  intro p hp
  obtain ⟨k, sz⟩ := p
  exact (hI k sz (mem_get hK hp)).symm

theorem ns_good {content : Bytes → Bytes} {inv : SMap Nat} (hK : KAsc inv)
    (hne : ∀ k sz, SMap.get inv k = some sz → k ≠ []) : Good content (mapK content inv) := by
  refine ⟨kasc_mapK _ hK, ?_⟩
  intro k v h
  rw [get_mapK] at h
  cases hg : SMap.get inv k with
  | none => simp [has, hg] at h
  | some sz =>
    simp [has, hg] at h
    exact ⟨h.symm, hne k sz hg⟩

/-- invariant of namespace over a fault-tolerant master: every inventory row names a blob the master's
abstract contents hold, with its content and true size -/
def nsFInv {content : Bytes → Bytes} {master : Impl} (F : FRefines content master)
    (s : (nsImpl master).σ) : Prop :=
  F.Inv s.2 ∧ KAsc s.1 ∧
  ∀ k sz, SMap.get s.1 k = some sz →
    SMap.get (F.abs s.2) k = some (content k) ∧ (content k).length = sz ∧ k ≠ []

theorem ns_recv_F {content : Bytes → Bytes} {master : Impl} (F : FRefines content master)
    (inv : SMap Nat) (ms : master.σ) (k v : Bytes) (hI : nsFInv F (inv, ms))
    (hop : (Op.recv k v).WK content) :
    nsFInv F ((nsImpl master).step (inv, ms) (.recv k v)).1 ∧
    StepSpec (mapK content inv) (mapK content ((nsImpl master).step (inv, ms) (.recv k v)).1.1)
      ((nsImpl master).step (inv, ms) (.recv k v)).2 (.recv k v)
      (F.Quiet ms) (F.Quiet ((nsImpl master).step (inv, ms) (.recv k v)).1.2) := by
  obtain ⟨hR, hK, hRows⟩ := hI
  obtain ⟨hv, hkne⟩ := hop
  obtain ⟨hi, hs, hq⟩ := F.sub ms (.recv k v) hR ⟨hv, hkne⟩
  have hG := F.good ms hR
  simp only [nsImpl]
  cases hh : has inv k with
  | true =>
    exact ⟨⟨hR, hK, hRows⟩, StepSpec.exact rfl (by simp [next, has_mapK, hh]) id⟩
  | false =>
    generalize master.step ms (.recv k v) = pr at hi hs hq
    obtain ⟨ms', o⟩ := pr
    simp only [Bool.false_eq_true, if_false]
    -- rows survive whatever the master did
    have hkeep : ∀ k' sz, SMap.get inv k' = some sz →
        SMap.get (F.abs ms') k' = some (content k') ∧ (content k').length = sz ∧ k' ≠ [] :=
      fun k' sz hg => ⟨get_recv_keep hG hv hs.move (hRows k' sz hg).1, (hRows k' sz hg).2⟩
    rcases hs with ⟨ho, ha⟩ | ⟨ho, _⟩
    · have ho' : o = .sized v.length := ho
      subst ho'
      have hst : mapK content (ins k v.length inv) = next (mapK content inv) (.recv k v) := by
        simp only [next, has_mapK, hh, Bool.false_eq_true, if_false, mapK_ins, hv]
      refine ⟨⟨hi, kasc_ins _ _ hK, ?_⟩, StepSpec.exact rfl hst (fun hQ => (hq hQ).2.2)⟩
      intro k' sz hg
      rw [get_ins] at hg
      by_cases hk : k' = k
      · subst hk
        simp only [if_true] at hg
        injection hg with hg
        have ha' : F.abs ms' = next (F.abs ms) (.recv k' v) := ha
        exact ⟨by rw [ha', get_next_recv hG hv, if_pos rfl, hv], by rw [← hg, hv], hkne⟩
      · simp only [hk, if_false] at hg
        exact hkeep k' sz hg
    · have ho' : o = .err := ho
      subst ho'
      exact ⟨⟨hi, hK, hkeep⟩, Or.inr ⟨rfl, Or.inl rfl⟩,
        fun hQ => absurd (hq hQ).1.symm (out_ne_err _ _)⟩

theorem ns_fetch_F {content : Bytes → Bytes} {master : Impl} (F : FRefines content master)
    (inv : SMap Nat) (ms : master.σ) (k : Bytes) (hI : nsFInv F (inv, ms)) :
    nsFInv F ((nsImpl master).step (inv, ms) (.fetch k)).1 ∧
    StepSpec (mapK content inv) (mapK content ((nsImpl master).step (inv, ms) (.fetch k)).1.1)
      ((nsImpl master).step (inv, ms) (.fetch k)).2 (.fetch k)
      (F.Quiet ms) (F.Quiet ((nsImpl master).step (inv, ms) (.fetch k)).1.2) := by
  obtain ⟨hR, hK, hRows⟩ := hI
  obtain ⟨hi, hs, hq⟩ := F.sub ms (.fetch k) hR trivial
  simp only [nsImpl]
  cases hg : SMap.get inv k with
  | none =>
    exact ⟨⟨hR, hK, hRows⟩, StepSpec.exact (by simp [out, get_mapK, has, hg]) rfl id⟩
  | some sz =>
    obtain ⟨h1, h2, _⟩ := hRows k sz hg
    generalize master.step ms (.fetch k) = pr at hi hs hq
    obtain ⟨ms', o⟩ := pr
    have habs : F.abs ms' = F.abs ms := hs.read_abs rfl
    have hinv : nsFInv F (inv, ms') := ⟨hi, hK, by show ∀ k sz, _ → SMap.get (F.abs ms') k = _ ∧ _; rw [habs]; exact hRows⟩
    have hout : out (mapK content inv) (.fetch k) = .bytes (content k) := by
      simp [out, get_mapK, has, hg]
    rcases hs with ⟨ho, _⟩ | ⟨ho, _⟩
    · -- the master answers the content, whose length is the inventory's size
      have ho' : o = .bytes (content k) := by rw [show o = _ from ho]; simp [out, h1]
      subst ho'
      have hne : ¬ (content k).length ≠ sz := by simp [h2]
      simp only [hne, if_false]
      exact ⟨hinv, StepSpec.exact hout.symm rfl (fun hQ => (hq hQ).2.2)⟩
    · have ho' : o = .err := ho
      subst ho'
      exact ⟨hinv, Or.inr ⟨rfl, Or.inl rfl⟩, fun hQ => absurd (hq hQ).1.symm (out_ne_err _ _)⟩

theorem ns_local_F {content : Bytes → Bytes} {master : Impl} (F : FRefines content master)
    (inv : SMap Nat) (ms : master.σ) (op : Op)
    (hop : match op with | .stat _ | .rm _ | .enum _ _ => True | _ => False)
    (hI : nsFInv F (inv, ms)) :
    nsFInv F ((nsImpl master).step (inv, ms) op).1 ∧
    ((nsImpl master).step (inv, ms) op).2 = out (mapK content inv) op ∧
    mapK content ((nsImpl master).step (inv, ms) op).1.1 = next (mapK content inv) op ∧
    ((nsImpl master).step (inv, ms) op).1.2 = ms := by
  obtain ⟨hR, hK, hRows⟩ := hI
  cases op with
  | recv _ _ => cases hop
  | fetch _ => cases hop
  | stat k =>
    simp only [nsImpl]
    cases hg : SMap.get inv k with
    | none =>
      simp only [out, next, get_mapK, has, hg]
      exact ⟨⟨hR, hK, hRows⟩, by simp, trivial, trivial⟩
    | some sz =>
      obtain ⟨_, h2, _⟩ := hRows k sz hg
      simp only [out, next, get_mapK, has, hg]
      exact ⟨⟨hR, hK, hRows⟩, by simp [h2], trivial, trivial⟩
  | rm k =>
    simp only [nsImpl, out, next, mapK_del]
    refine ⟨⟨hR, kasc_del _ hK, ?_⟩, trivial, trivial, trivial⟩
    intro k' sz hg
    rw [get_del k hK] at hg
    by_cases hk : k' = k
    · simp [hk] at hg
    · simp only [hk, if_false] at hg; exact hRows k' sz hg
  | enum after limit =>
    simp only [nsImpl, out, next]
    refine ⟨⟨hR, hK, hRows⟩, ?_, trivial, trivial⟩
    have hne : ∀ p ∈ inv, p.1 ≠ [] := by
      intro p hp
      obtain ⟨k, sz⟩ := p
      exact (hRows k sz (mem_get hK hp)).2.2
    rw [findSkip_eq_filter_gt hK hne]
    unfold enumOf
    rw [mapK_filter, sizes_mapK]
    intro p hp
    exact ns_sizes (fun k sz h => (hRows k sz h).2.1) hK p (List.mem_filter.mp hp).1

theorem ns_step_F {content : Bytes → Bytes} {master : Impl} (F : FRefines content master)
    (s : (nsImpl master).σ) (op : Op) (hI : nsFInv F s) (hop : op.WK content) :
    nsFInv F ((nsImpl master).step s op).1 ∧
    StepSpec (mapK content s.1) (mapK content ((nsImpl master).step s op).1.1)
      ((nsImpl master).step s op).2 op (F.Quiet s.2) (F.Quiet ((nsImpl master).step s op).1.2) := by
  obtain ⟨inv, ms⟩ := s
  have hloc := fun h => ns_local_F F inv ms op h hI
  cases op with
  | recv k v => exact ns_recv_F F inv ms k v hI hop
  | fetch k => exact ns_fetch_F F inv ms k hI
  | _ =>
    obtain ⟨h1, h2, h3, h4⟩ := hloc trivial
    exact ⟨h1, StepSpec.exact h2 h3 (by rw [h4]; exact id)⟩

/-- invariant of namespace over a refining master: every inventory row names a blob the master holds,
with its true size; this is `nsFInv R.toF` (`nsInv_eq`) -/
def nsInv {content : Bytes → Bytes} {master : Impl} (R : Refines content master)
    (s : (nsImpl master).σ) : Prop :=
  R.Inv s.2 ∧ KAsc s.1 ∧
  ∀ k sz, SMap.get s.1 k = some sz →
    SMap.get (R.abs s.2) k = some (content k) ∧ (content k).length = sz ∧ k ≠ []

theorem nsInv_eq {content : Bytes → Bytes} {master : Impl} (R : Refines content master) :
    nsInv R = nsFInv R.toF := rfl

def nsRefines {content : Bytes → Bytes} {master : Impl} (R : Refines content master) :
    Refines content (nsImpl master) where
  abs := fun s => mapK content s.1
  Inv := nsInv R
  init_inv := ⟨R.init_inv, kasc_nil, by intro k sz h; simp [nsImpl, SMap.get] at h⟩
  init_abs := rfl
  good := by
    rintro ⟨inv, ms⟩ ⟨_, hK, hI⟩
    exact ns_good hK (fun k sz h => (hI k sz h).2.2)
  step_ok := by
    intro s op h hop
    have p := ns_step_F R.toF s op h hop
    exact ⟨(p.2.2 trivial).1, (p.2.2 trivial).2.1, p.1⟩

def nsFRefines {content : Bytes → Bytes} {master : Impl} (F : FRefines content master) :
    FRefines content (nsImpl master) where
  abs := fun s => mapK content s.1
  Inv := nsFInv F
  Quiet := fun s => F.Quiet s.2
  init_inv := ⟨F.init_inv, kasc_nil, by intro k sz h; simp [nsImpl, SMap.get] at h⟩
  init_abs := rfl
  good := by
    rintro ⟨inv, ms⟩ ⟨_, hK, hRows⟩
    exact ns_good hK (fun k sz h => (hRows k sz h).2.2)
  step_ok := fun s op h hop => ⟨(ns_step_F F s op h hop).1, (ns_step_F F s op h hop).2.1⟩
  quiet_step := fun s op h hq hop => (ns_step_F F s op h hop).2.2 hq

end Pk.Stores
