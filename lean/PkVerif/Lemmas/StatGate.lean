import PkVerif.Model.StatGate
/-! Lemmas about the gate accounting of `StatBlobsParallelHelper` (C13).  The shape `⟨false, true⟩` is the
helper without the `Done` on the early `break` (DESIGN §12 row 1; "pinned" in the names below), `⟨true, true⟩`
the helper with it. -/
namespace Pk.StatGate

/-- with a `Done` on both ways out of an iteration the loop keeps Starts = Dones -/
theorem loop_balanced (sh : Shape) (h1 : sh.doneOnBreak = true) (h2 : sh.workerDefersDone = true)
    (visible : Nat → Bool) : ∀ (ends : List WorkerEnd) (i : Nat) (c : Count), c.starts = c.dones →
      (loop sh visible i ends c).starts = (loop sh visible i ends c).dones := by
  intro ends
  induction ends with
  | nil => intro i c h; exact h
  | cons w rest ih =>
    intro i c h
    simp only [loop]
    split
    · simp [h1, h]
    · apply ih
      cases w <;> simp [workerDones, h2, h]

/-- without the `Done` on the early exit: the loop gives back everything except one slot exactly when
the cancellation became visible at some iteration it reached -/
theorem loop_pinned (visible : Nat → Bool) : ∀ (ends : List WorkerEnd) (i : Nat) (c : Count),
    (loop ⟨false, true⟩ visible i ends c).starts - (loop ⟨false, true⟩ visible i ends c).dones =
      (c.starts - c.dones) + (if (List.range' i ends.length).any visible then 1 else 0) ∨
    c.starts < c.dones := by
  intro ends
  induction ends with
  | nil => intro i c; left; simp [loop]
  | cons w rest ih =>
    intro i c
    by_cases hlt : c.starts < c.dones
    · exact Or.inr hlt
    left
    simp only [loop]
    by_cases hv : visible i = true
    · simp only [hv, if_true, List.length_cons, List.range'_succ, List.any_cons, Bool.true_or]
      simp; omega
    · have hv' : visible i = false := by simpa using hv
      simp only [hv', Bool.false_eq_true, if_false, List.length_cons, List.range'_succ, List.any_cons,
        Bool.false_or]
      have hw : workerDones ⟨false, true⟩ w = 1 := by cases w <;> rfl
      rw [hw]
      rcases ih (i + 1) ⟨c.starts + 1, c.dones + 1⟩ with h | h
      · rw [h]; simp
      · simp at h; omega

/-- a call that found the context cancelled right away (`visible 0`) and has at least one blob -/
theorem leaked_pinned_cancelled (visible : Nat → Bool) (h0 : visible 0 = true) (w : WorkerEnd)
    (rest : List WorkerEnd) : leaked ⟨false, true⟩ visible (w :: rest) = 1 := by
  simp [leaked, call, loop, h0]

theorem leaked_fixed (visible : Nat → Bool) (ends : List WorkerEnd) :
    leaked ⟨true, true⟩ visible ends = 0 := by
  have := loop_balanced ⟨true, true⟩ rfl rfl visible ends 0 ⟨0, 0⟩ rfl
  simp [leaked, call, this]

/-- the repaired helper never exhausts the gate -/
theorem gateRun_fixed (cap : Nat) (hc : 0 < cap) :
    ∀ calls : List ((Nat → Bool) × List WorkerEnd), gateRun ⟨true, true⟩ (some cap) calls = some cap := by
  intro calls
  induction calls with
  | nil => rfl
  | cons c rest ih =>
    obtain ⟨v, e⟩ := c
    simp only [gateRun, leaked_fixed, Nat.sub_zero]
    rw [if_neg (fun h0 => absurd h0.2 (Nat.ne_of_gt hc))]
    exact ih

/-- the pinned helper: `n ≤ free` calls that find their context cancelled take `n` slots for good -/
theorem gateRun_pinned_cancelled (visible : Nat → Bool) (h0 : visible 0 = true) (w : WorkerEnd) :
    ∀ (n free : Nat), n ≤ free →
      gateRun ⟨false, true⟩ (some free) (List.replicate n (visible, [w])) = some (free - n) := by
  intro n
  induction n with
  | zero => intro free _; rfl
  | succ n ih =>
    intro free h
    simp only [List.replicate_succ, gateRun, leaked_pinned_cancelled visible h0]
    have hfree : ¬ ([w] ≠ [] ∧ free = 0) := fun hc => absurd (hc.2 ▸ h) (Nat.not_succ_le_zero n)
    rw [if_neg hfree, ih (free - 1) (Nat.le_sub_of_add_le h), Nat.sub_sub, Nat.add_comm]

/-- a sequence of calls can be cut anywhere: the gate after the first part is what the second part starts with -/
theorem gateRun_append (sh : Shape) : ∀ (l r : List ((Nat → Bool) × List WorkerEnd)) (free : Option Nat),
    gateRun sh free (l ++ r) = gateRun sh (gateRun sh free l) r := by
  intro l
  induction l with
  | nil => intro r free; cases free <;> rfl
  | cons c rest ih =>
    intro r free
    obtain ⟨v, e⟩ := c
    cases free with
    | none => cases r <;> rfl
    | some f =>
      simp only [List.cons_append, gateRun]
      split
      · cases r <;> rfl
      · exact ih _ _

/-- once `cap` cancelled calls have taken every slot, the next call, healthy or not, blocks forever -/
theorem gateRun_pinned_exhausted (visible : Nat → Bool) (h0 : visible 0 = true) (w : WorkerEnd)
    (cap : Nat) (next : (Nat → Bool) × List WorkerEnd) (hne : next.2 ≠ []) :
    gateRun ⟨false, true⟩ (some cap) (List.replicate cap (visible, [w]) ++ [next]) = none := by
  rw [gateRun_append, gateRun_pinned_cancelled visible h0 w cap cap (Nat.le_refl _)]
  obtain ⟨v, e⟩ := next
  simp only [Nat.sub_self, gateRun]
  rw [if_pos ⟨hne, trivial⟩]

end Pk.StatGate
