import PkVerif.Model.JsonSign
/-! For C16: where `bytes.LastIndex` finds the separator, which byte lets the JSON machine of the model
complete a document, and what `Sign` and `Verify` do with a document that `Sign` assembled. -/
namespace Pk.JsonSign
open Pk


theorem isPrefixOf_cons_cons (a b : Nat) (p s : Bytes) :
    (a :: p).isPrefixOf (b :: s) = (a == b && p.isPrefixOf s) :=
  List.isPrefixOf_cons_cons

theorem lastIndex_none_of_not_mem (c : Nat) (p s : Bytes) (h : c ∉ s) :
    lastIndex (c :: p) s = none := by
  induction s with
  | nil => rfl
  | cons d s ih =>
    have hd : c ≠ d := fun e => h (by simp [e])
    have hs : c ∉ s := fun m => h (by simp [m])
    simp [lastIndex, ih hs, List.isPrefixOf, hd]

theorem lastIndex_self_append (c : Nat) (p tail : Bytes) (hp : c ∉ p) (ht : c ∉ tail) :
    lastIndex (c :: p) ((c :: p) ++ tail) = some 0 := by
  have hn : lastIndex (c :: p) (p ++ tail) = none :=
    lastIndex_none_of_not_mem c p (p ++ tail) (by simp [hp, ht])
  have hpre : (c :: p).isPrefixOf ((c :: p) ++ tail) = true :=
    List.isPrefixOf_iff_prefix.2 (List.prefix_append _ _)
  simp only [List.cons_append] at hpre ⊢
  simp [lastIndex, hn, hpre]

theorem lastIndex_append_left (pat t rest : Bytes) (i : Nat) (h : lastIndex pat rest = some i) :
    lastIndex pat (t ++ rest) = some (t.length + i) := by
  induction t with
  | nil => simpa using h
  | cons a t ih =>
    simp only [List.cons_append, lastIndex, ih, List.length_cons]
    congr 1; omega

/-- **the last separator of `T ++ sep ++ tail` is the one that was appended**, whatever `T` contains,
as long as the first byte of the separator occurs neither in the rest of the separator nor in `tail` -/
theorem lastIndex_payload_sep (c : Nat) (p t tail : Bytes) (hp : c ∉ p) (ht : c ∉ tail) :
    lastIndex (c :: p) (t ++ (c :: p) ++ tail) = some t.length := by
  rw [List.append_assoc]
  simpa using lastIndex_append_left (c :: p) t ((c :: p) ++ tail) 0 (lastIndex_self_append c p tail hp ht)

theorem lastIndex_spec (pat s : Bytes) (i : Nat) (h : lastIndex pat s = some i) :
    pat.isPrefixOf (s.drop i) = true ∧ i ≤ s.length := by
  induction s generalizing i with
  | nil => cases h
  | cons a s ih =>
    unfold lastIndex at h
    split at h
    · cases h; simpa using ih _ ‹_›
    · split at h
      · cases h; simp_all
      · cases h

theorem lastIndex_none_after (pat s : Bytes) (j : Nat) (hj : j < s.length)
    (h : ∀ i, lastIndex pat s = some i → i < j) : pat.isPrefixOf (s.drop j) = false := by
  induction s generalizing j with
  | nil => simp at hj
  | cons a s ih =>
    cases j with
    | zero =>
      -- no result is below 0, so `lastIndex` found nothing, in particular not at the head
      cases hl : lastIndex pat s with
      | some k => exact absurd (h (k + 1) (by simp [lastIndex, hl])) (by omega)
      | none =>
        cases hp : pat.isPrefixOf (a :: s) with
        | false => simpa using hp
        | true => exact absurd (h 0 (by simp [lastIndex, hl, hp])) (by omega)
    | succ j =>
      refine ih j (by simpa using hj) fun i hi => ?_
      have := h (i + 1) (by simp [lastIndex, hi])
      omega

theorem lastIndex_last (pat s : Bytes) (i j : Nat) (h : lastIndex pat s = some i) (hj : i < j)
    (hjl : j < s.length) : pat.isPrefixOf (s.drop j) = false :=
  lastIndex_none_after pat s j hjl fun i' hi => by rw [h] at hi; cases hi; exact hj

/-! ## plain bytes pass through the string scanner unchanged -/

theorem run_append (s : St) (a b : Bytes) : run s (a ++ b) = run (run s a) b := by
  simp [run, List.foldl_append]

theorem run_cons (s : St) (c : Nat) (b : Bytes) : run s (c :: b) = run (step s c) b := rfl

theorem run_nil (s : St) : run s [] = s := rfl

/-- bytes that may stand for themselves in a JSON string and in the signature: printable ASCII
other than `"` and `\` -/
def isPlain (c : Nat) : Bool := 32 ≤ c && c < 128 && c != 34 && c != 92

/-- the alphabet of an armored signature line: base64 and `=` -/
def isB64 (c : Nat) : Bool :=
  (65 ≤ c && c ≤ 90) || (97 ≤ c && c ≤ 122) || (48 ≤ c && c ≤ 57) || c == 43 || c == 47 || c == 61

theorem b64_shape {sig : Bytes} (h : ∀ c ∈ sig, isB64 c = true) :
    44 ∉ sig ∧ ∀ c ∈ sig, isPlain c = true := by
  have key : ∀ c, isB64 c = true → c ≠ 44 ∧ isPlain c = true := fun c hc => by
    simp only [isB64, isPlain, Bool.or_eq_true, Bool.and_eq_true, decide_eq_true_eq, beq_iff_eq, bne_iff_ne] at hc ⊢
    omega
  exact ⟨fun hm => (key 44 (h 44 hm)).1 rfl, fun c hc => (key c (h c hc)).2⟩

theorem stepStr_plain (raw : Bytes) (stk : List Frame) (c : Nat) (h : isPlain c = true) :
    step ⟨.str raw .normal, stk⟩ c = ⟨.str (c :: raw) .normal, stk⟩ := by
  simp only [isPlain, Bool.and_eq_true, decide_eq_true_eq, bne_iff_ne] at h
  obtain ⟨⟨⟨h1, _⟩, h3⟩, h4⟩ := h
  have h5 : ¬ c < 32 := by omega
  simp [step, stepStr, h3, h4, h5]

theorem run_plain (raw : Bytes) (stk : List Frame) (sig : Bytes) (h : ∀ c ∈ sig, isPlain c = true) :
    run ⟨.str raw .normal, stk⟩ sig = ⟨.str (sig.reverse ++ raw) .normal, stk⟩ := by
  induction sig generalizing raw with
  | nil => rfl
  | cons c sig ih =>
    rw [run_cons, stepStr_plain raw stk c (h c (by simp)), ih _ (fun d hd => h d (by simp [hd]))]
    simp

theorem unquoteAux_plain (s : Bytes) (fuel : Nat) (hf : s.length ≤ fuel)
    (h : ∀ c ∈ s, isPlain c = true) : unquoteAux fuel s = s := by
  induction s generalizing fuel with
  | nil => cases fuel <;> rfl
  | cons c s ih =>
    cases fuel with
    | zero => simp at hf
    | succ f =>
      have hc := h c (by simp)
      simp only [isPlain, Bool.and_eq_true, decide_eq_true_eq, bne_iff_ne] at hc
      obtain ⟨⟨⟨_, h2⟩, _⟩, h4⟩ := hc
      simp only [unquoteAux, h4, if_false, h2, if_true]
      rw [ih f (by simpa using hf) (fun d hd => h d (by simp [hd]))]

theorem unquote_plain (s : Bytes) (h : ∀ c ∈ s, isPlain c = true) : unquote s = s :=
  unquoteAux_plain s s.length (Nat.le_refl _) h

/-! ## the member that `Sign` appends -/

/-- `camliSig":"`: the separator without its leading `,"` -/
def sepRest : Bytes := [99, 97, 109, 108, 105, 83, 105, 103, 34, 58, 34]

theorem sigSeparator_eq : sigSeparator = 44 :: 34 :: sepRest := rfl

theorem run_key (done : List (Bytes × JV)) (stk : List Frame) :
    run ⟨.str [] .normal, .objK done :: stk⟩ sepRest = ⟨.str [] .normal, .objV done kCamliSig :: stk⟩ := by
  rfl

theorem run_sig_member (done : List (Bytes × JV)) (stk : List Frame) (sig : Bytes)
    (h : ∀ c ∈ sig, isPlain c = true) :
    run ⟨.str [] .normal, .objK done :: stk⟩ (sepRest ++ sig ++ [34]) =
      ⟨.ev, .objE ((kCamliSig, .str sig) :: done) :: stk⟩ := by
  rw [List.append_assoc, run_append, run_key, run_append, run_plain _ _ _ h, run_cons, run_nil]
  simp [step, stepStr, complete, unquote_plain sig h]

theorem run_sig_close (done : List (Bytes × JV)) (sig : Bytes) (h : ∀ c ∈ sig, isPlain c = true) :
    finish (run ⟨.str [] .normal, [.objK done]⟩ (sepRest ++ sig ++ sigSuffix)) =
      some (.obj (done.reverse ++ [(kCamliSig, .str sig)])) := by
  have : sepRest ++ sig ++ sigSuffix = (sepRest ++ sig ++ [34]) ++ [125, 10] := by simp [sigSuffix]
  rw [this, run_append, run_sig_member done [] sig h]
  simp [run, step, stepEnd, isWs, complete, finish]

theorem finish_ev (stk : List Frame) : finish ⟨.ev, stk⟩ = none := by
  simp [finish, step, stepEnd, isWs]

theorem finish_top (v : JV) (stk : List Frame) : finish ⟨.top v, stk⟩ = some v := by
  simp [finish, step, stepEnd, isWs]

theorem finish_err (stk : List Frame) : finish ⟨.err, stk⟩ = none := by
  simp [finish, step, St.error]

/-! ## which byte completes a document

`Mode.top` is entered only by `complete` at the empty stack.  With an object value that happens on
`}` alone, read in a state where `,` would have continued the same object. -/

theorem complete_top {v w : JV} {stk : List Frame} (h : (complete v stk).mode = .top w) :
    stk = [] ∧ v = w := by
  cases stk with
  | nil => exact ⟨rfl, Mode.top.inj h⟩
  | cons f r =>
    cases f with
    | objK d => cases v <;> cases h
    | _ => cases h

/-- `split` on a chain of n `if`s takes time exponential in n, so the chains of the machine (ten deep
in `beginValue`) are taken apart branch by branch with this lemma. -/
theorem ite_top {p : Prop} [Decidable p] {a b : St} {v : JV} {Q : Prop}
    (ha : a.mode = .top v → Q) (hb : b.mode = .top v → Q) : (if p then a else b).mode = .top v → Q := by
  split <;> assumption

theorem beginValue_not_top (stk : List Frame) (c : Nat) (v : JV) : (beginValue stk c).mode ≠ .top v := by
  unfold beginValue push
  repeat' with_reducible apply ite_top
  all_goals nofun

theorem stepEnd_top_obj {s : St} {c : Nat} {m : List (Bytes × JV)}
    (h : (stepEnd s c).mode = .top (.obj m)) :
    (isWs c = true ∧ s.mode = .top (.obj m)) ∨ (c = 125 ∧ stepEnd s 44 = ⟨.bs, [.objK m.reverse]⟩) := by
  obtain ⟨mode, stk⟩ := s
  cases mode with
  | top v =>
    dsimp only [stepEnd] at h
    by_cases hw : isWs c = true
    · exact .inl ⟨hw, by rwa [if_pos hw] at h⟩
    · rw [if_neg hw] at h; cases h
  | ev =>
    dsimp only [stepEnd] at h
    by_cases hw : isWs c = true
    · rw [if_pos hw] at h; cases h
    rw [if_neg hw] at h
    cases stk with
    | nil => cases h
    | cons f r =>
      cases f with
      | objE d =>
        dsimp only at h
        by_cases h44 : c = 44
        · rw [if_pos h44] at h; cases h
        rw [if_neg h44] at h
        by_cases h125 : c = 125
        · -- `}` closes the frame: nothing else was open and `d` is all of `m`
          rw [if_pos h125] at h
          obtain ⟨rfl, hv⟩ := complete_top h
          cases hv
          exact .inr ⟨h125, by simp [stepEnd, isWs]⟩
        · rw [if_neg h125] at h; cases h
      | arr d =>
        dsimp only at h
        refine ite_top ?_ (ite_top (fun h => ?_) ?_) h
        · nofun
        · cases (complete_top h).2
        · nofun
      | objC d k => dsimp only at h; refine ite_top ?_ ?_ h <;> nofun
      | objK d => cases h
      | objV d k => cases h
  | _ => cases h

theorem endNum_top_obj {raw : Bytes} {stk : List Frame} {c : Nat} {m : List (Bytes × JV)}
    (h : (endNum raw stk c).mode = .top (.obj m)) :
    c = 125 ∧ endNum raw stk 44 = ⟨.bs, [.objK m.reverse]⟩ := by
  unfold endNum at h ⊢
  split at h
  · rename_i hn
    rw [if_pos hn]
    rcases stepEnd_top_obj h with ⟨_, ht⟩ | hc
    · cases (complete_top ht).2
    · exact hc
  · cases h

theorem stepNum_top {raw : Bytes} {ph : NumPh} {stk : List Frame} {c : Nat} {v : JV} :
    (stepNum raw ph stk c).mode = .top v → (endNum raw stk c).mode = .top v := by
  cases ph <;> unfold stepNum <;> repeat' with_reducible apply ite_top
  -- a branch ends the number, or it stays in the number or fails: no `top`
  all_goals first | with_reducible exact id | nofun

theorem stepNum_top_obj {raw : Bytes} {ph : NumPh} {stk : List Frame} {c : Nat} {m : List (Bytes × JV)}
    (h : (stepNum raw ph stk c).mode = .top (.obj m)) :
    c = 125 ∧ stepNum raw ph stk 44 = ⟨.bs, [.objK m.reverse]⟩ := by
  obtain rfl := (endNum_top_obj (stepNum_top h)).1
  -- neither `}` nor `,` is a byte of a number
  cases ph <;> simp [stepNum, isDigit, St.error] at h ⊢ <;> exact (endNum_top_obj h).2

theorem stepStr_top {raw : Bytes} {sub : StrSub} {stk : List Frame} {c : Nat} {v : JV} :
    (stepStr raw sub stk c).mode = .top v → v = .str (unquote raw.reverse) := by
  cases sub <;> unfold stepStr <;> repeat' with_reducible apply ite_top
  -- a branch completes the string, or it stays in the string or fails: no `top`
  all_goals first | exact fun h => (complete_top h).2.symm | nofun

theorem step_top_obj (s : St) (c : Nat) (m : List (Bytes × JV))
    (h : (step s c).mode = .top (.obj m)) :
    (isWs c = true ∧ s.mode = .top (.obj m)) ∨
      (c = 125 ∧ (m = [] ∨ step s 44 = ⟨.bs, [.objK m.reverse]⟩)) := by
  obtain ⟨mode, stk⟩ := s
  cases mode with
  | err => cases h
  | top v => exact (stepEnd_top_obj h).imp_right (And.imp_right .inr)
  | ev => exact (stepEnd_top_obj h).imp_right (And.imp_right .inr)
  | bv =>
    dsimp only [step] at h
    refine ite_top ?_ (fun h => absurd h (beginValue_not_top _ _ _)) h
    nofun
  | bvOrEmpty =>
    dsimp only [step] at h
    split at h
    · cases h
    · split at h
      · split at h
        · cases (complete_top h).2
        · cases h
      · exact absurd h (beginValue_not_top _ _ _)
  | bsOrEmpty =>
    dsimp only [step] at h
    split at h
    · cases h
    · split at h
      · split at h
        · cases (complete_top h).2
          exact .inr ⟨‹_›, .inl rfl⟩
        · cases h
      · split at h <;> cases h
  | bs =>
    dsimp only [step] at h
    refine ite_top ?_ (ite_top ?_ ?_) h <;> nofun
  | str raw sub => cases stepStr_top h
  | num raw ph => exact .inr ((stepNum_top_obj h).imp_right .inr)
  | lit rest k =>
    cases rest with
    | nil => cases h
    | cons r rs =>
      dsimp only [step] at h
      split at h
      · split at h
        · cases k <;> cases (complete_top h).2
        · cases h
      · cases h

theorem finish_obj_mode (s : St) (m : List (Bytes × JV)) (h : finish s = some (.obj m)) :
    s.mode = .top (.obj m) := by
  unfold finish at h
  split at h
  · rename_i v hv
    cases h
    rcases step_top_obj s 32 _ hv with ⟨_, hs⟩ | ⟨hc, _⟩
    · exact hs
    · cases hc
  · cases h

/-- **closing an object vs continuing it**: if `}` would complete the document as the non-empty
object `m`, then `,` instead leads to the state that expects the next key of that same object -/
theorem close_then_comma (s : St) (m : List (Bytes × JV)) (hm : m ≠ [])
    (h : finish (step s 125) = some (.obj m)) : step s 44 = ⟨.bs, [.objK m.reverse]⟩ := by
  rcases step_top_obj s 125 m (finish_obj_mode _ _ h) with ⟨hw, _⟩ | ⟨_, he | hs⟩
  · cases hw
  · exact absurd he hm
  · exact hs

/-- **a signed document is the original object plus one member**: if `t ++ "}"` is a JSON document
whose value is the non-empty object `m`, then `t ++ ,"camliSig":"<sig>"}\n` is a JSON document whose
value is `m` followed by the member `camliSig = sig` -/
theorem parse_signed (t sig : Bytes) (m : List (Bytes × JV)) (hp : ∀ c ∈ sig, isPlain c = true)
    (hm : m ≠ []) (h : parseJSON (t ++ [125]) = some (.obj m)) :
    parseJSON (assemble t sig) = some (.obj (m ++ [(kCamliSig, .str sig)])) := by
  unfold parseJSON at h ⊢
  rw [run_append, run_cons, run_nil] at h
  have hc := close_then_comma _ m hm h
  have : assemble t sig = t ++ (44 :: 34 :: (sepRest ++ sig ++ sigSuffix)) := by
    simp [assemble, sigSeparator_eq]
  rw [this, run_append, run_cons, hc, run_cons]
  have : step ⟨.bs, [.objK m.reverse]⟩ 34 = ⟨.str [] .normal, [.objK m.reverse]⟩ := by
    simp [step, isWs]
  rw [this, run_sig_close _ _ hp]
  simp

/-- BS of a document produced by `Sign`: `{"camliSig":"<sig>"}\n` -/
def signedBS (sig : Bytes) : Bytes := 123 :: 34 :: (sepRest ++ sig ++ sigSuffix)

theorem parse_bs (sig : Bytes) (hp : ∀ c ∈ sig, isPlain c = true) :
    parseJSON (signedBS sig) = some (.obj [(kCamliSig, .str sig)]) := by
  unfold parseJSON signedBS
  rw [run_cons, run_cons]
  have : step (step St.init 123) 34 = ⟨.str [] .normal, [.objK []]⟩ := by
    simp [St.init, step, isWs, beginValue, push, maxNestingDepth]
  rw [this, run_sig_close _ _ hp]
  simp

theorem lookup_append_single (k k' : Bytes) (v : JV) (m : List (Bytes × JV)) :
    lookup k (m ++ [(k', v)]) = if k' = k then some v else lookup k m := by
  induction m with
  | nil => simp [lookup]
  | cons p m ih =>
    obtain ⟨a, b⟩ := p
    simp only [List.cons_append, lookup, ih]
    by_cases hk : k' = k
    · simp [hk]
    · simp [hk]

/-- a map with a member is not the empty map a top-level `null` leaves: the document is an object -/
theorem parseJSON_of_lookup {data k : Bytes} {m : List (Bytes × JV)} {v : JV}
    (h : unmarshalMap data = some m) (hk : lookup k m = some v) : parseJSON data = some (.obj m) := by
  unfold unmarshalMap at h
  split at h
  · cases h; assumption
  · cases h; cases hk
  · cases h

theorem parseSigMap_signedBS (sig : Bytes) (hp : ∀ c ∈ sig, isPlain c = true) :
    parseSigMap (signedBS sig) = .ok sig := by
  unfold parseSigMap unmarshalMap
  rw [parse_bs sig hp]
  simp [numKeys, lookup, kCamliSig]


/-- BP / BPJ / BS (verify.go:188-212) of a payload followed by the separator and a tail without comma:
the payload is cut off whole, whatever it contains -/
theorem newVerificationRequest_appended (t tail : Bytes) (h : 44 ∉ tail) :
    newVerificationRequest (t ++ sigSeparator ++ tail) =
      some ⟨t.length, t, t ++ [125], 123 :: 34 :: (sepRest ++ tail)⟩ := by
  unfold newVerificationRequest
  rw [sigSeparator_eq, lastIndex_payload_sep 44 (34 :: sepRest) t tail (by decide) h]
  simp [← List.drop_drop]

theorem parsePayloadMap_ok_iff (tbl : Ref.Tbl) (bpj signer : Bytes) :
    parsePayloadMap tbl bpj = .ok signer ↔
      ∃ m s r, unmarshalMap bpj = some m ∧ (lookup kCamliVersion m).isSome ∧
        lookup kCamliSigner m = some (.str s) ∧ Ref.parse tbl s true = some r ∧ Ref.toText r = signer := by
  unfold parsePayloadMap
  constructor
  · intro h
    split at h
    · cases h
    · rename_i m hm
      split at h
      · cases h
      · rename_i hv
        split at h
        · cases h
        · rename_i s hs
          split at h
          · cases h
          · rename_i r hr
            cases h
            exact ⟨m, s, r, hm, by simp [hv], hs, hr, rfl⟩
        · cases h
  · rintro ⟨m, s, r, hm, hv, hs, hr, rfl⟩
    obtain ⟨v, hv⟩ := Option.isSome_iff_exists.1 hv
    simp only [hm, hv, hs, hr]

theorem verify_of_parts {κ : Type} (tbl : Ref.Tbl) (fetch : Bytes → KeyRes κ)
    (check : κ → Bytes → Bytes → Option Nat) (sjson : Bytes) (p : Parts) (sig signer : Bytes) (pk : κ)
    (hp : newVerificationRequest sjson = some p) (hs : parseSigMap p.bs = .ok sig)
    (hm : parsePayloadMap tbl p.bpj = .ok signer) (hf : fetch signer = .key pk) :
    verify tbl fetch check sjson =
      ⟨(check pk p.bp (reArmor sig)).map .sig, some p.sigIndex, sig, some signer⟩ := by
  unfold verify
  simp only [hp, hs, hm, hf]
  cases check pk p.bp (reArmor sig) <;> rfl

/-! ## a trimmed object document ends with `}` -/

theorem parseJSON_obj_last {data : Bytes} {c : Nat} {m : List (Bytes × JV)}
    (hl : data.getLast? = some c) (hc : isWs c = false) (h : parseJSON data = some (.obj m)) :
    c = 125 := by
  obtain ⟨pre, rfl⟩ := List.getLast?_eq_some_iff.1 hl
  have ht := finish_obj_mode _ _ h
  rw [run_append, run_cons, run_nil] at ht
  rcases step_top_obj _ c m ht with ⟨hw, _⟩ | ⟨e, _⟩
  · rw [hw] at hc; cases hc
  · exact e

theorem trimRev_no_space (fuel : Nat) (r : Bytes) (h : r.length ≤ fuel) :
    spaceSuffixLen (trimRev fuel r) = 0 := by
  induction fuel generalizing r with
  | zero =>
    have : r = [] := by cases r <;> simp_all
    subst this; rfl
  | succ f ih =>
    unfold trimRev
    split
    · assumption
    · rename_i hn
      apply ih
      have hne : spaceSuffixLen r ≠ 0 := by intro e; exact hn e
      simp only [List.length_drop]
      omega

theorem spaceSuffixLen_zero_head (c : Nat) (rest : Bytes) (h : spaceSuffixLen (c :: rest) = 0) :
    isAsciiSpace c = false := by
  cases hc : isAsciiSpace c with
  | false => rfl
  | true => rcases rest with _ | ⟨d, _ | ⟨e, rest⟩⟩ <;> simp [spaceSuffixLen, hc] at h

theorem isAsciiSpace_of_isWs (c : Nat) (h : isWs c = true) : isAsciiSpace c = true := by
  simp only [isWs, isAsciiSpace, Bool.or_eq_true, beq_iff_eq, Bool.and_eq_true, decide_eq_true_eq] at *
  omega

theorem trimRightSpace_last (s : Bytes) (c : Nat) (h : (trimRightSpace s).getLast? = some c) :
    isWs c = false := by
  unfold trimRightSpace at h
  rw [List.getLast?_reverse] at h
  have hz := trimRev_no_space s.length s.reverse (by simp)
  cases ht : trimRev s.length s.reverse with
  | nil => simp [ht] at h
  | cons a rest =>
    rw [ht] at h hz
    simp at h; subst h
    have := spaceSuffixLen_zero_head _ _ hz
    cases hw : isWs a with
    | false => rfl
    | true => rw [isAsciiSpace_of_isWs a hw] at this; cases this

/-- what sign.go:171 tests again after the JSON parse -/
theorem trimmed_obj_last (s : Bytes) (m : List (Bytes × JV))
    (h : parseJSON (trimRightSpace s) = some (.obj m)) : (trimRightSpace s).getLast? = some 125 := by
  cases hl : (trimRightSpace s).getLast? with
  | none => rw [List.getLast?_eq_none_iff.1 hl] at h; cases h
  | some c => rw [parseJSON_obj_last hl (trimRightSpace_last s c hl) h]

theorem dropLast_append_getLast (l : Bytes) (x : Nat) (h : l.getLast? = some x) :
    l.dropLast ++ [x] = l := by
  obtain ⟨ys, rfl⟩ := List.getLast?_eq_some_iff.1 h
  simp

theorem stripArmor_ne_nobrace (o : Bytes) : stripArmor o ≠ .error .nobrace := by
  unfold stripArmor
  split
  · split <;> nofun
  · nofun


/-- what holds when `Sign` returns `assemble t sig`: the look-ups that succeeded on the way -/
structure SignOk {κ σ : Type} (tbl : Ref.Tbl) (fetch : Bytes → KeyRes κ) (secret : κ → Option σ)
    (signArmored : σ → Bytes → Bytes) (unsigned : Bytes) (m : List (Bytes × JV)) (s : Bytes)
    (ref : Ref.Ref) (pk : κ) (sk : σ) (t sig : Bytes) : Prop where
  parsed : unmarshalMap (trimRightSpace unsigned) = some m
  signer : lookup kCamliSigner m = some (.str s)
  ref_ok : Ref.parse tbl s true = some ref
  key : fetch (Ref.toText ref) = .key pk
  secret_key : secret pk = some sk
  trimmed : t ++ [125] = trimRightSpace unsigned
  armor : stripArmor (signArmored sk t) = .ok sig

/-- `Sign` ends with an error other than the brace error or with the assembled document: at the
brace test the trimmed input is an object with a `camliSigner`, so it does end in `}`.  The result is
a parameter `r` so that the lemma serves both a given `h : sign … = .ok doc` and, with `rfl`, the
claim about every result. -/
theorem sign_cases {κ σ : Type} (tbl : Ref.Tbl) (fetch : Bytes → KeyRes κ) (secret : κ → Option σ)
    (signArmored : σ → Bytes → Bytes) (unsigned : Bytes) (r : Except SignErr Bytes)
    (h : sign tbl fetch secret signArmored unsigned = r) :
    (∃ e, r = .error e ∧ e ≠ .nobrace) ∨
    ∃ m s ref pk sk t sig, SignOk tbl fetch secret signArmored unsigned m s ref pk sk t sig ∧
      r = .ok (assemble t sig) := by
  subst h
  unfold sign
  dsimp only
  rw [← kCamliSigner]
  cases hm : unmarshalMap (trimRightSpace unsigned) with
  | none => exact .inl ⟨_, rfl, nofun⟩
  | some m =>
  dsimp only
  cases hs : lookup kCamliSigner m with
  | none => exact .inl ⟨_, rfl, nofun⟩
  | some signer =>
  dsimp only
  cases hr : Ref.parse tbl (strOf (some signer)) true with
  | none => exact .inl ⟨_, rfl, nofun⟩
  | some ref =>
  dsimp only
  cases hf : fetch (Ref.toText ref) with
  | missing => exact .inl ⟨_, rfl, nofun⟩
  | notkey => exact .inl ⟨_, rfl, nofun⟩
  | key pk =>
  dsimp only
  have hb := trimmed_obj_last unsigned m (parseJSON_of_lookup hm hs)
  rw [if_neg (not_not_intro hb)]
  cases hsk : secret pk with
  | none => exact .inl ⟨_, rfl, nofun⟩
  | some sk =>
  dsimp only
  cases hsig : stripArmor (signArmored sk (trimRightSpace unsigned).dropLast) with
  | error e => exact .inl ⟨e, rfl, fun h => stripArmor_ne_nobrace _ (h ▸ hsig)⟩
  | ok sig =>
  dsimp only
  -- the signer is a string (a non-string gives the empty text, which is no blobref)
  obtain ⟨s, rfl⟩ : ∃ s, signer = .str s := by
    cases signer with
    | str s => exact ⟨s, rfl⟩
    | _ => simp [strOf, Ref.parse, Ref.splitDash] at hr
  exact .inr ⟨m, s, ref, pk, sk, _, sig,
    ⟨hm, hs, hr, hf, hsk, dropLast_append_getLast _ _ hb, hsig⟩, rfl⟩

theorem sign_ok {κ σ : Type} {tbl : Ref.Tbl} {fetch : Bytes → KeyRes κ} {secret : κ → Option σ}
    {signArmored : σ → Bytes → Bytes} {unsigned doc : Bytes}
    (h : sign tbl fetch secret signArmored unsigned = .ok doc) :
    ∃ m s ref pk sk t sig, SignOk tbl fetch secret signArmored unsigned m s ref pk sk t sig ∧
      doc = assemble t sig := by
  obtain ⟨_, ⟨⟩, _⟩ | ⟨m, s, ref, pk, sk, t, sig, ok, ⟨⟩⟩ := sign_cases _ _ _ _ _ _ h
  exact ⟨m, s, ref, pk, sk, t, sig, ok, rfl⟩

end Pk.JsonSign
