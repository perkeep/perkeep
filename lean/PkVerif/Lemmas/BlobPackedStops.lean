import PkVerif.Lemmas.BlobPackedPack
/-!
# Lemmas for C04: where a pack can stop.  It does stop: with the code after the `fix:` commit (a zip without
data blobs is an error) every stored zip consumes at least one chunk and consecutive truncate-retries
write strictly fewer chunks.  And two invariants of every state it can stop in, so of every crash point:
"nothing inside a zip has been removed" (the hypothesis under which recovery is invisible), and "every
`z:` row names a zip that is in `large`" (so the start-up integrity check can ask for a fast recovery,
never for a full one).
-/
namespace Pk.BP
open Pk Pk.SMap
variable {C : Ref → Bytes}

/-! ## `pack` terminates -/

theorem walkBack_mem : ∀ (l : List (Ref × Bytes)) (over : Nat) (r : Ref), walkBack l over = some r → r ∈ l.map (·.1)
  | [], _, _, h => by simp [walkBack] at h
  | (r0, v0) :: rest, over, r, h => by
    simp only [walkBack] at h
    split at h
    · injection h with h; simp [h]
    · have := walkBack_mem rest _ r h
      simp [this]

theorem cut_lt_of_mem_take : ∀ (remain : List Ref) (j : Nat) (r : Ref), r ∈ remain.take j → cut (some r) remain < j
  | [], j, r, h => by simp at h
  | x :: xs, 0, r, h => by simp at h
  | x :: xs, j + 1, r, h => by
    simp only [List.take_succ_cons, List.mem_cons] at h
    by_cases hx : x = r
    · simp [cut, hx]
    · have := cut_lt_of_mem_take xs j r (h.resolve_left fun e => hx e.symm)
      rw [cut_cons_ne _ _ _ (fun e => hx (Option.some.inj e).symm)]
      omega

/-- the hint `walkBack` gives for a zip that came out too big names one of the chunks written, and not the
last one: a fill under that hint writes fewer chunks -/
theorem cut_walkBack {written : List (Ref × Bytes)} {remain : List Ref} {over : Nat} {tr : Ref}
    (hpre : written.map (·.1) = remain.take written.length) (hover : 0 < over)
    (hwb : walkBack written.reverse over = some tr) : cut (some tr) remain + 1 < written.length := by
  cases hrev : written.reverse with
  | nil => rw [hrev] at hwb; simp [walkBack] at hwb
  | cons x rest =>
    rw [hrev] at hwb
    simp only [walkBack, show ¬ over = 0 by omega, if_false] at hwb
    have hw : written = rest.reverse ++ [x] := by simpa using congrArg List.reverse hrev
    have hlen : written.length = rest.length + 1 := by rw [hw]; simp
    have htake : remain.take rest.length = rest.reverse.map (·.1) := by
      have := congrArg (List.take rest.length) hpre
      rw [List.take_take, hlen, Nat.min_eq_left (Nat.le_succ _)] at this
      rw [← this, hw]; simp
    have := cut_lt_of_mem_take remain rest.length tr (by rw [htake]; simpa using walkBack_mem rest _ tr hwb)
    omega

/-- a stored zip that consumed `k ≥ 1` of `R` chunks: `(R-k)(R-k+1) + (R-k) + 1 = (R-k+1)² ≤ R²`; `c` is
whatever the measure still held for retries -/
theorem fuel_stored (R k c : Nat) (h1 : 1 ≤ k) (h2 : k ≤ R) : (R - k) * (R - k + 1) + (R - k) + 1 ≤ R * (R + 1) + c := by
  have : R - k + 1 ≤ R := Nat.sub_lt (Nat.lt_of_lt_of_le h1 h2) h1
  calc (R - k) * (R - k + 1) + (R - k) + 1
      = (R - k + 1) * (R - k + 1) := (Nat.add_assoc ..).trans (Nat.succ_mul ..).symm
    _ ≤ R * R := Nat.mul_le_mul this this
    _ ≤ R * (R + 1) + c := Nat.le_trans (Nat.mul_le_mul_left R (Nat.le_succ R)) (Nat.le_add_right ..)

/-- **`pack` terminates**: with the repaired `writeAZip`, `(R+1)²` iterations suffice for `R` remaining
chunks (more precisely `R·(R+1) + cut + 1`) -/
theorem packLoop_terminates (env : PackEnv) (hleg : env.c.legacy = false) (nameOK : Bool) (tbl : List Chunk)
    (whole : Ref) (wsz : Nat) :
    ∀ (fuel : Nat) (s : St) (bud : Budget) (remain : List Ref) (n wbw : Nat) (trunc : Option Ref)
      (lays : List ZipLayout) (t o : Nat) (zs : List ZipRec),
      remain.length * (remain.length + 1) + cut trunc remain + 1 ≤ fuel →
      (packLoop env nameOK tbl whole wsz fuel s bud remain n wbw trunc lays t o zs).outOfFuel = false
  | 0, _, _, _, _, _, _, _, _, _, _, h => absurd h (Nat.not_succ_le_zero _)
  | fuel + 1, s, bud, remain, n, wbw, trunc, lays, t, o, zs, h => by
    have hc := writeAZip_cases env nameOK tbl whole wsz s bud remain n wbw trunc lays.head?
    cases hre : remain.isEmpty with
    | true => cases hb : bud.take.1 <;> simp only [packLoop, hre, hb] <;> rfl
    | false =>
      cases hw : (writeAZip env nameOK tbl whole wsz s bud remain n wbw trunc lays.head?).1 with
      | fail s' bud' => simp only [packLoop, hre, hw]; rfl
      | retry tr =>
        simp only [packLoop, hre, hw]
        rw [hw] at hc
        obtain ⟨f, over, hf, hover, hwb⟩ := hc
        apply packLoop_terminates env hleg nameOK tbl whole wsz fuel
        -- the retry writes strictly fewer chunks
        obtain ⟨new, h1, h2, h3, _⟩ := fill_spec hf
        rw [List.nil_append] at h1
        have := cut_walkBack (h1 ▸ h2) hover hwb
        rw [h1] at this
        exact Nat.le_trans (Nat.add_le_add_left (Nat.le_of_lt (Nat.lt_of_lt_of_le this h3)) _) (Nat.le_of_succ_le_succ h)
      | stored s' bud' zr k len ds zsz =>
        simp only [packLoop, hre, hw]
        rw [hw] at hc
        obtain ⟨f, l, z, refs, rdy, _, _, _, rfl, _⟩ := hc
        apply packLoop_terminates env hleg nameOK tbl whole wsz fuel
        obtain ⟨new, h1, _, hkc, _⟩ := fill_spec rdy.fill
        rw [List.nil_append] at h1
        have hpos : 1 ≤ f.written.length := List.length_pos_iff.mpr (rdy.nonempty hleg)
        rw [← h1] at hkc
        have hcl := cut_le trunc remain
        have hc2 : cut none (remain.drop f.written.length) = remain.length - f.written.length := by simp [cut]
        rw [List.length_drop, hc2]
        exact Nat.le_trans (fuel_stored remain.length f.written.length (cut trunc remain) hpos (Nat.le_trans hkc hcl))
          (Nat.le_of_succ_le_succ h)

/-! ## nothing inside a zip has been removed -/

/-- every blob inside a zip of `large` is visible -/
def NR (s : St) : Prop := ∀ zr z, get s.large zr = some z → ∀ p ∈ zipBlobRows zr z, present s p.1 = true

theorem nr_iff_inSomeZip {s : St} (hk : KAsc s.large) :
    NR s ↔ ∀ x, inSomeZip s.large x = true → present s x = true := by
  constructor
  · intro h x hx
    obtain ⟨a, ha, hx⟩ := List.any_eq_true.mp hx
    obtain ⟨q, hq, e⟩ := List.any_eq_true.mp hx
    exact beq_iff_eq.mp e ▸ h a.1 a.2 (mem_get hk ha) q hq
  · intro h zr z hz p hp
    apply h
    exact List.any_eq_true.mpr ⟨(zr, z), get_some_mem hz, any_row_of_mem hp⟩

theorem nr_of_view {s s' : St} (h : NR s) (hl : s'.large = s.large) (v : SameView s s') : NR s' := by
  intro zr z hz p hp
  rw [v.pres]; rw [hl] at hz; exact h zr z hz p hp

theorem nr_putLarge {s : St} (hn : NR s) (zr : Ref) (z : Zip) (hfresh : collides s.large zr z = false)
    (hvis : ∀ x, (zipBlobRows zr z).any (fun p => p.1 == x) = true → present s x = true) : NR (putLarge s zr z) := by
  intro zr0 z0 hz0 p hp
  rw [present_putLarge]
  rcases get_putLarge_cases s zr z zr0 z0 hz0 with hold | rfl
  · exact hn zr0 z0 hold p hp
  · rw [get_putLarge_self s zr0 z hfresh] at hz0
    cases hz0
    exact hvis p.1 (any_row_of_mem hp)

theorem packFile_nr (env : PackEnv) (s : St) (bud : Budget) (fileRef : Ref)
    (lays : List ZipLayout) (fuel : Nat) (h : Inv C s) (hn : NR s) :
    NR (packFile env s bud fileRef lays fuel).s := by
  rcases packFile_cases env s bud fileRef lays fuel h with e | ⟨nameOK, tbl, W, ht, _, _, _, e⟩ <;> rw [e]
  · exact hn
  · refine packLoop_rule (C := C) env nameOK tbl (env.H W) W.length (fun s' _ _ => NR s') (fun s' _ _ => NR s')
      (fun _ hn' => hn') (fun _ hn' => nr_of_view hn' rfl (sameView_setWhole _ _ _ _)) ?_ ?_
      fuel s bud _ none lays 0 0 [] h ht hn
    · rintro s' _ _ _ _ f l z h' ht' hn' rdy
      exact nr_putLarge hn' l.ref z rdy.fresh (rdy.good h' ht').2.1
    · rintro s' _ zs _ _ f l z refs h' ht' hn' rdy hrefs
      have v1 := (rdy.sound_putLarge h' ht').2
      have v3 := (rdy.sound_stored h' ht' (sumLen zs) hrefs).2
      exact nr_of_view (nr_putLarge hn' l.ref z rdy.fresh (rdy.good h' ht').2.1) rfl (v1.symm.trans v3)

theorem receive_nr (env : PackEnv) (s : St) (bud : Budget) (r : Ref) (v : Bytes)
    (lays : List ZipLayout) (fuel : Nat) (h : Inv C s) (hv : v = C r) (hn : NR s) :
    NR (receive env s bud r v lays fuel).s := by
  have hput : NR (putSmall s r v) := by
    intro zr z hz p hp
    rw [present_putSmall, hn zr z hz p hp]; rfl
  rcases receive_cases env s bud r v lays fuel with ⟨e, _⟩ | ⟨_, e | ⟨bud', e⟩⟩ <;> rw [e]
  · exact hn
  · exact hput
  · exact packFile_nr (C := C) env _ bud' r lays fuel (inv_putSmall h r v hv) hput

/-! ## no `z:` row without its zip -/

structure ZInv (s : St) : Prop where
  kz : KAsc s.z
  klarge : KAsc s.large
  sub : ∀ k, (get s.z k).isSome = true → (get s.large k).isSome = true

theorem ZInv.congr {s s' : St} (h : ZInv s) (hz : s'.z = s.z) (hl : s'.large = s.large) : ZInv s' :=
  ⟨hz ▸ h.kz, hl ▸ h.klarge, by rw [hz, hl]; exact h.sub⟩

theorem zinv_empty : ZInv St.empty := ⟨kasc_nil, kasc_nil, fun k h => by simp [St.empty, SMap.get] at h⟩

/-! ### the walk finds no "extra" rows -/

/-- the `z:` keys still to be compared -/
def pending (iterate : Bool) (cur : Option Ref) (zs : List Ref) : List Ref :=
  if iterate then zs else (match cur with | some k => k :: zs | none => zs)

theorem mem_tail_of_lt {l x : Ref} {ls : List Ref} (hm : x ∈ l :: ls) (hlt : ltB l x = true) : x ∈ ls := by
  rcases List.mem_cons.mp hm with e | e
  · subst e; rw [ltB_irrefl] at hlt; cases hlt
  · exact e

theorem integWalk_no_extra : ∀ (fuel : Nat) (L : List Ref) (iterate : Bool) (cur : Option Ref) (zs : List Ref) (m : Nat),
    L.Pairwise (fun a b => ltB a b = true) → (pending iterate cur zs).Pairwise (fun a b => ltB a b = true) →
    (∀ k ∈ pending iterate cur zs, k ∈ L) → (iterate = false → cur.isSome = true) →
    (integWalk fuel L iterate cur zs m 0).2 = 0
  | 0, _, _, _, _, _, _, _, _, _ => rfl
  | _ + 1, [], _, _, _, _, _, _, _, _ => rfl
  | fuel + 1, l :: ls, iterate, cur, zs, m, hL, hP, hsub, hcur => by
    obtain ⟨hl, hls⟩ := List.pairwise_cons.mp hL
    have step : ∀ (k : Ref) (zs' : List Ref), (k :: zs').Pairwise (fun a b => ltB a b = true) →
        (∀ x ∈ k :: zs', x ∈ l :: ls) →
        (if k = l then integWalk fuel ls true (some k) zs' m 0
          else if ltB l k then integWalk fuel ls false (some k) zs' (m + 1) 0
          else integWalk fuel (l :: ls) true (some k) zs' m (0 + 1)).2 = 0 := by
      intro k zs' hkp hks
      obtain ⟨hk1, hk2⟩ := List.pairwise_cons.mp hkp
      by_cases e : k = l
      · simp only [e, if_true]
        apply integWalk_no_extra fuel ls true _ zs' m hls (by simpa [pending] using hk2) _ (fun hh => by cases hh)
        intro x hx
        simp only [pending, if_true] at hx
        exact mem_tail_of_lt (hks x (List.mem_cons_of_mem _ hx)) (e ▸ hk1 x hx)
      · by_cases hlt : ltB l k = true
        · simp only [e, hlt, if_false, if_true]
          apply integWalk_no_extra fuel ls false _ zs' (m + 1) hls (by simpa [pending] using hkp) _ (fun _ => rfl)
          intro x hx
          simp only [pending, Bool.false_eq_true, if_false, List.mem_cons] at hx
          rcases hx with rfl | hx
          · exact mem_tail_of_lt (hks _ (by simp)) hlt
          · exact mem_tail_of_lt (hks x (List.mem_cons_of_mem _ hx)) (ltB_trans _ _ _ hlt (hk1 x hx))
        · -- k < l is impossible: k is one of l :: ls, which ascends
          exfalso
          rcases List.mem_cons.mp (hks k (by simp)) with e' | e'
          · exact e e'
          · exact hlt (hl k e')
    unfold integWalk
    cases iterate with
    | true =>
      simp only [if_true]
      cases zs with
      | nil =>
        simp only
        exact integWalk_no_extra fuel ls true cur [] (m + 1) hls (by simp [pending]) (by simp [pending]) (fun hh => by cases hh)
      | cons k zs' =>
        simp only
        exact step k zs' (by simpa [pending] using hP) (by simpa [pending] using hsub)
    | false =>
      simp only [Bool.false_eq_true, if_false]
      have hc := hcur rfl
      cases cur with
      | none => cases hc
      | some k =>
        simp only
        exact step k zs (by simpa [pending] using hP) (by simpa [pending] using hsub)

theorem keys_pairwise {V : Type} {m : SMap V} (h : KAsc m) : (keys m).Pairwise (fun a b => ltB a b = true) := by
  simp only [keys, List.pairwise_map]; exact h

/-- **no `z:` row without its zip ⇒ the integrity check never asks for a full recovery** -/
theorem integrity_not_full (s : St) (h : ZInv s) : checkLargeIntegrity s ≠ .full := by
  unfold checkLargeIntegrity
  have h0 := integWalk_no_extra (s.large.length + s.z.length + 1) (keys s.large) true none (keys s.z) 0
    (keys_pairwise h.klarge) (by simpa [pending] using keys_pairwise h.kz)
    (by
      intro k hk
      simp only [pending, if_true] at hk
      exact (mem_keys_iff_get _ k).mpr (h.sub k ((mem_keys_iff_get _ k).mp hk)))
    (fun hh => by cases hh)
  cases hw : integWalk (s.large.length + s.z.length + 1) (keys s.large) true none (keys s.z) 0 0 with
  | mk m e =>
    rw [hw] at h0
    simp only at h0
    subst h0
    simp only [Nat.lt_irrefl, if_false]
    split <;> simp

/-! ### the invariant through a pack -/

theorem zinv_putLarge {s : St} (h : ZInv s) (zr : Ref) (z : Zip) : ZInv (putLarge s zr z) :=
  ⟨putLarge_z s zr z ▸ h.kz, kasc_putLarge h.klarge, fun k hk => by
    rw [putLarge_z] at hk
    have := h.sub k hk
    cases hg : get s.large k with
    | none => rw [hg] at this; cases this
    | some z0 => rw [get_putLarge_of_some s zr z k z0 hg]; rfl⟩

theorem zinv_commitZip {s : St} (h : ZInv s) {zr : Ref} {z : Zip} (w : Nat) (hz : get s.large zr = some z) :
    ZInv (commitZip s zr z w) :=
  ⟨kasc_ins _ _ h.kz, h.klarge, fun k hk => by
    simp only [commitZip, get_ins] at hk
    split at hk
    · rw [‹k = zr›]; show (get s.large zr).isSome = true; rw [hz]; rfl
    · exact h.sub k hk⟩

theorem packFile_zinv (env : PackEnv) (s : St) (bud : Budget) (fileRef : Ref)
    (lays : List ZipLayout) (fuel : Nat) (h : Inv C s) (hz : ZInv s) :
    ZInv (packFile env s bud fileRef lays fuel).s := by
  rcases packFile_cases env s bud fileRef lays fuel h with e | ⟨nameOK, tbl, W, ht, _, _, _, e⟩ <;> rw [e]
  · exact hz
  · refine packLoop_rule (C := C) env nameOK tbl (env.H W) W.length (fun s' _ _ => ZInv s') (fun s' _ _ => ZInv s')
      (fun _ hz' => hz') (fun _ hz' => hz'.congr rfl rfl) (fun _ _ hz' _ => zinv_putLarge hz' _ _) ?_
      fuel s bud _ none lays 0 0 [] h ht hz
    -- the zip is in `large` before its `z:` row is written
    rintro s' _ zs _ _ f l z refs _ _ hz' rdy _
    exact (zinv_commitZip (zinv_putLarge hz' l.ref z) (sumLen zs) (get_putLarge_self s' l.ref z rdy.fresh)).congr rfl rfl

theorem receive_zinv (env : PackEnv) (s : St) (bud : Budget) (r : Ref) (v : Bytes)
    (lays : List ZipLayout) (fuel : Nat) (h : Inv C s) (hv : v = C r) (hz : ZInv s) :
    ZInv (receive env s bud r v lays fuel).s := by
  have hput : ZInv (putSmall s r v) := hz.congr rfl rfl
  rcases receive_cases env s bud r v lays fuel with ⟨e, _⟩ | ⟨_, e | ⟨bud', e⟩⟩ <;> rw [e]
  · exact hz
  · exact hput
  · exact packFile_zinv (C := C) env _ bud' r lays fuel (inv_putSmall h r v hv) hput

theorem remove_zinv (c : Cfg) (s : St) (r : Ref) (hz : ZInv s) : ZInv (remove c s r) := by
  unfold remove
  split <;> exact hz.congr rfl rfl

end Pk.BP
